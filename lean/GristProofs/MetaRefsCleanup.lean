/-
C09: the clean-up updates of `doBulkRemoveRecord`.  `CleanRel` describes the document after the updates
for some of the specs; it is kept along the run (`cleanup_rel`), and resolution after the run and
after the removal is read off it.
-/
import GristProofs.MetaRefs
namespace Grist.Doc

def Col.isRefList (col : Col) : Bool := pureType col.info.type == "RefList"

/-- the updates for the specs `S` with target `t` clear column `c` of table `tid` -/
def clearsCol (S : List RefSpec) (t tid c : String) : Bool :=
  S.any (fun sp => sp.table == tid && sp.col == c && sp.target == t)

def ColRel (gone rows : List Nat) (b : Bool) (col colk : Col) : Prop :=
  colk.info = col.info ∧ ∀ r ∈ rows, colk.cells r =
    if b then cleanedCell (Col.isRefList col) gone (col.cells r) else col.cells r

def TblRel (S : List RefSpec) (t : String) (gone : List Nat) (tid : String) (tb tbk : Table) : Prop :=
  tbk.rows = tb.rows ∧
    ∀ c, ORel (ColRel gone tb.rows (clearsCol S t tid c)) (tb.findCol? c) (tbk.findCol? c)

/-- `dk` is `d` with the columns of the specs `S` (with target `t`) cleaned of `gone` -/
def CleanRel (S : List RefSpec) (t : String) (gone : List Nat) (d dk : Doc) : Prop :=
  ∀ tid, ORel (TblRel S t gone tid) (findTable? d tid) (findTable? dk tid)

theorem clearsCol_append (S : List RefSpec) (sp : RefSpec) (t tid c : String) :
    clearsCol (S ++ [sp]) t tid c =
      (clearsCol S t tid c || (sp.table == tid && sp.col == c && sp.target == t)) := by
  simp [clearsCol, List.any_append]

theorem isRefList_of_typed {sp : RefSpec} {col : Col}
    (h : pureType col.info.type = if sp.isList then "RefList" else "Ref") :
    col.isRefList = sp.isList := by
  unfold Col.isRefList
  cases hs : sp.isList with
  | true =>
    rw [hs, if_pos rfl] at h
    rw [h]
    decide +kernel
  | false =>
    rw [hs, if_neg Bool.false_ne_true] at h
    rw [h]
    decide +kernel

theorem cleanRel_refl (t : String) (gone : List Nat) (d : Doc) : CleanRel [] t gone d d := by
  intro tid
  apply ORel.refl'
  intro tb _
  refine ⟨rfl, fun c => ORel.refl' _ (fun col _ => ⟨rfl, fun r _ => ?_⟩)⟩
  simp [clearsCol]

theorem ORel.map_right {α β γ : Type} {R : α → β → Prop} {S : α → γ → Prop} {x : Option α}
    {y : Option β} {F : β → γ} (h : ORel R x y)
    (hRS : ∀ a b, x = some a → y = some b → R a b → S a (F b)) : ORel S x (y.map F) := by
  cases x with
  | none =>
    rw [h.left_none]
    trivial
  | some a =>
    obtain ⟨b, rfl, hab⟩ := h.left_some
    exact hRS a b rfl rfl hab

/-- `ORel.mono` for when the step from `R` to `S` needs to know the two sides -/
theorem ORel.imp {α β : Type} {R S : α → β → Prop} {x : Option α} {y : Option β} (h : ORel R x y)
    (hRS : ∀ a b, x = some a → y = some b → R a b → S a b) : ORel S x y :=
  Option.map_id' (x := y) ▸ h.map_right (F := fun b => b) hRS

/-- a spec that produces no update (other target, missing column, or nothing to clean) -/
theorem cleanRel_noop {S : List RefSpec} {sp : RefSpec} {t : String} {gone : List Nat} {d dk : Doc}
    (h : CleanRel S t gone d dk)
    (hno : sp.target = t → ∀ tb col, findTable? d sp.table = some tb → tb.findCol? sp.col = some col →
      ∀ r ∈ tb.rows, cleanedCell (Col.isRefList col) gone (col.cells r) = col.cells r) :
    CleanRel (S ++ [sp]) t gone d dk := by
  intro tid
  refine (h tid).imp fun tb tbk e1 _ ht => ⟨ht.1, fun c => ?_⟩
  refine (ht.2 c).imp fun col colk e2 _ hc => ⟨hc.1, fun r hr => ?_⟩
  rw [hc.2 r hr, clearsCol_append]
  by_cases hm : (sp.table == tid && sp.col == c && sp.target == t) = true
  · simp only [Bool.and_eq_true, beq_iff_eq] at hm
    obtain ⟨⟨rfl, rfl⟩, h3⟩ := hm
    simp [hno h3 tb col e1 e2 r hr]
  · rw [Bool.not_eq_true] at hm
    rw [hm, Bool.or_false]

/-- the update for spec `sp` (computed in `d`) applied to the partially cleaned `dk` -/
theorem cleanRel_step {S : List RefSpec} {sp : RefSpec} {t : String} {gone : List Nat}
    {d dk D : Doc} {U : List DocAction} {tb : Table} {col : Col}
    (hrel : CleanRel S t gone d dk) (hwfk : WF dk)
    (hft : findTable? d sp.table = some tb) (hfc : tb.findCol? sp.col = some col)
    (htgt : sp.target = t)
    (hty : pureType col.info.type = if sp.isList then "RefList" else "Ref") {rows : List Nat}
    (hmem : ∀ r ∈ tb.rows, (r ∈ rows ↔ cleanedCell sp.isList gone (col.cells r) ≠ col.cells r))
    (hp : Post dk (.bulkUpdate sp.table rows
      [(sp.col, rows.map (fun r => cleanedCell sp.isList gone (col.cells r)))]) D U) :
    CleanRel (S ++ [sp]) t gone d D ∧ WF D := by
  refine ⟨?_, (post_WF_Normal hwfk (by trivial) (by trivial) hp).1⟩
  obtain ⟨tbk, tbk', hfk, _, _, hw, rfl, _⟩ := hp
  rw [writeCols_ok_iff (hwfk.table hfk).1] at hw
  obtain ⟨_, rfl⟩ := hw
  have hidk := (findTable?_some hfk).1
  intro tid
  by_cases htid : tid = sp.table
  · subst htid
    have hrel_t := hrel sp.table
    rw [hft, hfk] at hrel_t
    rw [hft, findTable?_replaceTable_self (tb := tbk.written rows _) hidk hfk]
    refine ⟨hrel_t.1, fun c => ?_⟩
    rw [Table.findCol?_written]
    refine (hrel_t.2 c).map_right fun colc colk e2 e2' hc => ⟨hc.1, fun r hr => ?_⟩
    have hidc := (findCol?_some e2').1
    show writeCells _ _ _ _ _ r = _
    by_cases hcc : c = sp.col
    · -- the column of `sp`: the rows of the update get the cleaned value, the others have it
      subst hcc
      rw [hfc] at e2
      cases e2
      rw [show clearsCol (S ++ [sp]) t sp.table sp.col = true by rw [clearsCol_append]; simp [htgt],
        if_pos rfl, isRefList_of_typed hty]
      by_cases hrr : r ∈ rows
      · rw [writeCells_const _ _ _ (fun r => cleanedCell sp.isList gone (col.cells r)) hrr, hc.1]
        · exact colSet_cleanedCell hty ((hmem r hr).1 hrr)
        · intro cv hcv _
          rw [List.mem_singleton.1 hcv]
        · exact .inl ⟨_, List.mem_singleton.2 rfl, hidc.symm⟩
      · rw [writeCells_not_mem _ _ _ hrr, hc.2 r hr, isRefList_of_typed hty,
          Classical.not_not.1 (mt (hmem r hr).2 hrr), ite_self]
    · rw [writeCells_no_key, hc.2 r hr, clearsCol_append]
      · have : (sp.col == c) = false := beq_false_of_ne fun h => hcc h.symm
        rw [this, Bool.and_false, Bool.false_and, Bool.or_false]
      · intro cv hcv hk
        rw [List.mem_singleton.1 hcv] at hk
        exact hcc (hidc.symm.trans hk.symm)
  · rw [findTable?_replaceTable_ne (tb := tbk.written rows _) hidk htid]
    refine (hrel tid).mono fun a b hab => ⟨hab.1, fun c => ?_⟩
    have : (sp.table == tid) = false := beq_false_of_ne fun h => htid h.symm
    rw [clearsCol_append, this, Bool.false_and, Bool.false_and, Bool.or_false]
    exact hab.2 c

def cleanupAct (d : Doc) (gone : List Nat) (sp : RefSpec) : Option DocAction :=
  match findTable? d sp.table with
  | some tb =>
    match tb.findCol? sp.col with
    | some col =>
      let rows := tb.rows.filter (fun r => cleanedCell sp.isList gone (col.cells r) != col.cells r)
      if rows.isEmpty then none
      else some (.bulkUpdate sp.table rows
        [(sp.col, rows.map (fun r => cleanedCell sp.isList gone (col.cells r)))])
    | none => none
  | none => none

theorem cleanupUpdates_eq (d : Doc) (specs : List RefSpec) (t : String) (gone : List Nat) :
    cleanupUpdates d specs t gone =
      (specs.filter (fun sp => sp.target == t)).filterMap (cleanupAct d gone) := rfl

theorem cleanupUpdates_cons (d : Doc) (sp : RefSpec) (rest : List RefSpec) (t : String)
    (gone : List Nat) :
    cleanupUpdates d (sp :: rest) t gone =
      (if sp.target == t then (cleanupAct d gone sp).toList else []) ++
        cleanupUpdates d rest t gone := by
  simp only [cleanupUpdates_eq, List.filter_cons]
  by_cases h : (sp.target == t) = true
  · simp only [h, ↓reduceIte, List.filterMap_cons]
    cases cleanupAct d gone sp <;> simp
  · simp [h]

theorem cleanupAct_cases (d : Doc) (gone : List Nat) (sp : RefSpec) :
    (cleanupAct d gone sp = none ∧ ∀ tb col, findTable? d sp.table = some tb →
      tb.findCol? sp.col = some col →
        ∀ r ∈ tb.rows, cleanedCell sp.isList gone (col.cells r) = col.cells r) ∨
    ∃ tb col rows, findTable? d sp.table = some tb ∧ tb.findCol? sp.col = some col ∧
      (∀ r ∈ tb.rows, (r ∈ rows ↔ cleanedCell sp.isList gone (col.cells r) ≠ col.cells r)) ∧
      cleanupAct d gone sp = some (.bulkUpdate sp.table rows
        [(sp.col, rows.map (fun r => cleanedCell sp.isList gone (col.cells r)))]) := by
  unfold cleanupAct
  cases hft : findTable? d sp.table with
  | none => exact .inl ⟨rfl, fun _ _ h => by cases h⟩
  | some tb =>
    cases hfc : tb.findCol? sp.col with
    | none =>
      refine .inl ⟨by simp only [hfc], fun tb' col h h' => ?_⟩
      cases h
      rw [hfc] at h'
      cases h'
    | some col =>
      simp only [hfc]
      by_cases he : (tb.rows.filter (fun r => cleanedCell sp.isList gone (col.cells r) !=
          col.cells r)).isEmpty = true
      · refine .inl ⟨if_pos he, fun tb' col' h h' r hr => ?_⟩
        cases h
        rw [hfc] at h'
        cases h'
        rw [List.isEmpty_iff, List.filter_eq_nil_iff] at he
        simpa using he r hr
      · refine .inr ⟨tb, col, _, rfl, hfc, fun r hr => ?_, if_neg he⟩
        rw [List.mem_filter, bne_iff_ne]
        exact and_iff_right hr

theorem cleanup_rel {d : Doc} {t : String} {gone : List Nat} :
    ∀ (rest S : List RefSpec) (dk d1 : Doc), SpecTyped d rest → CleanRel S t gone d dk → WF dk →
      applyAll dk (cleanupUpdates d rest t gone) = .ok d1 →
      CleanRel (S ++ rest) t gone d d1 ∧ WF d1 := by
  intro rest
  induction rest with
  | nil =>
    intro S dk d1 _ hrel hwf h
    cases h
    rw [List.append_nil]
    exact ⟨hrel, hwf⟩
  | cons sp rest ih =>
    intro S dk d1 hty hrel hwf h
    rw [cleanupUpdates_cons] at h
    rw [List.append_cons]
    have hty_sp := hty sp List.mem_cons_self
    have hty_rest : SpecTyped d rest := fun x hx => hty x (List.mem_cons_of_mem _ hx)
    by_cases htg : sp.target = t
    · rw [beq_iff_eq.2 htg, if_pos rfl] at h
      rcases cleanupAct_cases d gone sp with ⟨hact, hno⟩ | ⟨tb, col, rows, hft, hfc, hmem, hact⟩
      · rw [hact] at h
        refine ih (S ++ [sp]) dk d1 hty_rest (cleanRel_noop hrel fun _ tb col hft hfc r hr => ?_) hwf h
        rw [isRefList_of_typed (hty_sp tb col hft hfc)]
        exact hno tb col hft hfc r hr
      · rw [hact] at h
        obtain ⟨D, U, hp, hrest⟩ := applyAll_cons_ok h
        obtain ⟨hrel', hwf'⟩ := cleanRel_step hrel hwf hft hfc htg (hty_sp tb col hft hfc) hmem hp
        exact ih (S ++ [sp]) D d1 hty_rest hrel' hwf' hrest
    · rw [beq_false_of_ne htg, if_neg Bool.false_ne_true] at h
      exact ih (S ++ [sp]) dk d1 hty_rest (cleanRel_noop hrel (fun h' => absurd h' htg)) hwf h

theorem cleaned_resolves {d d1 : Doc} {specs : List RefSpec} {t : String}
    {gone : List Nat} (hrt : ∀ sp ∈ specs, sp.isList = true → RefListRoundTrip)
    (hty : SpecTyped d specs) (hrel : CleanRel specs t gone d d1)
    (hres : refsResolve d specs = true) :
    refsResolve d1 specs = true ∧ NoRefsTo d1 specs t gone := by
  rw [refsResolve_iff] at hres ⊢
  -- a listed cell of `d1` refers to rows its cell in `d` refers to, and not to `gone` once cleaned
  have key : ∀ sp ∈ specs, ∀ tb1 col1, findTable? d1 sp.table = some tb1 →
      tb1.findCol? sp.col = some col1 → ∃ tb col, findTable? d sp.table = some tb ∧
        tb.findCol? sp.col = some col ∧ tb1.rows = tb.rows ∧ ∀ r ∈ tb.rows, ∀ l1,
          cellRefs sp.isList (col1.cells r) = some l1 → ∃ l,
            cellRefs sp.isList (col.cells r) = some l ∧ (∀ k ∈ l1, k ∈ l) ∧
              (clearsCol specs t sp.table sp.col = true → ∀ k ∈ l1, k ∉ gone) := by
    intro sp hsp tb1 col1 hf1 hc1
    have h1 := hrel sp.table
    rw [hf1] at h1
    obtain ⟨tb, hft, hrows, hcols⟩ := h1.right_some
    have h2 := hcols sp.col
    rw [hc1] at h2
    obtain ⟨col, hfc, _, hcells⟩ := h2.right_some
    refine ⟨tb, col, hft, hfc, hrows, fun r hr l1 hl1 => ?_⟩
    rw [hcells r hr, isRefList_of_typed (hty sp hsp tb col hft hfc)] at hl1
    cases hp : clearsCol specs t sp.table sp.col with
    | false =>
      rw [hp, if_neg Bool.false_ne_true] at hl1
      exact ⟨l1, hl1, fun _ h => h, fun h => absurd h Bool.false_ne_true⟩
    | true =>
      rw [hp, if_pos rfl, cleanedCell_refs_of _ (hrt sp hsp)] at hl1
      obtain ⟨l, hl, rfl⟩ := Option.map_eq_some_iff.1 hl1
      exact ⟨l, hl, fun k hk => (List.mem_filter.1 hk).1,
        fun _ k hk => by simpa using (List.mem_filter.1 hk).2⟩
  constructor
  · intro sp hsp
    rw [specHolds_iff]
    intro tb1 tt1 col1 hf1 hft1 hc1 r hr l1 hl1 k hk
    obtain ⟨tb, col, hft, hfc, hrows, hcells⟩ := key sp hsp tb1 col1 hf1 hc1
    have h3 := hrel sp.target
    rw [hft1] at h3
    obtain ⟨tt, hftt, hrowst, _⟩ := h3.right_some
    rw [hrows] at hr
    obtain ⟨l, hl, hsub, _⟩ := hcells r hr l1 hl1
    rw [hrowst]
    exact specHolds_iff.1 (hres sp hsp) tb tt col hft hftt hfc r hr l hl k (hsub k hk)
  · intro sp hsp htg tb1 col1 hf1 hc1 r hr l1 hl1 k hk
    obtain ⟨tb, col, hft, hfc, hrows, hcells⟩ := key sp hsp tb1 col1 hf1 hc1
    rw [hrows] at hr
    obtain ⟨l, hl, _, hg⟩ := hcells r hr l1 hl1
    exact hg (List.any_eq_true.2 ⟨sp, hsp, by simp [htg]⟩) k hk

theorem after_remove {d1 D : Doc} {U : List DocAction} {t : String} {gone : List Nat}
    (hp : Post d1 (.bulkRemove t gone) D U) {tid : String} {tbD : Table}
    (hfD : findTable? D tid = some tbD) :
    ∃ tb1, findTable? d1 tid = some tb1 ∧ (∀ r ∈ tbD.rows, r ∈ tb1.rows) ∧
      (∀ k ∈ tb1.rows, (tid = t → k ∉ gone) → k ∈ tbD.rows) ∧
      ∀ c colD, tbD.findCol? c = some colD → ∃ col1, tb1.findCol? c = some col1 ∧
        ∀ r ∈ tbD.rows, colD.cells r = col1.cells r := by
  obtain ⟨tbt, hft, ⟨_, rfl, _⟩ | ⟨_, rfl, _⟩⟩ := hp
  · exact ⟨tbD, hfD, fun _ h => h, fun _ h _ => h, fun c colD hc => ⟨colD, hc, fun _ _ => rfl⟩⟩
  · have hid := (findTable?_some hft).1
    by_cases htid : tid = t
    · subst htid
      rw [findTable?_replaceTable_self (tb := tbt.removeRows _) hid hft] at hfD
      cases hfD
      refine ⟨tbt, hft, fun r hr => (List.mem_filter.1 hr).1, ?_, ?_⟩
      · intro k hk hg
        show k ∈ tbt.rows.filter (fun r => !(gone.filter (fun r => tbt.rows.contains r)).contains r)
        rw [mem_filter_not_contains]
        exact ⟨hk, fun h => hg rfl (List.mem_filter.1 h).1⟩
      · intro c colD hc
        have hfc : (tbt.removeRows (gone.filter (fun r => tbt.rows.contains r))).findCol? c =
            (tbt.findCol? c).map (Col.unsetRows (gone.filter (fun r => tbt.rows.contains r))) :=
          find_key_map Col.id _ (fun _ => rfl)
        rw [hfc] at hc
        cases e : tbt.findCol? c with
        | none =>
          rw [e] at hc
          cases hc
        | some col1 =>
          rw [e] at hc
          simp only [Option.map_some, Option.some.injEq] at hc
          subst hc
          refine ⟨col1, rfl, fun r hr => ?_⟩
          have hr' : r ∉ gone.filter (fun r => tbt.rows.contains r) :=
            (mem_filter_not_contains.1 hr).2
          simp only [Col.unsetRows]
          have : (gone.filter (fun r => tbt.rows.contains r)).contains r = false := by
            rw [Bool.eq_false_iff]
            intro h
            exact hr' (List.contains_iff_mem.1 h)
          simp only [this, Bool.false_eq_true, ↓reduceIte]
    · rw [findTable?_replaceTable_ne (tb := tbt.removeRows _) hid htid] at hfD
      exact ⟨tbD, hfD, fun _ h => h, fun _ h _ => h, fun c colD hc => ⟨colD, hc, fun _ _ => rfl⟩⟩

theorem bulkRemove_resolves {d1 D : Doc} {U : List DocAction} {specs : List RefSpec} {t : String}
    {gone : List Nat} (hres : refsResolve d1 specs = true) (hno : NoRefsTo d1 specs t gone)
    (hp : Post d1 (.bulkRemove t gone) D U) :
    refsResolve D specs = true ∧ NoRefsTo D specs t gone := by
  rw [refsResolve_iff] at hres ⊢
  constructor
  · intro sp hsp
    rw [specHolds_iff]
    intro tbD ttD colD hfD hftD hcD r hr l hl k hk
    obtain ⟨tb1, hf1, hsub, _, hcols⟩ := after_remove hp hfD
    obtain ⟨tt1, hft1, _, hback, _⟩ := after_remove hp hftD
    obtain ⟨col1, hc1, hcells⟩ := hcols sp.col colD hcD
    rw [hcells r hr] at hl
    have hk1 := specHolds_iff.1 (hres sp hsp) tb1 tt1 col1 hf1 hft1 hc1 r (hsub r hr) l hl k hk
    exact hback k hk1 (fun htg => hno sp hsp htg tb1 col1 hf1 hc1 r (hsub r hr) l hl k hk)
  · intro sp hsp htg tbD colD hfD hcD r hr l hl k hk
    obtain ⟨tb1, hf1, hsub, _, hcols⟩ := after_remove hp hfD
    obtain ⟨col1, hc1, hcells⟩ := hcols sp.col colD hcD
    rw [hcells r hr] at hl
    exact hno sp hsp htg tb1 col1 hf1 hc1 r (hsub r hr) l hl k hk

theorem cleanup_then_remove_post {d d1 D : Doc} {U : List DocAction} {specs : List RefSpec}
    {t : String} {gone : List Nat} (hrt : RefListRoundTrip ∨ ∀ sp ∈ specs, sp.isList = false)
    (hwf : WF d) (hty : SpecTyped d specs) (hres : refsResolve d specs = true)
    (h1 : applyAll d (cleanupUpdates d specs t gone) = .ok d1)
    (hp : Post d1 (.bulkRemove t gone) D U) :
    (refsResolve d1 specs = true ∧ NoRefsTo d1 specs t gone ∧ WF d1) ∧
    (refsResolve D specs = true ∧ NoRefsTo D specs t gone) := by
  obtain ⟨hrel, hwf1⟩ := cleanup_rel specs [] d d1 hty (cleanRel_refl t gone d) hwf h1
  rw [List.nil_append] at hrel
  obtain ⟨hr1, hn1⟩ := cleaned_resolves
    (fun sp hsp hs => hrt.elim id fun h => absurd hs (by rw [h sp hsp]; decide)) hty hrel hres
  exact ⟨⟨hr1, hn1, hwf1⟩, bulkRemove_resolves hr1 hn1 hp⟩

end Grist.Doc
