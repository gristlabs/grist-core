/-
Proofs for C19 (sandbox/grist/codebuilder.py).  Defines what statements of GristProps/C19.lean are
written in (`joinNl`, `nonBlank`, `indentLine`, `physLines`, `NoTerm`, `StartsHash`, `IsCommentLine`, `Documented`,
`BodyShape`); proves what `_indent` produces and that the stub is comment lines plus one line.
-/
import GristModel.Codebuilder
import GristProofs.Textbuilder
namespace Grist.Codebuilder
open Grist.Textbuilder

/-! ## Specification vocabulary -/

/-- Lines joined with '\n' (inverse of `splitNl`). -/
def joinNl : List Str → Str
  | [] => []
  | [l] => l
  | l :: l2 :: ls => l ++ '\n' :: joinNl (l2 :: ls)

/-- A line "contains a non-whitespace character" (`(?=.*\S)`). -/
def nonBlank (l : Str) : Bool := l.any (fun c => !pyIsSpace c)

/-- What `_indent` is documented to do with one line. -/
def indentLine (indent l : Str) : Str := if nonBlank l then indent ++ l else l

/-- Python's physical lines: the text split at '\n', '\r\n' and lone '\r' (what the tokenizer
    treats as line ends).  `afterCR`: the previous character was a '\r' (which already closed its
    line, so a '\n' right after it does not start another one). -/
def physLinesGo : Bool → Str → List Str
  | _, [] => [[]]
  | afterCR, c :: cs =>
    if c = '\n' then (if afterCR then physLinesGo false cs else [] :: physLinesGo false cs)
    else if c = '\r' then [] :: physLinesGo true cs
    else
      match physLinesGo false cs with
      | l :: ls => (c :: l) :: ls
      | [] => [[c]]

def physLines (s : Str) : List Str := physLinesGo false s

/-- No line terminator (of Python's tokenizer) occurs in the text. -/
def NoTerm (s : Str) : Prop := ∀ c ∈ s, c ≠ '\n' ∧ c ≠ '\r'

/-- The line starts with "# ". -/
def StartsHash (l : Str) : Prop := ∃ t, l = '#' :: ' ' :: t

/-- The line is a comment: optional spaces, then '#'. -/
def IsCommentLine (l : Str) : Prop := ∃ (k : Nat) (t : Str), l = List.replicate k ' ' ++ '#' :: t

/-- The only kinds of patches `_do_make_formula_body` applies to the (dedented) formula. -/
inductive Documented (formula : Str) : Patch → Prop
  | dollar (i : Int) : dollarMatchAt formula i = true →
      Documented formula (patchAt formula i (i + 1) (lit "rec."))
  | lazyOpen (i : Int) : Documented formula (patchAt formula i i (lit "lambda: ("))
  | lazyClose (i : Int) : Documented formula (patchAt formula i i (lit ")"))
  | ret (i : Int) : Documented formula (patchAt formula i i (lit "return "))
  | pass : Documented formula (patchAt formula formula.length formula.length (lit "\npass"))

/-- What `_do_make_formula_body` can return. -/
inductive BodyShape (facts : Facts) (f : Str) (assoc : Nat) : Body → Prop
  | blank : (strip f).isEmpty = true → BodyShape facts f assoc ⟨.text (lit "return " ++ facts.reprDefault) assoc, false⟩
  | stub (code : Str) (mapOff : Int → Except CErr Int) (bt formula : Str) (err : SynErr) :
      getText (dedent (.text f assoc) f) = .ok formula →
      createSyntaxErrorCode mapOff bt formula facts.lineReprs err = .ok code →
      BodyShape facts f assoc ⟨.text code 0, false⟩
  | edited (formula : Str) (patches : List Patch) (ml : Bool) :
      getText (dedent (.text f assoc) f) = .ok formula →
      (∀ q ∈ patches, Documented formula q) →
      BodyShape facts f assoc ⟨.replacer (dedent (.text f assoc) f) patches, ml⟩

/-- The kernel reads a literal as `String.ofList [chars]`; `lit` of it would be UTF-8 encoded and decoded. -/
theorem eq_lit {l : Str} {s : String} (h : String.ofList l = s) : l = lit s := by
  subst h
  simp [lit]

/-! ## splitNl / joinNl -/

theorem splitNl_ne_nil : ∀ (s : Str), splitNl s ≠ [] := by
  intro s
  cases s with
  | nil => simp [splitNl]
  | cons c cs =>
    simp only [splitNl]
    split
    · simp
    · split <;> simp

theorem joinNl_cons_ne (l : Str) (ls : List Str) (h : ls ≠ []) :
    joinNl (l :: ls) = l ++ '\n' :: joinNl ls := by
  cases ls with
  | nil => exact absurd rfl h
  | cons a b => rfl

theorem joinNl_splitNl : ∀ (s : Str), joinNl (splitNl s) = s := by
  intro s
  induction s with
  | nil => rfl
  | cons c cs ih =>
    simp only [splitNl]
    have hne := splitNl_ne_nil cs
    cases h : splitNl cs with
    | nil => exact absurd h hne
    | cons l ls =>
      rw [h] at ih
      simp only
      by_cases hc : c = '\n'
      · simp only [hc, if_true]
        rw [joinNl_cons_ne [] (l :: ls) (by simp), ih]
        simp
      · simp only [hc, if_false]
        cases ls with
        | nil =>
          simp only [joinNl] at ih ⊢
          rw [ih]
        | cons a b =>
          simp only [joinNl] at ih ⊢
          rw [← ih]
          simp

theorem splitNl_no_nl : ∀ (s : Str), ∀ l ∈ splitNl s, '\n' ∉ l := by
  intro s
  induction s with
  | nil =>
    intro l hl
    rw [List.mem_singleton.mp hl]
    exact List.not_mem_nil
  | cons c cs ih =>
    intro l hl
    simp only [splitNl] at hl
    have hne := splitNl_ne_nil cs
    cases h : splitNl cs with
    | nil => exact absurd h hne
    | cons a b =>
      rw [h] at hl ih
      simp only at hl
      by_cases hc : c = '\n'
      · simp only [hc, if_true, List.mem_cons] at hl
        rcases hl with rfl | hl
        · simp
        · exact ih l (by simpa using hl)
      · simp only [hc, if_false, List.mem_cons] at hl
        rcases hl with rfl | hl
        · have := ih a (by simp)
          simp only [List.mem_cons, not_or]
          exact ⟨fun h => hc h.symm, this⟩
        · exact ih l (by simp [hl])

/-! ## `_indent` -/

theorem slice_self (t : Str) (a : Nat) : slice t a a = [] := by
  rw [slice_nat]
  exact List.drop_eq_nil_of_le (List.length_take_le ..)

theorem linePatches_ge (indent : Str) : ∀ (lines : List Str) (off : Nat),
    ∀ q ∈ linePatches indent off lines, (off : Int) ≤ q.start ∧ q.end_ = q.start ∧ q.oldText = [] ∧
      q.newText = indent := by
  intro lines
  induction lines with
  | nil =>
    intro off q hq
    simp [linePatches] at hq
  | cons l ls ih =>
    intro off q hq
    simp only [linePatches, List.mem_append] at hq
    rcases hq with hq | hq
    · split at hq
      · simp only [List.mem_singleton] at hq
        subst hq
        simp
      · simp at hq
    · obtain ⟨h1, h2⟩ := ih _ q hq
      exact ⟨by omega, h2⟩

theorem linePatches_cons (indent : Str) (off : Nat) (l : Str) (ls : List Str) :
    linePatches indent off (l :: ls) =
      (if nonBlank l = true then [(⟨off, off, [], indent⟩ : Patch)] else []) ++
        linePatches indent (off + l.length + 1) ls := rfl

/-- The text `t` stays fixed through the induction; `pre` grows by a line. -/
theorem buildFrom_linePatches (indent t : Str) : ∀ (lines : List Str) (pre : Str), lines ≠ [] →
    t = pre ++ joinNl lines →
    buildFrom t (pre.length : Nat) (linePatches indent pre.length lines)
      = joinNl (lines.map (indentLine indent)) := by
  intro lines
  induction lines with
  | nil =>
    intro pre h
    exact absurd rfl h
  | cons l ls ih =>
    intro pre _ ht
    rw [linePatches_cons]
    -- the insertion in front of `l`, if any, gives `indentLine`
    have hins : ∀ P R, buildFrom t (pre.length : Nat) P = l ++ R →
        buildFrom t (pre.length : Nat)
          ((if nonBlank l = true then [(⟨pre.length, pre.length, [], indent⟩ : Patch)] else []) ++ P)
          = indentLine indent l ++ R := by
      intro P R hP
      unfold indentLine
      split
      · simp only [List.singleton_append, buildFrom]
        rw [slice_self, hP, List.nil_append, List.append_assoc]
      · exact hP
    cases ls with
    | nil =>
      refine (hins _ [] ?_).trans (List.append_nil _)
      show sliceFrom t _ = _
      rw [ht, sliceFrom_nat, List.drop_left, List.append_nil]
      rfl
    | cons l2 rest =>
      refine hins _ ('\n' :: joinNl ((l2 :: rest).map (indentLine indent))) ?_
      have hlen : (pre ++ (l ++ ['\n'])).length = pre.length + l.length + 1 := by
        simp only [List.length_append, List.length_singleton, Nat.add_assoc]
      have ht' : t = pre ++ (l ++ ['\n']) ++ joinNl (l2 :: rest) := by
        rw [ht]
        simp only [joinNl, List.append_assoc, List.singleton_append]
      rw [← hlen, buildFrom_skip t _ _ (Int.natCast_nonneg _) (by omega) _
        (fun q hq => (linePatches_ge indent _ _ q hq).1), ih _ (List.cons_ne_nil _ _) ht']
      conv => lhs; arg 1; rw [ht', slice_exact]
      simp only [List.append_assoc, List.singleton_append]

theorem linePatches_sorted (indent : Str) : ∀ (lines : List Str) (off : Nat),
    (linePatches indent off lines).Pairwise (fun p q => p.start < q.start) := by
  intro lines
  induction lines with
  | nil =>
    intro off
    simp [linePatches]
  | cons l ls ih =>
    intro off
    simp only [linePatches]
    apply List.pairwise_append.mpr
    refine ⟨?_, ih _, ?_⟩
    · split <;> simp
    · intro p hp q hq
      split at hp
      · simp only [List.mem_singleton] at hp
        subst hp
        have := (linePatches_ge indent ls _ q hq).1
        simp only
        omega
      · simp at hp

theorem indent_text (text indent : Str) :
    replacerBuild text (indentPatches text indent) = .ok (tablesOf text (indentPatches text indent)) ∧
    (tablesOf text (indentPatches text indent)).outText
      = joinNl ((splitNl text).map (indentLine indent)) := by
  have hsorted : sortPatches (indentPatches text indent) = indentPatches text indent :=
    sortPatches_eq_of_perm (linePatches_sorted indent _ 0) (List.Perm.refl _)
  have hvalid : ∀ p ∈ indentPatches text indent, slice text p.start p.end_ = p.oldText := by
    intro p hp
    obtain ⟨h0, h1, h2, _⟩ := linePatches_ge indent _ 0 p hp
    obtain ⟨s, hs⟩ := Int.eq_ofNat_of_zero_le (by omega : 0 ≤ p.start)
    rw [h1, h2, hs, slice_self]
  refine ⟨by rw [replacerBuild_ok text _ hvalid, hsorted], ?_⟩
  exact (rLoop_out text _ RState.init).trans
    (buildFrom_linePatches indent text (splitNl text) [] (splitNl_ne_nil text) (joinNl_splitNl text).symm)

/-! ## Physical lines and the comment stub -/

theorem physLinesGo_ne_nil : ∀ (s : Str) (b : Bool), physLinesGo b s ≠ [] := by
  intro s
  induction s with
  | nil =>
    intro b
    simp [physLinesGo]
  | cons c cs ih =>
    intro b
    simp only [physLinesGo]
    split
    · split
      · exact ih false
      · simp
    · split
      · simp
      · split <;> simp

theorem physLinesGo_plain (b : Bool) (c : Char) (hn : c ≠ '\n') (hr : c ≠ '\r') (X f : Str) (r : List Str)
    (h : physLinesGo false X = f :: r) : physLinesGo b (c :: X) = (c :: f) :: r := by
  simp only [physLinesGo, hn, hr, if_false, h]

theorem physLinesGo_noTerm : ∀ (T : Str), NoTerm T → ∀ b, physLinesGo b T = [T] := by
  intro T
  induction T with
  | nil =>
    intro _ b
    simp [physLinesGo]
  | cons c cs ih =>
    intro h b
    have hc := h c (by simp)
    have := ih (fun x hx => h x (by simp [hx])) false
    exact physLinesGo_plain b c hc.1 hc.2 cs cs [] this

theorem physLinesGo_nl_false (X : Str) : physLinesGo false ('\n' :: X) = [] :: physLinesGo false X := by
  simp [physLinesGo]

theorem physLinesGo_nl_true (X : Str) : physLinesGo true ('\n' :: X) = physLinesGo false X := by
  simp [physLinesGo]

theorem physLinesGo_cr (b : Bool) (X : Str) : physLinesGo b ('\r' :: X) = [] :: physLinesGo true X := by
  simp [physLinesGo]

theorem commentizeGo_nl (cs : Str) : commentizeGo ('\n' :: cs) = '\n' :: '#' :: ' ' :: commentizeGo cs := by
  simp [commentizeGo]

theorem commentizeGo_crnl (ds : Str) : commentizeGo ('\r' :: '\n' :: ds) = '\r' :: commentizeGo ('\n' :: ds) := by
  simp [commentizeGo]

theorem commentizeGo_cr (cs : Str) (h : ∀ tail, cs = '\n' :: tail → False) :
    commentizeGo ('\r' :: cs) = '\r' :: '#' :: ' ' :: commentizeGo cs := by
  rw [commentizeGo]
  · simp
  · exact h

theorem commentizeGo_plain (c : Char) (cs : Str) (hn : c ≠ '\n') (hr : c ≠ '\r') :
    commentizeGo (c :: cs) = c :: commentizeGo cs := by
  simp [commentizeGo, hn, hr]

theorem physLinesGo_append_line (T : Str) (hT : NoTerm T) : ∀ (A : Str) (b : Bool),
    ∃ ls, physLinesGo b (A ++ '\n' :: T) = ls ++ [T] ∧ ls <+: physLinesGo b A ∧ (b = false → ls ≠ []) := by
  intro A
  induction A with
  | nil =>
    intro b
    have hT' := physLinesGo_noTerm T hT false
    cases b with
    | true => exact ⟨[], by rw [List.nil_append, physLinesGo_nl_true, hT']; rfl, by simp, by simp⟩
    | false =>
      exact ⟨[[]], by rw [List.nil_append, physLinesGo_nl_false, hT']; rfl, by simp [physLinesGo], by simp⟩
  | cons c cs ih =>
    intro b
    by_cases hn : c = '\n'
    · subst hn
      cases b with
      | true =>
        obtain ⟨ls, h1, h2, h3⟩ := ih false
        exact ⟨ls, by rw [List.cons_append, physLinesGo_nl_true, h1], by rw [physLinesGo_nl_true]; exact h2, by simp⟩
      | false =>
        obtain ⟨ls, h1, h2, _⟩ := ih false
        refine ⟨[] :: ls, by rw [List.cons_append, physLinesGo_nl_false, h1]; rfl, ?_, by simp⟩
        rw [physLinesGo_nl_false]
        exact List.cons_prefix_cons.mpr ⟨rfl, h2⟩
    · by_cases hcr : c = '\r'
      · subst hcr
        obtain ⟨ls, h1, h2, _⟩ := ih true
        refine ⟨[] :: ls, by rw [List.cons_append, physLinesGo_cr, h1]; rfl, ?_, by simp⟩
        rw [physLinesGo_cr]
        exact List.cons_prefix_cons.mpr ⟨rfl, h2⟩
      · obtain ⟨ls, h1, h2, h3⟩ := ih false
        have hne := h3 rfl
        cases ls with
        | nil => exact absurd rfl hne
        | cons l0 ls' =>
          obtain ⟨t, ht⟩ := h2
          have hcs : physLinesGo false cs = l0 :: (ls' ++ t) := by
            rw [← ht]
            simp
          refine ⟨(c :: l0) :: ls', ?_, ?_, by simp⟩
          · have hx : physLinesGo false (cs ++ '\n' :: T) = l0 :: (ls' ++ [T]) := by
              rw [h1]
              simp
            rw [List.cons_append, physLinesGo_plain b c hn hcr (cs ++ '\n' :: T) l0 (ls' ++ [T]) hx]
            simp
          · rw [physLinesGo_plain b c hn hcr cs l0 (ls' ++ t) hcs]
            exact ⟨t, by simp⟩

/-! ## Decimal rendering has no line terminators -/

theorem isDigit_noTerm (c : Char) (h : c.isDigit = true) : c ≠ '\n' ∧ c ≠ '\r' := by
  constructor
  · rintro rfl
    exact absurd h (by decide)
  · rintro rfl
    exact absurd h (by decide)

theorem digitsGo_chars : ∀ (fuel n : Nat) (acc : Str), ∀ c ∈ digitsGo fuel n acc, c ∈ acc ∨ c.isDigit = true := by
  intro fuel
  induction fuel with
  | zero =>
    intro n acc c hc
    exact Or.inl hc
  | succ f ih =>
    intro n acc c hc
    simp only [digitsGo] at hc
    have hd : ((n % 10).digitChar).isDigit = true := by
      rw [Nat.isDigit_digitChar]
      exact decide_eq_true (Nat.mod_lt n (by decide))
    split at hc
    · rcases List.mem_cons.mp hc with rfl | h
      · exact Or.inr hd
      · exact Or.inl h
    · rcases ih _ _ c hc with h | h
      · rcases List.mem_cons.mp h with rfl | h'
        · exact Or.inr hd
        · exact Or.inl h'
      · exact Or.inr h

theorem intRepr_noTerm (i : Int) : NoTerm (intRepr i) := by
  intro c hc
  unfold intRepr natRepr at hc
  split at hc
  · rcases List.mem_cons.mp hc with rfl | h
    · decide
    · rcases digitsGo_chars _ _ [] c h with h' | h'
      · cases h'
      · exact isDigit_noTerm c h'
  · rcases digitsGo_chars _ _ [] c hc with h' | h'
    · cases h'
    · exact isDigit_noTerm c h'

theorem NoTerm_append {a b : Str} (ha : NoTerm a) (hb : NoTerm b) : NoTerm (a ++ b) := by
  intro c hc
  rcases List.mem_append.mp hc with h | h
  · exact ha c h
  · exact hb c h

/-! ## The syntax-error stub -/

/-- The `raise` statement of the stub. -/
def raiseLine (err : SynErr) (line col : Int) (lineRepr : Str) : Str :=
  lit "raise " ++ err.typeName ++ lit "(" ++ err.reprMessage ++
    lit ", ('usercode', " ++ intRepr line ++ lit ", " ++ intRepr col ++ lit ", " ++ lineRepr ++ lit "))"

theorem raiseLine_prefix (err : SynErr) (line col : Int) (lineRepr : Str) :
    ∃ rest, raiseLine err line col lineRepr = lit "raise " ++ rest := by
  unfold raiseLine
  simp only [List.append_assoc]
  exact ⟨_, rfl⟩

theorem raiseLine_noTerm (err : SynErr) (line col : Int) (lineRepr : Str)
    (h1 : NoTerm err.typeName) (h2 : NoTerm err.reprMessage) (h3 : NoTerm lineRepr) :
    NoTerm (raiseLine err line col lineRepr) := by
  have l1 : NoTerm (lit "raise ") := by
    unfold NoTerm
    decide +kernel
  have l2 : NoTerm (lit "(") := by
    unfold NoTerm
    decide +kernel
  have l3 : NoTerm (lit ", ('usercode', ") := by
    unfold NoTerm
    decide +kernel
  have l4 : NoTerm (lit ", ") := by
    unfold NoTerm
    decide +kernel
  have l5 : NoTerm (lit "))") := by
    unfold NoTerm
    decide +kernel
  exact NoTerm_append (NoTerm_append (NoTerm_append (NoTerm_append (NoTerm_append (NoTerm_append
    (NoTerm_append (NoTerm_append (NoTerm_append (NoTerm_append l1 h1) l2) h2) l3) (intRepr_noTerm _)) l4)
    (intRepr_noTerm _)) l4) h3) l5

theorem createSyntaxErrorCode_shape (mapOff : Int → Except CErr Int) (bt input : Str) (lr : List Str)
    (err : SynErr) (code : Str) (h : createSyntaxErrorCode mapOff bt input lr err = .ok code) :
    ∃ line col lineRepr, lineRepr ∈ lr ∧
      code = commentize (rstrip input) ++ '\n' :: raiseLine err line col lineRepr := by
  unfold createSyntaxErrorCode at h
  split at h
  · cases h
  · split at h
    · cases h
    · rename_i off _
      split at h
      · cases h
      · rename_i lineRepr hg
        -- `cases h` would make the unifier evaluate the literals of the stub text
        refine ⟨(offsetToLine input off).1, (offsetToLine input off).2 + 1, lineRepr,
          List.mem_of_getElem? hg, (Except.ok.inj h).symm.trans ?_⟩
        have e : lit "\nraise " = '\n' :: lit "raise " := by decide +kernel
        simp only [raiseLine, e, List.append_assoc, List.cons_append]

theorem createSyntaxErrorCode_ok (mapOff : Int → Except CErr Int) (bt input : Str) (lr : List Str)
    (err : SynErr) (lineno : Int) (hl : err.lineno = some lineno) (off : Int)
    (hoff : mapOff (lineToOffset bt lineno (errCol err)) = .ok off)
    (hidx : ((offsetToLine input off).1 - 1).toNat < lr.length) :
    ∃ code, createSyntaxErrorCode mapOff bt input lr err = .ok code := by
  unfold createSyntaxErrorCode
  simp only [hl, hoff, List.getElem?_eq_getElem hidx]
  exact ⟨_, rfl⟩

theorem createSyntaxErrorCode_no_lineno (mapOff : Int → Except CErr Int) (bt input : Str) (lr : List Str)
    (err : SynErr) (hl : err.lineno = none) :
    createSyntaxErrorCode mapOff bt input lr err = .error .typeError := by
  unfold createSyntaxErrorCode
  simp only [hl]

/-! ## The documented edits of a valid formula -/

theorem dollarPatches_documented (tmpOff : Int → Except CErr Int) (formula : Str) :
    ∀ (names : List Int) (ps : List Patch), dollarPatches tmpOff formula names = .ok ps →
      ∀ q ∈ ps, Documented formula q := by
  intro names
  induction names with
  | nil =>
    intro ps h q hq
    simp only [dollarPatches] at h
    cases h
    cases hq
  | cons n rest ih =>
    intro ps h q hq
    simp only [dollarPatches] at h
    cases ho : tmpOff n with
    | error e =>
      simp only [ho] at h
      cases h
    | ok inputPos =>
      simp only [ho] at h
      cases hr : dollarPatches tmpOff formula rest with
      | error e =>
        simp only [hr] at h
        cases h
      | ok ps' =>
        simp only [hr] at h
        by_cases hm : dollarMatchAt formula inputPos = true
        · simp only [hm, if_true] at h
          cases h
          rcases List.mem_cons.mp hq with rfl | hq'
          · exact Documented.dollar inputPos hm
          · exact ih ps' hr q hq'
        · have hm' : dollarMatchAt formula inputPos = false := by simpa using hm
          simp only [hm', Bool.false_eq_true, if_false] at h
          cases h
          exact ih _ hr q hq

theorem lazyPatches_documented (tmpOff : Int → Except CErr Int) (formula : Str) :
    ∀ (args : List (Int × Int)) (ps : List Patch), lazyPatches tmpOff formula args = .ok ps →
      ∀ q ∈ ps, Documented formula q := by
  intro args
  induction args with
  | nil =>
    intro ps h q hq
    simp only [lazyPatches] at h
    cases h
    cases hq
  | cons a rest ih =>
    intro ps h q hq
    obtain ⟨s, e⟩ := a
    simp only [lazyPatches] at h
    cases hs : tmpOff s with
    | error er =>
      simp only [hs] at h
      cases h
    | ok start =>
      simp only [hs] at h
      cases he : tmpOff e with
      | error er =>
        simp only [he] at h
        cases h
      | ok end_ =>
        simp only [he] at h
        cases hr : lazyPatches tmpOff formula rest with
        | error er =>
          simp only [hr] at h
          cases h
        | ok ps' =>
          simp only [hr] at h
          cases h
          rcases List.mem_cons.mp hq with rfl | hq'
          · exact Documented.lazyOpen start
          · rcases List.mem_cons.mp hq' with rfl | hq''
            · exact Documented.lazyClose end_
            · exact ih ps' hr q hq''

theorem stubBody_shape (facts : Facts) (f : Str) (assoc : Nat) (mapOff : Int → Except CErr Int)
    (bt formula : Str) (err : SynErr) (body : Body)
    (hf : getText (dedent (.text f assoc) f) = .ok formula)
    (h : stubBody mapOff bt formula facts err = .ok body) : BodyShape facts f assoc body := by
  unfold stubBody at h
  split at h
  · cases h
  · rename_i code hc
    cases h
    exact BodyShape.stub code mapOff bt formula err hf hc

theorem liftTb_ok {α : Type} (x : Except Err α) (a : α) (h : liftTb x = .ok a) : x = .ok a := by
  cases x with
  | ok b =>
    simp only [liftTb] at h
    cases h
    rfl
  | error e =>
    simp only [liftTb] at h
    cases h

theorem finish_shape (facts : Facts) (f : Str) (assoc : Nat) (formula : Str) (ml : Bool) (body : Body)
    (hf : getText (dedent (.text f assoc) f) = .ok formula)
    (patches : List Patch) (hp : ∀ q ∈ patches, Documented formula q)
    (hh : (match liftTb (getText (.replacer (dedent (.text f assoc) f) patches)) with
        | .error e => (Except.error e : Except CErr Body)
        | .ok finalText =>
          match facts.parse2 with
          | .error err => stubBody (fun x => liftTb (mapBackOffset (.replacer (dedent (.text f assoc) f) patches) x))
              finalText formula facts err
          | .ok => .ok ⟨.replacer (dedent (.text f assoc) f) patches, ml⟩) = .ok body) :
    BodyShape facts f assoc body := by
  split at hh
  · cases hh
  · split at hh
    · exact stubBody_shape facts f assoc _ _ formula _ body hf hh
    · exact Except.ok.inj hh ▸ BodyShape.edited formula patches _ hf hp

theorem doMakeFormulaBody_shape (facts : Facts) (f : Str) (assoc : Nat) (body : Body)
    (h : doMakeFormulaBody facts f assoc = .ok body) : BodyShape facts f assoc body := by
  unfold doMakeFormulaBody at h
  dsimp only at h
  split at h
  · rename_i hb
    exact Except.ok.inj h ▸ BodyShape.blank hb
  split at h
  · cases h
  rename_i formula hform
  have hf := liftTb_ok _ _ hform
  split at h
  · cases h
  split at h
  · exact stubBody_shape facts f assoc _ _ formula _ body hf h
  rename_i p _
  split at h
  · cases h
  rename_i dps hdps
  split at h
  · cases h
  rename_i lps hlps
  have hdl : ∀ q ∈ dps ++ lps, Documented formula q := List.forall_mem_append.mpr
    ⟨dollarPatches_documented _ formula _ dps hdps, lazyPatches_documented _ formula _ lps hlps⟩
  split at h
  · split at h
    · cases h
    · rename_i inputPos _
      exact finish_shape facts f assoc formula _ body hf _ (List.forall_mem_append.mpr
        ⟨hdl, List.forall_mem_singleton.mpr (Documented.ret inputPos)⟩) h
  · exact finish_shape facts f assoc formula _ body hf _ (List.forall_mem_append.mpr
      ⟨hdl, List.forall_mem_singleton.mpr Documented.pass⟩) h
  · split at h
    · exact finish_shape facts f assoc formula _ body hf _ hdl h
    · exact stubBody_shape facts f assoc _ _ formula _ body hf h

/-! ## The stub after `_indent` -/

/-- `commentize` followed by `_indent`, written directly: after '\n' the indentation and "# ", after
    a lone '\r' just "# " (`_indent` does not know about '\r'). -/
def commentizeIndGo (ind : Str) : Str → Str
  | [] => []
  | c :: cs =>
    if c = '\n' then c :: (ind ++ '#' :: ' ' :: commentizeIndGo ind cs)
    else if c = '\r' then
      match cs with
      | '\n' :: _ => c :: commentizeIndGo ind cs
      | _ => c :: '#' :: ' ' :: commentizeIndGo ind cs
    else c :: commentizeIndGo ind cs

theorem commentizeIndGo_nl (ind cs : Str) :
    commentizeIndGo ind ('\n' :: cs) = '\n' :: (ind ++ '#' :: ' ' :: commentizeIndGo ind cs) := by
  simp [commentizeIndGo]

theorem commentizeIndGo_nil (s : Str) : commentizeIndGo [] s = commentizeGo s := by
  fun_induction commentizeIndGo [] s with
  | case1 => rfl
  | case2 cs ih =>
    rw [commentizeGo_nl, ih]
    rfl
  | case3 tail _ ih => rw [commentizeGo_crnl, ih]
  | case4 cs hcs _ ih => rw [commentizeGo_cr cs hcs, ih]
  | case5 c cs hn hcr ih => rw [commentizeGo_plain c cs hn hcr, ih]

theorem splitNl_cons_nl (cs : Str) : splitNl ('\n' :: cs) = [] :: splitNl cs := by
  simp only [splitNl]
  cases h : splitNl cs with
  | nil => exact absurd h (splitNl_ne_nil cs)
  | cons l ls => simp

theorem splitNl_cons_plain (c : Char) (hc : c ≠ '\n') (cs l : Str) (ls : List Str)
    (h : splitNl cs = l :: ls) : splitNl (c :: cs) = (c :: l) :: ls := by
  simp only [splitNl, h, hc, if_false]

theorem splitNl_append_nl : ∀ (pre Y : Str), '\n' ∉ pre → splitNl (pre ++ '\n' :: Y) = pre :: splitNl Y := by
  intro pre
  induction pre with
  | nil =>
    intro Y _
    exact splitNl_cons_nl Y
  | cons c cs ih =>
    intro Y h
    have hc : c ≠ '\n' := fun e => h (by simp [e])
    have := ih Y (fun e => h (by simp [e]))
    exact splitNl_cons_plain c hc _ cs (splitNl Y) this

theorem splitNl_no_nl_self : ∀ (R : Str), '\n' ∉ R → splitNl R = [R] := by
  intro R
  induction R with
  | nil =>
    intro _
    rfl
  | cons c cs ih =>
    intro h
    have hc : c ≠ '\n' := fun e => h (by simp [e])
    exact splitNl_cons_plain c hc cs cs [] (ih (fun e => h (by simp [e])))

theorem nonBlank_append_left (a b : Str) (h : nonBlank a = true) : nonBlank (a ++ b) = true := by
  unfold nonBlank at *
  rw [List.any_append, h]
  rfl

/-- `pre` = what the current line has so far. -/
theorem indent_commentize (ind R : Str) (hR : '\n' ∉ R) (hRb : nonBlank R = true) (s : Str) :
    ∀ (pre : Str), '\n' ∉ pre → nonBlank pre = true →
    joinNl ((splitNl (pre ++ commentizeGo s ++ '\n' :: R)).map (indentLine ind))
      = ind ++ (pre ++ commentizeIndGo ind s) ++ '\n' :: (ind ++ R) := by
  -- characters `w` that stay on the current line move from the text into `pre`
  have hmove : ∀ (w G I pre : Str),
      joinNl ((splitNl (pre ++ w ++ G ++ '\n' :: R)).map (indentLine ind))
        = ind ++ (pre ++ w ++ I) ++ '\n' :: (ind ++ R) →
      joinNl ((splitNl (pre ++ (w ++ G) ++ '\n' :: R)).map (indentLine ind))
        = ind ++ (pre ++ (w ++ I)) ++ '\n' :: (ind ++ R) := by
    intro w G I pre h
    rwa [List.append_assoc pre w G, List.append_assoc pre w I] at h
  fun_induction commentizeIndGo ind s with
  | case1 =>
    intro pre hp hb
    rw [commentizeGo, List.append_nil, splitNl_append_nl pre R hp, splitNl_no_nl_self R hR]
    simp only [List.map, joinNl, indentLine, hb, hRb, if_true]
  | case2 cs ih =>
    intro pre hp hb
    have e : pre ++ commentizeGo ('\n' :: cs) ++ '\n' :: R
        = pre ++ '\n' :: (['#', ' '] ++ commentizeGo cs ++ '\n' :: R) := by
      rw [commentizeGo_nl]
      simp only [List.append_assoc, List.cons_append, List.nil_append]
    rw [e, splitNl_append_nl pre _ hp, List.map_cons,
      joinNl_cons_ne _ _ (by rw [ne_eq, List.map_eq_nil_iff]; exact splitNl_ne_nil _),
      ih ['#', ' '] (by decide) (by decide)]
    simp only [indentLine, hb, if_true, List.append_assoc, List.cons_append, List.nil_append]
  | case3 tail _ ih =>
    intro pre hp hb
    rw [commentizeGo_crnl]
    exact hmove ['\r'] _ _ pre (ih _ (fun h => (List.mem_append.mp h).elim hp (by decide)) (nonBlank_append_left _ _ hb))
  | case4 cs hcs _ ih =>
    intro pre hp hb
    rw [commentizeGo_cr cs hcs]
    exact hmove ['\r', '#', ' '] _ _ pre
      (ih _ (fun h => (List.mem_append.mp h).elim hp (by decide)) (nonBlank_append_left _ _ hb))
  | case5 c cs hn hcr ih =>
    intro pre hp hb
    rw [commentizeGo_plain c cs hn hcr]
    exact hmove [c] _ _ pre (ih _ (fun h => (List.mem_append.mp h).elim hp
      fun h' => hn (List.mem_singleton.mp h').symm) (nonBlank_append_left _ _ hb))

theorem physLinesGo_prefix (ind : Str) (hind : NoTerm ind) : ∀ (X f : Str) (r : List Str),
    physLinesGo false X = f :: r → physLinesGo false (ind ++ X) = (ind ++ f) :: r := by
  induction ind with
  | nil =>
    intro X f r h
    simpa using h
  | cons c cs ih =>
    intro X f r h
    have hc := hind c (by simp)
    have := ih (fun x hx => hind x (by simp [hx])) X f r h
    exact physLinesGo_plain false c hc.1 hc.2 _ _ r this

/-- Same with any flag, for a non-empty prefix. -/
theorem physLinesGo_prefix' (c : Char) (cs : Str) (hind : NoTerm (c :: cs)) (b : Bool) (X f : Str) (r : List Str)
    (h : physLinesGo false X = f :: r) : physLinesGo b ((c :: cs) ++ X) = ((c :: cs) ++ f) :: r := by
  have hc := hind c (by simp)
  have := physLinesGo_prefix cs (fun x hx => hind x (by simp [hx])) X f r h
  exact physLinesGo_plain b c hc.1 hc.2 _ _ r this

theorem NoTerm_replicate (k : Nat) : NoTerm (List.replicate k ' ') := by
  intro c hc
  have := (List.mem_replicate.mp hc).2
  subst this
  decide

theorem physLinesGo_hash (b : Bool) (X f : Str) (r : List Str) (h : physLinesGo false X = f :: r) :
    physLinesGo b ('#' :: ' ' :: X) = ('#' :: ' ' :: f) :: r :=
  physLinesGo_plain b '#' (by decide) (by decide) _ _ r
    (physLinesGo_plain false ' ' (by decide) (by decide) _ f r h)

/-- The first line continues the current one; behind a lone '\r' the "# " is at column 0. -/
theorem commentizeIndGo_lines (ind : Str) (hind : NoTerm ind) (s : Str) : ∃ f r,
    physLinesGo false (commentizeIndGo ind s) = f :: r ∧
    ∀ l ∈ r, ∃ t, l = ind ++ '#' :: ' ' :: t ∨ l = '#' :: ' ' :: t := by
  fun_induction commentizeIndGo ind s with
  | case1 => exact ⟨[], [], rfl, nofun⟩
  | case2 cs ih =>
    obtain ⟨f, r, hfr, hr⟩ := ih
    exact ⟨[], (ind ++ '#' :: ' ' :: f) :: r,
      by rw [physLinesGo_nl_false, physLinesGo_prefix _ hind _ _ r (physLinesGo_hash false _ f r hfr)],
      List.forall_mem_cons.mpr ⟨⟨f, Or.inl rfl⟩, hr⟩⟩
  | case3 tail _ ih =>
    -- "\r\n" ends one line: the lines after it are those after the '\n' alone
    obtain ⟨f, r, hfr, hr⟩ := ih
    rw [commentizeIndGo_nl, physLinesGo_nl_false] at hfr
    exact ⟨[], r, by rw [commentizeIndGo_nl, physLinesGo_cr, physLinesGo_nl_true, (List.cons.inj hfr).2], hr⟩
  | case4 cs _ _ ih =>
    obtain ⟨f, r, hfr, hr⟩ := ih
    exact ⟨[], ('#' :: ' ' :: f) :: r, by rw [physLinesGo_cr, physLinesGo_hash true _ f r hfr],
      List.forall_mem_cons.mpr ⟨⟨f, Or.inr rfl⟩, hr⟩⟩
  | case5 c cs hn hcr ih =>
    obtain ⟨f, r, hfr, hr⟩ := ih
    exact ⟨c :: f, r, physLinesGo_plain false c hn hcr _ f r hfr, hr⟩

theorem commentize_lines (s : Str) : ∀ l ∈ physLines (commentize s), StartsHash l := by
  obtain ⟨f, r, hfr, hr⟩ := commentizeIndGo_lines [] nofun s
  rw [commentizeIndGo_nil] at hfr
  intro l hl
  unfold physLines commentize at hl
  rw [physLinesGo_hash false _ f r hfr] at hl
  rcases List.mem_cons.mp hl with rfl | hl
  · exact ⟨f, rfl⟩
  · obtain ⟨t, rfl | rfl⟩ := hr l hl <;> exact ⟨t, rfl⟩

/-- The stub with any indentation `ind` and any last line `T`. -/
theorem commented_lines (ind : Str) (hind : NoTerm ind) (s T : Str) (hT : NoTerm T) :
    ∃ ls, physLines ((ind ++ '#' :: ' ' :: commentizeIndGo ind s) ++ '\n' :: T) = ls ++ [T] ∧
      (∀ l ∈ ls, ∃ t, l = ind ++ '#' :: ' ' :: t ∨ l = '#' :: ' ' :: t) ∧ ls ≠ [] := by
  obtain ⟨f, r, hfr, hr⟩ := commentizeIndGo_lines ind hind s
  obtain ⟨ls, e1, e2, e3⟩ := physLinesGo_append_line T hT (ind ++ '#' :: ' ' :: commentizeIndGo ind s) false
  refine ⟨ls, e1, fun l hl => ?_, e3 rfl⟩
  have := e2.subset hl
  rw [physLinesGo_prefix _ hind _ _ r (physLinesGo_hash false _ f r hfr)] at this
  exact List.forall_mem_cons.mpr ⟨⟨f, Or.inl rfl⟩, hr⟩ l this

theorem stub_lines (mapOff : Int → Except CErr Int) (bt input : Str) (lr : List Str)
    (err : SynErr) (code : Str) (h : createSyntaxErrorCode mapOff bt input lr err = .ok code)
    (h1 : NoTerm err.typeName) (h2 : NoTerm err.reprMessage) (h3 : ∀ r ∈ lr, NoTerm r) :
    ∃ ls last, physLines code = ls ++ [last] ∧ (∀ l ∈ ls, StartsHash l) ∧ lit "raise " <+: last ∧ ls ≠ [] := by
  obtain ⟨line, col, lineRepr, hmem, hcode⟩ := createSyntaxErrorCode_shape mapOff bt input lr err code h
  obtain ⟨ls, e1, e2, e3⟩ := commented_lines [] nofun (rstrip input) _
    (raiseLine_noTerm err line col lineRepr h1 h2 (h3 _ hmem))
  rw [commentizeIndGo_nil] at e1
  refine ⟨ls, _, hcode ▸ e1, fun l hl => ?_, ?_, e3⟩
  · obtain ⟨t, rfl | rfl⟩ := e2 l hl <;> exact ⟨t, rfl⟩
  · obtain ⟨rest, hrest⟩ := raiseLine_prefix err line col lineRepr
    exact hrest ▸ List.prefix_append _ _

theorem indented_stub_lines (mapOff : Int → Except CErr Int) (bt input : Str) (lr : List Str)
    (err : SynErr) (code : Str) (k : Nat)
    (h : createSyntaxErrorCode mapOff bt input lr err = .ok code)
    (h1 : NoTerm err.typeName) (h2 : NoTerm err.reprMessage) (h3 : ∀ r ∈ lr, NoTerm r) :
    ∃ ls rest, physLines (tablesOf code (indentPatches code (List.replicate k ' '))).outText
        = ls ++ [List.replicate k ' ' ++ lit "raise " ++ rest] ∧
      (∀ l ∈ ls, IsCommentLine l) ∧ ls ≠ [] := by
  obtain ⟨line, col, lineRepr, hmem, hcode⟩ := createSyntaxErrorCode_shape mapOff bt input lr err code h
  have hT := raiseLine_noTerm err line col lineRepr h1 h2 (h3 _ hmem)
  obtain ⟨rest, hrest⟩ := raiseLine_prefix err line col lineRepr
  have hind := indent_commentize (List.replicate k ' ') _ (fun hm => (hT _ hm).1 rfl)
    (hrest ▸ nonBlank_append_left _ _ (by decide)) (rstrip input) ['#', ' '] (by decide) (by decide)
  obtain ⟨ls, e1, e2, e3⟩ := commented_lines _ (NoTerm_replicate k) (rstrip input) _
    (NoTerm_append (NoTerm_replicate k) hT)
  refine ⟨ls, rest, ?_, fun l hl => ?_, e3⟩
  · rw [(indent_text code _).2, hcode]
    exact (congrArg physLines hind).trans (e1.trans (by rw [hrest, List.append_assoc]))
  · obtain ⟨t, rfl | rfl⟩ := e2 l hl
    · exact ⟨k, ' ' :: t, rfl⟩
    · exact ⟨0, ' ' :: t, rfl⟩

/-! ## Module assembly (Combiner of per-column bodies) -/

theorem combiner_part_range (bpre : List Builder) (b : Builder) (bpost : List Builder)
    (tpre : List Str) (tb : Str) (tpost : List Str)
    (h1 : getTexts bpre = .ok tpre) (h2 : getText b = .ok tb) (h3 : getTexts bpost = .ok tpost) :
    ∃ T, getText (.combiner (bpre ++ b :: bpost)) = .ok T ∧
      T = joinStrs tpre ++ tb ++ joinStrs tpost ∧
      slice T ((joinStrs tpre).length : Nat) (((joinStrs tpre).length + tb.length : Nat) : Int) = tb := by
  refine ⟨joinStrs tpre ++ tb ++ joinStrs tpost, ?_, rfl, ?_⟩
  · rw [getText]
    simp only [getTexts_mid bpre b bpost tpre tb tpost h1 h2 h3, joinStrs_mid]
  · rw [← List.length_append]
    exact slice_exact ..

end Grist.Codebuilder
