/-
What each `usertypes.<Type>.do_convert` (GristModel/PyVal.lean) returns (`do*_result`) and that it
maps such a result to itself.  Defines `EmptyJson`, `RefDegenerate`, `Degenerate` (the inputs on which
ChoiceList / RefList are not idempotent) and `RowIdsShort`, hypotheses of C22, C23 and C07.
-/
import GristModel.PyVal
namespace Grist.PyVal

/-- the one ChoiceList input whose result is an EMPTY tuple: text that parses as an empty JSON list -/
def EmptyJson (P : Prim) (v : PyVal) : Prop :=
  ∃ s sub parsed, v = .str s sub ∧ startsBracket s = true ∧ P.jsonLoads s = some parsed ∧
    pyIter parsed = .ok []

/-- RefList inputs on which re-conversion is not the identity: a RecordSet of the column's table
    (gives a RecordList, which is then read as a plain list, or None when empty), and a non-empty
    list of RecordSets of the table that contain no record at all (gives [], then None). -/
def RefDegenerate (tid : Str) (v : PyVal) : Prop :=
  (∃ rows tup ids gb sb, v = .recordSet tid rows tup ids gb sb) ∨
  (∃ m xs ids, v = .list m xs ∧ recordSetsIds tid xs = some ids ∧ dedup ids = [])

/-- the row ids (`rec.id`) of RecordSets inside a list are 32-bit (true of every real table) -/
def RowIdsShort (v : PyVal) : Prop :=
  ∀ m xs tid ids, v = .list m xs → recordSetsIds tid xs = some ids → ∀ i ∈ ids, isShort i = true

/-- The explicit inputs on which re-conversion is not the identity although do_convert succeeded:
    ChoiceList: text that is an empty JSON list (`"[]"` gives `()`, then None);
    RefList/Attachments: a RecordSet of the table (gives a RecordList, then a plain list / None),
    a list of RecordSets of the table holding no record (gives `[]`, then None). -/
def Degenerate (P : Prim) : ColType → PyVal → Prop
  | .choiceList, v => EmptyJson P v
  | .refList t, v => RefDegenerate t v
  | .attachments, v => RefDegenerate attachmentsTable v
  | _, _ => False

def strTuple (P : Prim) (ss : List Str) : PyVal :=
  .tuple (P.tupleMeta (ss.map (fun x => PyVal.str x false))) (ss.map (fun x => PyVal.str x false))

def IntList (rs : List PyVal) : Prop := ∀ r ∈ rs, ∃ n, r = PyVal.int n false ∧ isShort n = true

theorem convert_raised (P : Prim) (τ : ColType) (v : PyVal) (h : v.isRaised = true) :
    convert P τ v = v := by
  simp [convert, h]

theorem convert_ok (P : Prim) (τ : ColType) (v r : PyVal) (hr : v.isRaised = false)
    (h : doConvert P τ v = .ok r) : convert P τ v = r := by
  simp [convert, hr, h]

theorem convert_error (P : Prim) (τ : ColType) (v : PyVal) (e : Str) (hr : v.isRaised = false)
    (h : doConvert P τ v = .error e) : convert P τ v = altOf P v := by
  simp [convert, hr, h]

theorem convert_fix (P : Prim) (τ : ColType) (r : PyVal) (h : doConvert P τ r = .ok r) :
    convert P τ r = r := by
  unfold convert
  split
  · rfl
  · simp [h]

theorem altOf_shape (P : Prim) (v : PyVal) : ∃ s, altOf P v = .str s false := by
  unfold altOf
  split <;> exact ⟨_, rfl⟩

theorem altOf_str (P : Prim) (s : Str) (b : Bool) : altOf P (.str s b) = .str s false := by
  simp [altOf, pyStr]

theorem doText_result (P : Prim) (v r : PyVal) (h : doText P v = .ok r) :
    r = .none ∨ ∃ s, r = .str s false := by
  revert h
  fun_cases doText P v <;> intro h
  -- the last two cases: `str(value)`
  case case10 s hs _ _ _ =>
    rw [hs] at h
    cases h
    exact Or.inr ⟨_, rfl⟩
  case case11 hs _ _ _ =>
    rw [hs] at h
    cases h
  all_goals cases h
  all_goals first | exact Or.inl rfl | exact Or.inr ⟨_, rfl⟩

theorem doText_str (P : Prim) (s : Str) (b : Bool) : doText P (.str s b) = .ok (.str s false) := by
  simp [doText, pyStr]

theorem doBool_result (v r : PyVal) (h : doBool v = .ok r) : ∃ b, r = .bool b := by
  revert h
  fun_cases doBool v <;> intro h <;> cases h
  all_goals exact ⟨_, rfl⟩

theorem doBool_bool (b : Bool) : doBool (.bool b) = .ok (.bool b) := by
  cases b <;> simp [doBool, truthy, isNumeric]

theorem short_le53 (n : Int) (h : isShort n = true) :
    (decide (-two53 ≤ n) && decide (n ≤ two53)) = true := by
  unfold isShort two31 at h
  unfold two53
  simp only [Bool.and_eq_true, decide_eq_true_eq] at h ⊢
  omega

theorem doInt_result (P : Prim) (v r : PyVal) (h : doInt P v = .ok r) :
    r = .none ∨ ∃ n, r = .int n false ∧ isShort n = true := by
  revert h
  fun_cases doInt P v <;> intro h <;> cases h
  · exact Or.inl rfl
  · exact Or.inr ⟨_, rfl, ‹_›⟩

theorem doInt_int (P : Prim) (n : Int) (h : isShort n = true) :
    doInt P (.int n false) = .ok (.int n false) := by
  simp [doInt, isEmptyOrNone, pyFloat, floatOfInt, short_le53 n h, F.toInt, h]

theorem doNumeric_result (P : Prim) (dflt v r : PyVal) (h : doNumeric P dflt v = .ok r) :
    r = dflt ∨ ∃ f, r = .float f false := by
  revert h
  fun_cases doNumeric P dflt v <;> intro h <;> cases h
  · exact Or.inl rfl
  · exact Or.inr ⟨_, rfl⟩

theorem doNumeric_float (P : Prim) (dflt : PyVal) (f : F) (b : Bool) :
    doNumeric P dflt (.float f b) = .ok (.float f false) := by
  simp [doNumeric, isEmptyOrNone, pyFloat]

theorem doDate_result (P : Prim) (dt : Bool) (v r : PyVal) (h : doDate P dt v = .ok r) :
    r = .none ∨ ∃ f, r = .float f false := by
  revert h
  fun_cases doDate P dt v <;> intro h
  -- the last three cases: `float(value)` of a number
  case case9 f _ hn hf _ _ _ =>
    rw [if_pos hn, hf] at h
    cases h
    exact Or.inr ⟨_, rfl⟩
  case case10 e _ hn hf _ _ _ =>
    rw [if_pos hn, hf] at h
    cases h
  case case11 _ hn _ _ _ =>
    rw [if_neg hn] at h
    cases h
  all_goals cases h
  all_goals first | exact Or.inl rfl | exact Or.inr ⟨_, rfl⟩

theorem doDate_float (P : Prim) (dt : Bool) (f : F) (b : Bool) :
    doDate P dt (.float f b) = .ok (.float f false) := by
  simp [doDate, isEmptyOrNone, isNumeric, pyFloat]

theorem doId_result (v r : PyVal) (h : doId v = .ok r) : ∃ n, r = .int n false ∧ isShort n = true := by
  revert h
  fun_cases doId v <;> intro h <;> cases h
  · exact ⟨0, rfl, rfl⟩
  · exact ⟨_, rfl, ‹_›⟩

theorem doId_int (n : Int) (h : isShort n = true) : doId (.int n false) = .ok (.int n false) := by
  unfold doId
  by_cases h0 : n = 0
  · subst h0
    simp [truthy]
  · have hne : (n != 0) = true := by simp [h0]
    simp [truthy, hne, idInt, h]

theorem strsOf_strs (P : Prim) (ss : List Str) :
    strsOf P (ss.map (fun x => PyVal.str x false)) = some ss := by
  induction ss with
  | nil => simp [strsOf]
  | cons x xs ih => simp [strsOf, pyStr, ih]

theorem strsOf_length (P : Prim) : ∀ (items : List PyVal) (ss : List Str),
    strsOf P items = some ss → ss.length = items.length := by
  intro items
  induction items with
  | nil =>
    intro ss h
    cases h
    rfl
  | cons x xs ih =>
    intro ss h
    simp only [strsOf] at h
    split at h
    next s ss' _ h2 =>
      cases h
      simp only [List.length_cons, ih ss' h2]
    next => cases h

theorem truthy_iter_nonempty (v : PyVal) (items : List PyVal) (ht : truthy v = some true)
    (hi : pyIter v = .ok items) : items ≠ [] := by
  rintro rfl
  revert hi
  fun_cases pyIter v <;> intro hi
  -- the last case: not iterable
  case case9 => cases hi
  all_goals
    simp only [Except.ok.injEq, List.map_eq_nil_iff] at hi
    subst hi
    cases ht

theorem doChoiceList_tuple (P : Prim) (ss : List Str) (h : ss ≠ []) :
    doChoiceList P (strTuple P ss) = .ok (strTuple P ss) := by
  cases ss with
  | nil => exact absurd rfl h
  | cons x xs =>
    have := strsOf_strs P (x :: xs)
    simp only [List.map_cons] at this
    simp [doChoiceList, strTuple, truthy, pyIter, this]

theorem strsOf_nil (P : Prim) (items : List PyVal) (h : strsOf P items = some []) : items = [] :=
  List.eq_nil_of_length_eq_zero (strsOf_length P items [] h).symm

theorem doChoiceList_result (P : Prim) (v r : PyVal) (h : doChoiceList P v = .ok r) :
    r = .none ∨ (r = v ∧ v.isStr = true) ∨
    ∃ ss, r = strTuple P ss ∧ (ss = [] → EmptyJson P v) := by
  revert h
  fun_cases doChoiceList P v <;> intro h
  case case1 => cases h
  case case2 =>
    cases h
    exact Or.inl rfl
  -- a text that parses as a JSON list
  case case3 s sub hb parsed hp items hit ss hss _ =>
    cases h
    refine Or.inr (Or.inr ⟨ss, rfl, ?_⟩)
    rintro rfl
    cases strsOf_nil P items hss
    exact ⟨s, sub, parsed, rfl, hb, hp, hit⟩
  -- any other text is returned as it is
  case case4 | case5 | case6 | case7 =>
    cases h
    exact Or.inr (Or.inl ⟨rfl, rfl⟩)
  -- anything else is iterated; it is truthy, so there are items
  case case8 e _ hit _ =>
    rw [hit] at h
    cases h
  case case9 items ss hss ht hit _ =>
    rw [hit] at h
    simp only [hss] at h
    cases h
    refine Or.inr (Or.inr ⟨ss, rfl, ?_⟩)
    rintro rfl
    exact absurd (strsOf_nil P items hss) (truthy_iter_nonempty v items ht hit)
  case case10 items hss _ hit _ =>
    rw [hit] at h
    simp only [hss] at h
    cases h

theorem allStr_strs (ss : List Str) : allStr (ss.map (fun x => PyVal.str x false)) = true := by
  induction ss with
  | nil => rfl
  | cons x xs ih => simp [allStr, PyVal.isStr, ih]

theorem idsOf_result : ∀ (items rs : List PyVal), idsOf items = .ok rs →
    IntList rs ∧ rs.length = items.length := by
  intro items
  induction items with
  | nil =>
    intro rs h
    cases h
    exact ⟨fun r hr => (nomatch hr), rfl⟩
  | cons x xs ih =>
    intro rs h
    simp only [idsOf] at h
    split at h
    next r rs' h1 h2 =>
      cases h
      obtain ⟨hi, hl⟩ := ih rs' h2
      refine ⟨?_, by simp only [List.length_cons, hl]⟩
      intro y hy
      rcases List.mem_cons.mp hy with rfl | hy
      · exact doId_result x y h1
      · exact hi y hy
    next => cases h
    next => cases h

theorem idsOf_fix : ∀ rs : List PyVal, IntList rs → idsOf rs = .ok rs := by
  intro rs
  induction rs with
  | nil =>
    intro _
    simp [idsOf]
  | cons x xs ih =>
    intro h
    obtain ⟨n, hx, hs⟩ := h x (by simp)
    subst hx
    have hxs : IntList xs := fun r hr => h r (by simp [hr])
    simp [idsOf, doId_int n hs, ih hxs]

theorem recordSetsIds_posint (tid : Str) (x : PyVal) (xs : List PyVal) (h : isPosInt x = true) :
    recordSetsIds tid (x :: xs) = none := by
  unfold isPosInt at h
  split at h
  · rfl
  · rfl
  · cases h

theorem refListPre_nonstr (P : Prim) (v : PyVal) (h : v.isStr = false) : refListPre P v = v := by
  unfold refListPre
  split
  · cases h
  · rfl

theorem doRefListCore_intlist (P : Prim) (tid : Str) (rs : List PyVal) (hne : rs ≠ [])
    (h : IntList rs) :
    doRefListCore P tid (.list (P.listMeta rs) rs) = .ok (.list (P.listMeta rs) rs) := by
  cases rs with
  | nil => exact absurd rfl hne
  | cons x xs =>
    obtain ⟨n, rfl, _⟩ := h x List.mem_cons_self
    show (match idsOf (.int n false :: xs) with
      | .error e => Except.error e
      | .ok rs => Except.ok (PyVal.list (P.listMeta rs) rs)) = _
    rw [idsOf_fix _ h]

theorem doRefList_intlist (P : Prim) (tid : Str) (rs : List PyVal) (hne : rs ≠ []) (h : IntList rs) :
    doRefList P tid (.list (P.listMeta rs) rs) = .ok (.list (P.listMeta rs) rs) := by
  unfold doRefList
  rw [refListPre_nonstr P _ rfl]
  exact doRefListCore_intlist P tid rs hne h

theorem dedup_subset : ∀ (l : List Int) (x : Int), x ∈ dedup l → x ∈ l := by
  intro l
  induction l with
  | nil =>
    intro x h
    simp [dedup] at h
  | cons a as ih =>
    intro x h
    simp only [dedup, List.mem_cons, List.mem_filter] at h
    rcases h with h | h
    · simp [h]
    · simp [ih x h.1]

theorem refListPre_cases (P : Prim) (v : PyVal) :
    refListPre P v = v ∨
    (∃ m xs, refListPre P v = .list m xs ∧ xs.all isPosInt = true) ∨
    (∃ rows, refListPre P v = .recordList rows ['N','o','n','e'] ['N','o','n','e']) := by
  fun_cases refListPre P v
  all_goals first
    | exact Or.inl rfl
    | exact Or.inr (Or.inl ⟨_, _, rfl, ‹_›⟩)
    | exact Or.inr (Or.inr ⟨_, rfl⟩)

theorem flatIds_some (tid : Str) (v : PyVal) (ids : List Int) (h : flatIds tid v = some ids) :
    ∃ m xs, v = .list m xs ∧ recordSetsIds tid xs = some ids := by
  unfold flatIds at h
  split at h
  · exact ⟨_, _, rfl, h⟩
  · cases h

theorem doRefListCore_result (P : Prim) (tid : Str) (v v1 r : PyVal)
    (hv1 : v1 = v ∨ (∃ m xs, v1 = .list m xs ∧ xs.all isPosInt = true) ∨
           (∃ rows, v1 = .recordList rows ['N','o','n','e'] ['N','o','n','e']))
    (h : doRefListCore P tid v1 = .ok r) (hs : RowIdsShort v) :
    (∃ rows gb sb, r = .recordList rows gb sb ∧ RefDegenerate tid v) ∨ r = .none ∨
    ∃ rs, r = .list (P.listMeta rs) rs ∧ IntList rs ∧ (rs = [] → RefDegenerate tid v) := by
  unfold doRefListCore at h
  split at h
  next t rows tup ids gb sb =>
    -- a RecordSet: `refListPre` never makes one, so it is `v` itself
    split at h
    next ht =>
      cases h
      rcases hv1 with hv | ⟨_, _, hv, _⟩ | ⟨_, hv⟩
      · exact Or.inl ⟨rows, gb, sb, rfl, Or.inl ⟨rows, tup, ids, gb, sb, by rw [← hv, ht]⟩⟩
      · cases hv
      · cases hv
    next => cases h
  next =>
    split at h
    next => cases h
    next =>
      cases h
      exact Or.inr (Or.inl rfl)
    next ht =>
      split at h
      next ids hflat =>
        cases h
        obtain ⟨m, xs, rfl, hrs⟩ := flatIds_some tid v1 ids hflat
        rcases hv1 with hv | ⟨_, _, hv, hall⟩ | ⟨_, hv⟩
        · refine Or.inr (Or.inr ⟨_, rfl, ?_, ?_⟩)
          · intro r hr
            obtain ⟨i, hi, hri⟩ := List.mem_map.mp hr
            exact ⟨i, hri.symm, hs m xs tid ids hv.symm hrs i (dedup_subset ids i hi)⟩
          · intro hnil
            exact Or.inr ⟨m, xs, ids, hv.symm, hrs, List.map_eq_nil_iff.mp hnil⟩
        · -- a parsed JSON list of positive ints: truthy, and its first item is no RecordSet
          cases hv
          cases xs with
          | nil => cases ht
          | cons a as =>
            rw [List.all_cons, Bool.and_eq_true] at hall
            rw [recordSetsIds_posint tid a as hall.1] at hrs
            cases hrs
        · cases hv
      next =>
        -- `[Reference.do_convert(val) for val in value]`
        split at h
        next => cases h
        next items hit =>
          split at h
          next => cases h
          next rs hrs =>
            cases h
            obtain ⟨hil, hlen⟩ := idsOf_result items rs hrs
            refine Or.inr (Or.inr ⟨rs, rfl, hil, ?_⟩)
            rintro rfl
            exact absurd (List.eq_nil_of_length_eq_zero hlen.symm) (truthy_iter_nonempty v1 items ht hit)

theorem doRefList_result (P : Prim) (tid : Str) (v r : PyVal) (h : doRefList P tid v = .ok r)
    (hs : RowIdsShort v) :
    (∃ rows gb sb, r = .recordList rows gb sb ∧ RefDegenerate tid v) ∨ r = .none ∨
    ∃ rs, r = .list (P.listMeta rs) rs ∧ IntList rs ∧ (rs = [] → RefDegenerate tid v) :=
  doRefListCore_result P tid v (refListPre P v) r (refListPre_cases P v) h hs

theorem all_isRefId (rs : List PyVal) (h : IntList rs) : rs.all isRefId = true := by
  rw [List.all_eq_true]
  intro r hr
  obtain ⟨n, hn, hs⟩ := h r hr
  subst hn
  exact hs

theorem doRefListCore_str (P : Prim) (tid : Str) (s : Str) (b : Bool) :
    doRefListCore P tid (.str s b) = doRefListCore P tid (.str s false) := by
  simp [doRefListCore, truthy, flatIds, pyIter]

theorem doRefList_str (P : Prim) (tid : Str) (s : Str) (b : Bool) :
    doRefList P tid (.str s b) = doRefList P tid (.str s false) := by
  simp only [doRefList, refListPre]
  split
  · split
    · split
      · rfl
      · exact doRefListCore_str P tid s b
    · exact doRefListCore_str P tid s b
  · split
    · rfl
    · exact doRefListCore_str P tid s b

theorem doChoiceList_str_ok (P : Prim) (s : Str) (b : Bool) : ∃ r, doChoiceList P (.str s b) = .ok r := by
  unfold doChoiceList
  split
  · rename_i h
    simp [truthy] at h
  · exact ⟨_, rfl⟩
  · split
    · -- every branch of the text case is a `return`
      repeat' split
      all_goals exact ⟨_, rfl⟩
    · rename_i h
      exact absurd rfl (h s b)

theorem doConvert_str_error (P : Prim) (τ : ColType) (s : Str) (b : Bool) (e : Str)
    (h : doConvert P τ (.str s b) = .error e) : doConvert P τ (.str s false) = .error e := by
  cases τ
  case text | choice | blob | any => cases h
  case choiceList =>
    obtain ⟨r, hr⟩ := doChoiceList_str_ok P s b
    have h' : doChoiceList P (.str s b) = .error e := h
    rw [hr] at h'
    cases h'
  case refList t =>
    have h' : doRefList P t (.str s b) = .error e := h
    rwa [doRefList_str] at h'
  case attachments =>
    have h' : doRefList P attachmentsTable (.str s b) = .error e := h
    rwa [doRefList_str] at h'
  -- the others do not look at the class of a string
  all_goals exact h

end Grist.PyVal
