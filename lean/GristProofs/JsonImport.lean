/-
The table store of GristModel/JsonImport.lean (C33): `rowsOf` after each store operation, the
induction `J.induct3` over the three loops, and what the loops keep (`Ext`, `add_preserves`).
-/
import GristModel.JsonImport
namespace Grist.JsonImport

theorem rowsOf_nil (T : String) : rowsOf [] T = [] := rfl

theorem rowsOf_cons (a : String) (rs : List Row) (st : St) (T : String) :
    rowsOf ((a, rs) :: st) T = if T = a then rs else rowsOf st T := by
  unfold rowsOf
  rw [List.lookup_cons]
  by_cases h : T = a
  · rw [if_pos h, beq_iff_eq.mpr h]
    rfl
  · rw [if_neg h, beq_eq_false_iff_ne.mpr h]

theorem any_name_iff (st : St) (t : String) :
    st.any (fun p => p.1 == t) = true ↔ t ∈ st.map (·.1) := by
  rw [List.any_eq_true, List.mem_map]
  exact ⟨fun ⟨p, hp, e⟩ => ⟨p, hp, beq_iff_eq.mp e⟩, fun ⟨p, hp, e⟩ => ⟨p, hp, beq_iff_eq.mpr e⟩⟩

theorem rowsOf_of_not_mem {st : St} {t : String} (h : t ∉ st.map (·.1)) : rowsOf st t = [] := by
  induction st with
  | nil => rfl
  | cons p st ih =>
    rw [List.map_cons, List.mem_cons, not_or] at h
    rw [rowsOf_cons, if_neg h.1, ih h.2]

theorem rowsOf_append_new {st : St} {t : String} (h : t ∉ st.map (·.1)) (rs : List Row) (T : String) :
    rowsOf (st ++ [(t, rs)]) T = if T = t then rs else rowsOf st T := by
  induction st with
  | nil => exact rowsOf_cons t rs [] T
  | cons p st ih =>
    rw [List.map_cons, List.mem_cons, not_or] at h
    rw [List.cons_append, rowsOf_cons, rowsOf_cons, ih h.2]
    by_cases hT : T = p.1
    · rw [if_pos hT, if_pos hT, if_neg (hT ▸ Ne.symm h.1)]
    · rw [if_neg hT, if_neg hT]


theorem rowsOf_ensure (st : St) (t T : String) : rowsOf (ensure st t) T = rowsOf st T := by
  unfold ensure
  split
  · rfl
  next h =>
    rw [any_name_iff] at h
    rw [rowsOf_append_new h]
    split
    next e =>
      rw [e, rowsOf_of_not_mem h]
    · rfl

theorem rowsOf_map_push_ne (st : St) (t : String) (r : Row) {T : String} (hT : T ≠ t) :
    rowsOf (st.map (fun p => if p.1 == t then (p.1, p.2 ++ [r]) else p)) T = rowsOf st T := by
  induction st with
  | nil => rfl
  | cons p st ih =>
    rw [List.map_cons]
    split
    next hb =>
      have hp : T ≠ p.1 := beq_iff_eq.mp hb ▸ hT
      rw [rowsOf_cons, rowsOf_cons, ih, if_neg hp, if_neg hp]
    · rw [rowsOf_cons, rowsOf_cons, ih]

theorem rowsOf_map_push_self (st : St) (t : String) (r : Row) (h : t ∈ st.map (·.1)) :
    rowsOf (st.map (fun p => if p.1 == t then (p.1, p.2 ++ [r]) else p)) t = rowsOf st t ++ [r] := by
  induction st with
  | nil => cases h
  | cons p st ih =>
    rw [List.map_cons]
    split
    next hb =>
      have hp : t = p.1 := (beq_iff_eq.mp hb).symm
      rw [rowsOf_cons, rowsOf_cons, if_pos hp, if_pos hp]
    next hb =>
      have hp : t ≠ p.1 := fun e => hb (beq_iff_eq.mpr e.symm)
      rw [List.map_cons, List.mem_cons] at h
      rw [rowsOf_cons, rowsOf_cons, if_neg hp, if_neg hp, ih (h.resolve_left hp)]

theorem rowsOf_push (st : St) (t : String) (r : Row) (T : String) :
    rowsOf (push st t r) T = if T = t then rowsOf st t ++ [r] else rowsOf st T := by
  unfold push
  split
  next h =>
    rw [any_name_iff] at h
    split
    next e =>
      rw [e, rowsOf_map_push_self st t r h]
    next e =>
      exact rowsOf_map_push_ne st t r e
  next h =>
    rw [any_name_iff] at h
    rw [rowsOf_append_new h, rowsOf_of_not_mem h]
    rfl

/-- the nine cases of `addRow` (`P`), `addElems` (`Q`) and `addItems` (`R`) -/
structure J.Steps (P : J → Prop) (Q : List J → Prop) (R : List (String × J) → Prop) : Prop where
  sc : ∀ s, P (.sc s)
  arr : ∀ xs, Q xs → P (.arr xs)
  obj : ∀ kvs, R kvs → P (.obj kvs)
  nil : Q []
  cons : ∀ x xs, P x → Q xs → Q (x :: xs)
  noItem : R []
  scItem : ∀ k s rest, R rest → R ((k, .sc s) :: rest)
  arrItem : ∀ k xs rest, Q xs → R rest → R ((k, .arr xs) :: rest)
  /-- `addItems` hands a nested object to `addRow` as a value, so this case gets `P` of it -/
  objItem : ∀ k kvs rest, P (.obj kvs) → R rest → R ((k, .obj kvs) :: rest)

variable {P : J → Prop} {Q : List J → Prop} {R : List (String × J) → Prop}

mutual
theorem J.indP (h : J.Steps P Q R) : ∀ v, P v
  | .sc s => h.sc s
  | .arr xs => h.arr xs (J.indQ h xs)
  | .obj kvs => h.obj kvs (J.indR h kvs)
theorem J.indQ (h : J.Steps P Q R) : ∀ xs, Q xs
  | [] => h.nil
  | x :: xs => h.cons x xs (J.indP h x) (J.indQ h xs)
theorem J.indR (h : J.Steps P Q R) : ∀ kvs, R kvs
  | [] => h.noItem
  | (k, .sc s) :: rest => h.scItem k s rest (J.indR h rest)
  | (k, .arr xs) :: rest => h.arrItem k xs rest (J.indQ h xs) (J.indR h rest)
  -- `J.indP h (.obj kvs)` is not a structurally smaller call; its `obj` case is inlined
  | (k, .obj kvs) :: rest => h.objItem k kvs rest (h.obj kvs (J.indR h kvs)) (J.indR h rest)
end

/-- `.1` speaks of `addRow`, `.2.1` of `addElems`, `.2.2` of `addItems` -/
theorem J.induct3 (h : J.Steps P Q R) : (∀ v, P v) ∧ (∀ xs, Q xs) ∧ (∀ kvs, R kvs) :=
  ⟨J.indP h, J.indQ h, J.indR h⟩

theorem rowsOf_open (o : Opts) (st : St) (table T : String) :
    rowsOf (open_ o st table).1 T = rowsOf st T := by
  unfold open_
  split
  · exact rowsOf_ensure st table T
  · rfl

theorem open_snd (o : Opts) (st : St) (table : String) :
    (open_ o st table).2 =
      if isIncluded o table then some ⟨table, (rowsOf st table).length + 1⟩ else none := by
  unfold open_
  split
  · simp only [rowsOf_ensure]
  · rfl

def mkRow (st : St) (table : String) (parent : Option Ref) (vals : List (String × Cell)) : Row :=
  ⟨vals, parent, ⟨table, (rowsOf st table).length + 1⟩⟩

theorem rowsOf_close_open (o : Opts) (st : St) (table : String) (parent : Option Ref)
    (vals : List (String × Cell)) (st2 : St) (T : String) :
    rowsOf (close st2 (open_ o st table).2 parent vals) T =
      rowsOf st2 T ++ (if isIncluded o table = true ∧ T = table then [mkRow st table parent vals] else []) := by
  rw [open_snd]
  by_cases hinc : isIncluded o table = true
  · rw [if_pos hinc]
    simp only [close, rowsOf_push, hinc, true_and]
    split
    next hT =>
      rw [hT]
      rfl
    · exact (List.append_nil _).symm
  · rw [if_neg hinc, if_neg (fun h => hinc h.1)]
    exact (List.append_nil _).symm

/-- every table's row list only grew at the end, and tables with a name shorter than `n` are
    untouched -/
def Ext (n : Nat) (st st' : St) : Prop :=
  ∀ T, (rowsOf st T <+: rowsOf st' T) ∧ (T.length < n → rowsOf st' T = rowsOf st T)

theorem Ext.refl (n : Nat) (st : St) : Ext n st st := fun _ => ⟨List.prefix_refl _, fun _ => rfl⟩

theorem Ext.trans {n : Nat} {a b c : St} (h1 : Ext n a b) (h2 : Ext n b c) : Ext n a c := fun T =>
  ⟨List.IsPrefix.trans (h1 T).1 (h2 T).1, fun h => by rw [(h2 T).2 h, (h1 T).2 h]⟩

theorem Ext.mono {n m : Nat} {a b : St} (h : Ext n a b) (hm : m ≤ n) : Ext m a b := fun T =>
  ⟨(h T).1, fun hT => (h T).2 (Nat.lt_of_lt_of_le hT hm)⟩

theorem sub_length (table k : String) : (sub table k).length = table.length + 1 + k.length := by
  unfold sub
  rw [String.length_append, String.length_append]
  rfl

theorem Ext.of_sub {table k : String} {a b : St} (h : Ext (sub table k).length a b) :
    Ext (table.length + 1) a b :=
  h.mono (sub_length table k ▸ Nat.le_add_right _ _)

theorem open_fst_ext (n : Nat) (o : Opts) (st : St) (table : String) : Ext n st (open_ o st table).1 :=
  fun T => by
    rw [rowsOf_open]
    exact ⟨List.prefix_refl _, fun _ => rfl⟩

theorem close_open_ext (o : Opts) (st : St) (table : String) (parent : Option Ref)
    (vals : List (String × Cell)) (st2 : St) :
    Ext table.length st2 (close st2 (open_ o st table).2 parent vals) := fun T => by
  rw [rowsOf_close_open]
  refine ⟨List.prefix_append _ _, fun hT => ?_⟩
  rw [if_neg (fun h => Nat.lt_irrefl _ (h.2 ▸ hT)), List.append_nil]

theorem rowsOf_close_open_self (o : Opts) (st : St) (table : String) (parent : Option Ref)
    (vals : List (String × Cell)) (st2 : St)
    (hext : Ext (table.length + 1) (open_ o st table).1 st2) :
    rowsOf (close st2 (open_ o st table).2 parent vals) table =
      rowsOf st table ++ (if isIncluded o table = true then [mkRow st table parent vals] else []) := by
  rw [rowsOf_close_open, (hext table).2 (Nat.lt_succ_self _), rowsOf_open]
  simp only [and_true]

theorem add_ext :
    (∀ v, ∀ o st table parent, Ext table.length st (addRow o st table parent v).1) ∧
    (∀ xs, ∀ o st table parent, Ext table.length st (addElems o st table parent xs)) ∧
    (∀ kvs, ∀ o st table me, Ext (table.length + 1) st (addItems o st table me kvs).1) := by
  apply J.induct3
  constructor
  case sc =>
    intro s o st table parent
    simp only [addRow]
    exact (open_fst_ext _ o st table).trans (close_open_ext o st table parent _ _)
  case arr =>
    intro xs ih o st table parent
    simp only [addRow]
    exact (open_fst_ext _ o st table).trans
      (((ih o _ (sub table "") _).of_sub.mono (Nat.le_succ _)).trans
        (close_open_ext o st table parent _ _))
  case obj =>
    intro kvs ih o st table parent
    simp only [addRow]
    exact (open_fst_ext _ o st table).trans
      (((ih o _ table _).mono (Nat.le_succ _)).trans (close_open_ext o st table parent _ _))
  case nil =>
    intro o st table parent
    simp only [addElems]
    exact Ext.refl _ _
  case cons =>
    intro x xs ihx ihxs o st table parent
    simp only [addElems]
    exact (ihx o st table parent).trans (ihxs o _ table parent)
  case noItem =>
    intro o st table me
    simp only [addItems]
    exact Ext.refl _ _
  case scItem =>
    intro k s rest ih o st table me
    simp only [addItems]
    exact ih o st table me
  case arrItem =>
    intro k xs rest ihxs ih o st table me
    simp only [addItems]
    exact (ihxs o st (sub table k) me).of_sub.trans (ih o _ table me)
  case objItem =>
    intro k kvs rest ihv ih o st table me
    simp only [addItems]
    exact (ihv o st (sub table k) none).of_sub.trans (ih o _ table me)

/-- A property of the store that `open_` keeps, and that closing a row keeps once the children
    have left the row's own table alone, holds throughout the three loops. -/
theorem add_preserves {I : St → Prop}
    (hopen : ∀ o st table, I st → I (open_ o st table).1)
    (hclose : ∀ o st table parent vals st2, Ext (table.length + 1) (open_ o st table).1 st2 →
      I st2 → I (close st2 (open_ o st table).2 parent vals)) :
    (∀ v, ∀ o st table parent, I st → I (addRow o st table parent v).1) ∧
    (∀ xs, ∀ o st table parent, I st → I (addElems o st table parent xs)) ∧
    (∀ kvs, ∀ o st table me, I st → I (addItems o st table me kvs).1) := by
  apply J.induct3
  constructor
  case sc =>
    intro s o st table parent h
    simp only [addRow]
    exact hclose o st table parent _ _ (Ext.refl _ _) (hopen o st table h)
  case arr =>
    intro xs ih o st table parent h
    simp only [addRow]
    exact hclose o st table parent _ _ (add_ext.2.1 xs o _ (sub table "") _).of_sub
      (ih o _ _ _ (hopen o st table h))
  case obj =>
    intro kvs ih o st table parent h
    simp only [addRow]
    exact hclose o st table parent _ _ (add_ext.2.2 kvs o _ table _) (ih o _ _ _ (hopen o st table h))
  case nil =>
    intro o st table parent h
    simpa only [addElems] using h
  case cons =>
    intro x xs ihx ihxs o st table parent h
    simp only [addElems]
    exact ihxs o _ table parent (ihx o st table parent h)
  case noItem =>
    intro o st table me h
    simpa only [addItems] using h
  case scItem =>
    intro k s rest ih o st table me h
    simp only [addItems]
    exact ih o st table me h
  case arrItem =>
    intro k xs rest ihxs ih o st table me h
    simp only [addItems]
    exact ih o _ table me (ihxs o st _ me h)
  case objItem =>
    intro k kvs rest ihv ih o st table me h
    simp only [addItems]
    exact ih o _ table me (ihv o st _ none h)

def IdsConsecutive (st : St) : Prop :=
  ∀ (T : String) (i : Nat) (row : Row), (rowsOf st T)[i]? = some row → row.ref = ⟨T, i + 1⟩

theorem IdsConsecutive.nil : IdsConsecutive [] := fun _ _ _ h => nomatch h

theorem open_idsConsecutive (o : Opts) (st : St) (table : String) (h : IdsConsecutive st) :
    IdsConsecutive (open_ o st table).1 :=
  fun T i row hr => h T i row (rowsOf_open o st table T ▸ hr)

theorem close_open_idsConsecutive (o : Opts) (st : St) (table : String) (parent : Option Ref)
    (vals : List (String × Cell)) (st2 : St)
    (hext : Ext (table.length + 1) (open_ o st table).1 st2) (hwf : IdsConsecutive st2) :
    IdsConsecutive (close st2 (open_ o st table).2 parent vals) := by
  intro T i row hrow
  rw [rowsOf_close_open] at hrow
  by_cases hi : i < (rowsOf st2 T).length
  · rw [List.getElem?_append_left hi] at hrow
    exact hwf T i row hrow
  · -- the new row: its id was taken from the length of the table before the children ran,
    -- still the length now (`hext`)
    rw [List.getElem?_append_right (Nat.le_of_not_lt hi)] at hrow
    split at hrow
    next hc =>
      obtain ⟨hlt, rfl⟩ := List.getElem?_eq_some_iff.mp hrow
      have hlen : (rowsOf st2 T).length = (rowsOf st table).length := by
        rw [hc.2, (hext table).2 (Nat.lt_succ_self _), rowsOf_open]
      have hi' : i = (rowsOf st table).length := by
        rw [List.length_singleton] at hlt
        omega
      rw [List.getElem_singleton, hi', hc.2]
      rfl
    · cases hrow

theorem add_idsConsecutive :
    (∀ v, ∀ o st table parent, IdsConsecutive st → IdsConsecutive (addRow o st table parent v).1) ∧
    (∀ xs, ∀ o st table parent, IdsConsecutive st → IdsConsecutive (addElems o st table parent xs)) ∧
    (∀ kvs, ∀ o st table me, IdsConsecutive st → IdsConsecutive (addItems o st table me kvs).1) :=
  add_preserves open_idsConsecutive close_open_idsConsecutive

/-- table names are distinct (`_tables` is a dict) -/
def Uniq (st : St) : Prop := (st.map (·.1)).Nodup

theorem Uniq.nil : Uniq [] := List.nodup_nil

theorem Uniq.append_new {st : St} (h : Uniq st) {t : String} (hn : t ∉ st.map (·.1))
    (rs : List Row) : Uniq (st ++ [(t, rs)]) := by
  unfold Uniq at h ⊢
  rw [List.map_append, List.nodup_append]
  refine ⟨h, List.pairwise_singleton _ _, fun a ha b hb e => hn ?_⟩
  obtain rfl : b = t := List.mem_singleton.mp hb
  exact e ▸ ha

theorem Uniq.ensure {st : St} (h : Uniq st) (t : String) : Uniq (ensure st t) := by
  unfold JsonImport.ensure
  split
  · exact h
  next hn =>
    exact h.append_new (mt (any_name_iff st t).mpr hn) []

theorem Uniq.push {st : St} (h : Uniq st) (t : String) (r : Row) : Uniq (push st t r) := by
  unfold JsonImport.push
  split
  · unfold Uniq at h ⊢
    rw [List.map_map]
    refine (List.map_congr_left fun p _ => ?_) ▸ h
    simp only [Function.comp]
    split <;> rfl
  next hn =>
    exact h.append_new (mt (any_name_iff st t).mpr hn) [r]

theorem rowsOf_of_mem {st : St} (h : Uniq st) (n : String) (rows : List Row) (hm : (n, rows) ∈ st) :
    rowsOf st n = rows := by
  induction st with
  | nil => cases hm
  | cons p st ih =>
    unfold Uniq at h
    rw [List.map_cons, List.nodup_cons] at h
    rw [rowsOf_cons]
    rcases List.mem_cons.mp hm with e | hm'
    · rw [← e]
      exact if_pos rfl
    · rw [if_neg fun e => h.1 (List.mem_map.mpr ⟨(n, rows), hm', e⟩)]
      exact ih h.2 hm'

theorem open_uniq (o : Opts) (st : St) (table : String) (h : Uniq st) : Uniq (open_ o st table).1 := by
  unfold open_
  split
  · exact h.ensure table
  · exact h

theorem close_uniq {st : St} (h : Uniq st) (me parent : Option Ref) (vals : List (String × Cell)) :
    Uniq (close st me parent vals) := by
  unfold close
  cases me with
  | none => exact h
  | some r => exact h.push _ _

theorem add_uniq :
    (∀ v, ∀ o st table parent, Uniq st → Uniq (addRow o st table parent v).1) ∧
    (∀ xs, ∀ o st table parent, Uniq st → Uniq (addElems o st table parent xs)) ∧
    (∀ kvs, ∀ o st table me, Uniq st → Uniq (addItems o st table me kvs).1) :=
  add_preserves open_uniq fun _ _ _ _ _ _ _ h => close_uniq h _ _ _

end Grist.JsonImport
