/-
The proleptic Gregorian year count shared by CPython's `_ymd2ord`/`_ord2ymd` and SCHEDULE's era-based
`days_from_civil`/`civil_from_days`: both count `yearDays Y` days in the years `1..Y` and find a year
by peeling off the mixed-radix digits of the 400/100/4/1-year cycle.
-/
namespace Grist.Cal

/-- The form in which a `/`, `%` pair, generalised to two variables, is handed to `omega`. -/
theorem divmod_spec (n B : Int) (hB : 0 < B) : n = B * (n / B) + n % B ∧ 0 ≤ n % B ∧ n % B < B :=
  ⟨(Int.mul_ediv_add_emod n B).symm, Int.emod_nonneg _ (Int.ne_of_gt hB), Int.emod_lt_of_pos _ hB⟩

/-- Number of days in the years `1 .. Y` (`Y` any integer): CPython's `_days_before_year(Y + 1)`. -/
def yearDays (Y : Int) : Int := 365 * Y + Y / 4 - Y / 100 + Y / 400

/-- `_is_leap(y)` as a proposition. -/
def Leap (y : Int) : Prop := y % 4 = 0 ∧ (y % 100 ≠ 0 ∨ y % 400 = 0)

theorem yearDays_digits (a b c d : Int) (hb : 0 ≤ b ∧ b ≤ 3) (hc : 0 ≤ c ∧ c ≤ 24)
    (hd : 0 ≤ d ∧ d ≤ 3) :
    yearDays (400 * a + 100 * b + 4 * c + d) = 146097 * a + 36524 * b + 1461 * c + 365 * d := by
  unfold yearDays
  omega

/-- `_ord2ymd`'s own leap test: last year of a 4-cycle that is not cut short by the end of a century,
    save every fourth century. -/
theorem leap_digits (a b c d : Int) (hb : 0 ≤ b ∧ b ≤ 3) (hc : 0 ≤ c ∧ c ≤ 24)
    (hd : 0 ≤ d ∧ d ≤ 3) :
    Leap (400 * a + 100 * b + 4 * c + d + 1) ↔ d = 3 ∧ (c ≠ 24 ∨ b = 3) := by
  unfold Leap
  omega

theorem yearDays_mono {Y Y' : Int} (h : Y ≤ Y') : yearDays Y ≤ yearDays Y' := by
  unfold yearDays
  omega

theorem yearDays_succ_of_leap {Y : Int} (h : Leap (Y + 1)) : yearDays (Y + 1) = yearDays Y + 366 := by
  unfold yearDays
  unfold Leap at h
  omega

theorem yearDays_succ_of_not_leap {Y : Int} (h : ¬ Leap (Y + 1)) :
    yearDays (Y + 1) = yearDays Y + 365 := by
  unfold yearDays
  unfold Leap at h
  omega

theorem yearDays_succ_bounds (Y : Int) :
    yearDays Y + 365 ≤ yearDays (Y + 1) ∧ yearDays (Y + 1) ≤ yearDays Y + 366 := by
  by_cases h : Leap (Y + 1)
  · rw [yearDays_succ_of_leap h]
    omega
  · rw [yearDays_succ_of_not_leap h]
    omega

end Grist.Cal
