/-
Recalc (GristModel/Recalc.lean): the notions in which C05, C06 and C18 are stated (`Ev.isCalc`,
`DependsOnSelf`, `WFState`, `Good`, `Inv` as an instance of `CleanInv`, `Prog.PrefixDet`), the
equations of `step`, induction along runs, termination, and the instance `sumProg`.
-/
import GristModel.Recalc
import GristProofs.Basics
namespace Grist.Recalc

deriving instance DecidableEq for Ev

/-- eval / circ events (the recalculation proper); `write` is a doc action -/
def Ev.isCalc : Ev → Bool
  | .write _ _ => false
  | _ => true

/-- `c` depends on itself through `deps` of formula cells (the model's `onCycle`, unrestricted) -/
def DependsOnSelf (p : Prog) (n c : Nat) : Prop := onCycle p n (fun _ => true) c = true

/-- well-formed state: dirty cells are formula cells `< n`, listed once; `deps` of cells `< n`
    stay `< n` (for `reads` this follows under `Respects`, see `WFState.reads_lt`). -/
structure WFState (p : Prog) (n : Nat) (st : State) : Prop where
  dirty_formula : ∀ c ∈ st.dirty, p.formula c = true ∧ c < n
  dirty_nodup : st.dirty.Nodup
  deps_lt : ∀ c, c < n → ∀ d ∈ p.deps c, d < n

/-- a clean cell is *good*: its evaluation reads no dirty cell and its value is up to date -/
def Good (p : Prog) (st : State) (c : Nat) : Prop :=
  (∀ d ∈ p.reads c st.σ, d ∉ st.dirty) ∧ st.σ c = p.f c st.σ

/-- The shape of both invariants (`Inv` below, `Inv2` in RecalcInv): every clean formula cell `< n`
    is good, or holds `circ` and satisfies `Q`. -/
def CleanInv (Q : State → Nat → Prop) (p : Prog) (n : Nat) (st : State) : Prop :=
  ∀ c, c < n → p.formula c = true → c ∉ st.dirty → Good p st c ∨ (st.σ c = V.circ ∧ Q st c)

/-- The invariant: every clean formula cell `< n` is good, or it holds `circ` and depends on
    itself.  (A cell that got `circ` from the cycle branch is clean while cells it reads are still
    dirty, so "no clean cell has read a dirty cell" cannot be required of it.) -/
def Inv (p : Prog) (n : Nat) (st : State) : Prop :=
  ∀ c, c < n → p.formula c = true → c ∉ st.dirty →
    Good p st c ∨ (st.σ c = V.circ ∧ DependsOnSelf p n c)

theorem inv_iff_cleanInv {p : Prog} {n : Nat} {st : State} :
    Inv p n st ↔ CleanInv (fun _ c => DependsOnSelf p n c) p n st := Iff.rfl

theorem CleanInv.of_all_dirty {Q : State → Nat → Prop} {p : Prog} {n : Nat} {st : State}
    (h : ∀ c, c < n → p.formula c = true → c ∈ st.dirty) : CleanInv Q p n st :=
  fun c hc hf hnd => absurd (h c hc hf) hnd

theorem Inv.of_all_dirty {p : Prog} {n : Nat} {st : State}
    (h : ∀ c, c < n → p.formula c = true → c ∈ st.dirty) : Inv p n st :=
  inv_iff_cleanInv.mpr (.of_all_dirty h)

/-- the evaluation reads cell after cell: having read the same values so far, it reads the same
    cell next (what a deterministic program does; `Respects` alone does not fix the order) -/
def Prog.PrefixDet (p : Prog) : Prop :=
  ∀ c σ σ' pre d post, p.reads c σ = pre ++ d :: post → (∀ x ∈ pre, σ x = σ' x) →
    ∃ post', p.reads c σ' = pre ++ d :: post'

theorem WFState.reads_lt {p : Prog} {n : Nat} {st : State} (h : WFState p n st)
    (hr : p.Respects) {c : Nat} (hc : c < n) (σ : Nat → V) : ∀ d ∈ p.reads c σ, d < n :=
  fun d hd => h.deps_lt c hc d (hr.1 c σ d hd)

theorem blocker_eq_none {p : Prog} {st : State} {c : Nat} :
    blocker p st c = none ↔ ∀ d ∈ p.reads c st.σ, d ∉ st.dirty := by
  simp [blocker]

theorem blocker_eq_some {p : Prog} {st : State} {c d : Nat} (h : blocker p st c = some d) :
    d ∈ p.reads c st.σ ∧ d ∈ st.dirty ∧
      ∃ pre post, p.reads c st.σ = pre ++ d :: post ∧ ∀ x ∈ pre, x ∉ st.dirty := by
  obtain ⟨hd, pre, post, hr, hpre⟩ := List.find?_eq_some_iff_append.mp h
  exact ⟨List.mem_of_find?_eq_some h, by simpa using hd, pre, post, hr, by simpa using hpre⟩

theorem step_eval_iff {p : Prog} {n : Nat} {st st' : State} {c : Nat} :
    step p n st (.eval c) = some st' ↔
      (c < n ∧ p.formula c = true ∧ c ∈ st.dirty ∧ blocker p st c = none) ∧
      { σ := upd st.σ c (p.f c st.σ), dirty := st.dirty.filter (· != c) } = st' := by
  simp only [step, Option.ite_none_right_eq_some, Option.some.injEq, Bool.and_eq_true,
    decide_eq_true_eq, List.contains_iff_mem, Option.isNone_iff_eq_none, and_assoc]

theorem step_circ_iff {p : Prog} {n : Nat} {st st' : State} {c : Nat} :
    step p n st (.circ c) = some st' ↔
      (c < n ∧ p.formula c = true ∧ c ∈ st.dirty ∧ blockCycle p st c n c = true) ∧
      { σ := upd st.σ c V.circ, dirty := st.dirty.filter (· != c) } = st' := by
  simp only [step, Option.ite_none_right_eq_some, Option.some.injEq, Bool.and_eq_true,
    decide_eq_true_eq, List.contains_iff_mem, and_assoc]

theorem step_write_iff {p : Prog} {n : Nat} {st st' : State} {c : Nat} {v : V} :
    step p n st (.write c v) = some st' ↔
      (p.formula c = false ∧ c < n) ∧
      { σ := upd st.σ c v,
        dirty := (List.range n).filter (fun k => st.dirty.contains k ||
                   (k != c && (closure p n [c]).contains k)) } = st' := by
  simp only [step, Option.ite_none_left_eq_some, Option.some.injEq, Bool.or_eq_true,
    Bool.not_eq_true', decide_eq_false_iff_not, not_or, Bool.not_eq_true, Decidable.not_not]

theorem calc_step_eq {p : Prog} {n : Nat} {st st' : State} {e : Ev} (he : e.isCalc = true)
    (h : step p n st e = some st') :
    ∃ c v, (c < n ∧ p.formula c = true ∧ c ∈ st.dirty) ∧
      { σ := upd st.σ c v, dirty := st.dirty.filter (· != c) } = st' := by
  cases e with
  | write c v => cases he
  | eval c =>
    obtain ⟨h1, h2⟩ := step_eval_iff.mp h
    exact ⟨c, _, ⟨h1.1, h1.2.1, h1.2.2.1⟩, h2⟩
  | circ c =>
    obtain ⟨h1, h2⟩ := step_circ_iff.mp h
    exact ⟨c, _, ⟨h1.1, h1.2.1, h1.2.2.1⟩, h2⟩

theorem reaches_succ {p : Prog} {fuel c t : Nat} :
    reaches p (fun _ => true) (fuel + 1) c t = true ↔
      p.formula c = true ∧ ∃ d ∈ p.deps c, d = t ∨ reaches p (fun _ => true) fuel d t = true := by
  simp only [reaches, Bool.and_true, Bool.true_and, Bool.and_eq_true, List.any_eq_true,
    Bool.or_eq_true, beq_iff_eq]

theorem run_cons_some {p : Prog} {n : Nat} {st st' : State} {e : Ev} {es : List Ev}
    (h : run p n st (e :: es) = some st') :
    ∃ st1, step p n st e = some st1 ∧ run p n st1 es = some st' := by
  simp only [run] at h
  split at h
  · cases h
  · exact ⟨_, by assumption, h⟩

theorem run_induction {p : Prog} {n : Nat} {I : State → Prop} : ∀ (es : List Ev) {st st' : State},
    (∀ e ∈ es, ∀ s s', I s → step p n s e = some s' → I s') → I st →
    run p n st es = some st' → I st' := by
  intro es
  induction es with
  | nil =>
    intro st st' _ hi h
    cases h
    exact hi
  | cons e es ih =>
    intro st st' hs hi h
    obtain ⟨st1, h1, h2⟩ := run_cons_some h
    exact ih (fun e he => hs e (List.mem_cons_of_mem _ he))
      (hs e List.mem_cons_self st st1 hi h1) h2

theorem calc_step_dirty_decreases {p : Prog} {n : Nat} {st st' : State} {e : Ev}
    (he : e.isCalc = true) (h : step p n st e = some st') :
    st'.dirty.length < st.dirty.length := by
  obtain ⟨c, _, hc, rfl⟩ := calc_step_eq he h
  exact List.length_filter_lt_length_iff_exists.mpr ⟨c, hc.2.2, by simp⟩

theorem calc_run_length : ∀ (es : List Ev) {p : Prog} {n : Nat} {st st' : State},
    (∀ e ∈ es, e.isCalc = true) → run p n st es = some st' →
    es.length + st'.dirty.length ≤ st.dirty.length := by
  intro es
  induction es with
  | nil =>
    intro p n st st' _ h
    cases h
    simp
  | cons e es ih =>
    intro p n st st' hc h
    obtain ⟨st1, h1, h2⟩ := run_cons_some h
    have := ih (fun e he => hc e (List.mem_cons_of_mem _ he)) h2
    have := calc_step_dirty_decreases (hc e List.mem_cons_self) h1
    simp only [List.length_cons]
    omega

theorem reaches_of_blockCycle {p : Prog} (hr : p.Respects) {st : State} {c : Nat} :
    ∀ (fuel cur : Nat), p.formula cur = true → blockCycle p st c fuel cur = true →
      reaches p (fun _ => true) fuel cur c = true := by
  intro fuel
  induction fuel with
  | zero =>
    intro cur _ h
    cases h
  | succ fuel ih =>
    intro cur hf h
    simp only [blockCycle] at h
    split at h
    · cases h
    · rename_i d hd
      simp only [Bool.or_eq_true, beq_iff_eq, Bool.and_eq_true] at h
      exact reaches_succ.mpr ⟨hf, d, hr.1 _ _ _ (blocker_eq_some hd).1,
        h.imp_right fun h => ih d h.1 h.2⟩

theorem sumReads_go_cons (σ : Nat → V) (x : Nat) (xs : List Nat) :
    sumReads.go σ (x :: xs) = x :: (if σ x = V.circ then [] else sumReads.go σ xs) := by
  simp only [sumReads.go, beq_iff_eq]
  split <;> rfl

theorem sumReads_go_subset (σ : Nat → V) : ∀ (l : List Nat), ∀ d ∈ sumReads.go σ l, d ∈ l := by
  intro l
  induction l with
  | nil =>
    intro d h
    cases h
  | cons x xs ih =>
    intro d h
    rw [sumReads_go_cons, List.mem_cons] at h
    refine List.mem_cons.mpr (h.imp_right fun h => ?_)
    split at h
    · cases h
    · exact ih d h

def sumStep (σ : Nat → V) (acc : V) (d : Nat) : V :=
  match acc, σ d with
  | .num a, .num b => .num (a + b)
  | _, _ => .circ

theorem sumF_eq (deps : Nat → List Nat) (konst : Nat → Int) (c : Nat) (σ : Nat → V) :
    sumF deps konst c σ = (deps c).foldl (sumStep σ) (.num (konst c)) := rfl

theorem sumStep_circ {σ : Nat → V} {x : Nat} (hx : σ x = V.circ) (acc : V) :
    sumStep σ acc x = .circ := by
  unfold sumStep
  rw [hx]
  cases acc <;> rfl

theorem foldl_sumStep_circ (σ : Nat → V) : ∀ (l : List Nat), l.foldl (sumStep σ) .circ = .circ := by
  intro l
  induction l with
  | nil => rfl
  | cons x xs ih => exact ih

theorem foldl_sumStep_of_circ (σ : Nat → V) : ∀ (l : List Nat) (acc : V),
    (∃ d ∈ l, σ d = V.circ) → l.foldl (sumStep σ) acc = .circ := by
  intro l
  induction l with
  | nil =>
    intro acc h
    simp at h
  | cons x xs ih =>
    intro acc h
    rw [List.foldl_cons]
    by_cases hx : σ x = V.circ
    · rw [sumStep_circ hx]
      exact foldl_sumStep_circ σ xs
    · obtain ⟨d, hd, hc⟩ := h
      rcases List.mem_cons.mp hd with rfl | hd
      · exact absurd hc hx
      · exact ih _ ⟨d, hd, hc⟩

theorem sumProg_go_congr (σ σ' : Nat → V) : ∀ (l : List Nat) (acc : V),
    (∀ d ∈ sumReads.go σ l, σ d = σ' d) →
    sumReads.go σ' l = sumReads.go σ l ∧ l.foldl (sumStep σ') acc = l.foldl (sumStep σ) acc := by
  intro l
  induction l with
  | nil =>
    intro acc _
    exact ⟨rfl, rfl⟩
  | cons x xs ih =>
    intro acc h
    rw [sumReads_go_cons] at h
    have hx : σ x = σ' x := h x List.mem_cons_self
    have s : sumStep σ' acc x = sumStep σ acc x := by
      unfold sumStep
      rw [hx]
    rw [sumReads_go_cons, sumReads_go_cons, List.foldl_cons, List.foldl_cons, s, ← hx]
    by_cases hc : σ x = V.circ
    · simp only [if_pos hc, sumStep_circ hc, foldl_sumStep_circ, and_self]
    · simp only [if_neg hc] at h ⊢
      obtain ⟨i1, i2⟩ := ih (sumStep σ acc x) fun d hd => h d (List.mem_cons_of_mem _ hd)
      rw [i1, i2]
      exact ⟨rfl, rfl⟩

theorem sumProg_respects (formula : Nat → Bool) (deps : Nat → List Nat) (konst : Nat → Int) :
    (sumProg formula deps konst).Respects :=
  ⟨fun _ σ d hd => sumReads_go_subset σ _ d hd,
   fun c σ σ' h => sumProg_go_congr σ σ' (deps c) (.num (konst c)) h⟩

theorem sumProg_strict (formula : Nat → Bool) (deps : Nat → List Nat) (konst : Nat → Int) :
    (sumProg formula deps konst).Strict := by
  intro c σ ⟨d, hd, hc⟩
  exact foldl_sumStep_of_circ σ _ _ ⟨d, sumReads_go_subset σ _ d hd, hc⟩

theorem sumReads_go_prefix (σ σ' : Nat → V) : ∀ (l pre : List Nat) (d : Nat) (post : List Nat),
    sumReads.go σ l = pre ++ d :: post → (∀ x ∈ pre, σ x = σ' x) →
    ∃ post', sumReads.go σ' l = pre ++ d :: post' := by
  intro l
  induction l with
  | nil =>
    intro pre d post h _
    cases pre <;> cases h
  | cons x xs ih =>
    intro pre d post h hag
    rw [sumReads_go_cons] at h ⊢
    cases pre with
    | nil =>
      rw [(List.cons.inj h).1]
      exact ⟨_, rfl⟩
    | cons y pre' =>
      obtain ⟨rfl, ht⟩ := List.cons.inj h
      -- `x` is not the last read, so it did not raise; nor does it in `σ'`, where it holds the same
      have hx : ¬ σ x = V.circ := by
        intro hc
        rw [if_pos hc] at ht
        cases pre' <;> cases ht
      rw [if_neg hx] at ht
      rw [if_neg (hag x List.mem_cons_self ▸ hx)]
      obtain ⟨post', hp⟩ := ih pre' d post ht fun z hz => hag z (List.mem_cons_of_mem _ hz)
      exact ⟨post', congrArg (x :: ·) hp⟩

theorem sumProg_prefixDet (formula : Nat → Bool) (deps : Nat → List Nat) (konst : Nat → Int) :
    (sumProg formula deps konst).PrefixDet :=
  fun c σ σ' pre d post h hag => sumReads_go_prefix σ σ' (deps c) pre d post h hag

end Grist.Recalc
