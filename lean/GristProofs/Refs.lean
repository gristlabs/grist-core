/-
The reference index of one column, for C10 and C11.  Defines `Exact`, `StrictSorted`, `lastVal`.  Every
column operation keeps `Exact` and never raises on an exact column; the clean-up after a removal
rewrites every cell to `cleanCell` of its old value.
-/
import GristModel.Refs
namespace Grist.Refs

/-- "the reverse index is exact": `r ∈ inverse_map[t]` iff row `r`'s cell refers to `t`. -/
def Exact (c : Col) : Prop := ∀ t r, r ∈ invGet c.inv t ↔ t ∈ refs c.kind (rawGet c r)

def StrictSorted : List Nat → Prop
  | [] => True
  | [_] => True
  | a :: b :: rest => a < b ∧ StrictSorted (b :: rest)

/-- the value written last to row `b` by a list of `(row, value)` writes -/
def lastVal : List (Nat × Cell) → Nat → Option Cell
  | [], _ => none
  | (r, v) :: rest, b => match lastVal rest b with
    | some w => some w
    | none => if r = b then some v else none

theorem aGet_aUpd {β : Type} (d : β) (m : List (Nat × β)) (t t' : Nat) (f : β → β) :
    aGet d (aUpd d m t f) t' = if t' = t then f (aGet d m t) else aGet d m t' := by
  induction m with
  | nil => simp only [aUpd, aGet, eq_comm]
  | cons e rest ih =>
    rw [aUpd]
    split
    · next hk =>
      simp only [aGet, hk, if_true, eq_comm (a := t')]
      split <;> rfl
    · next hk =>
      simp only [aGet, ih, if_neg hk]
      by_cases h : e.1 = t'
      · rw [if_pos h, if_pos h, if_neg (h ▸ hk)]
      · rw [if_neg h, if_neg h]

theorem aHas_aUpd {β : Type} (d : β) (m : List (Nat × β)) (t t' : Nat) (f : β → β) :
    aHas (aUpd d m t f) t' = (aHas m t' || decide (t' = t)) := by
  induction m with
  | nil =>
    simp only [aUpd, aHas, eq_comm (a := t), Bool.false_or]
    split
    · next h => rw [decide_eq_true h]
    · next h => rw [decide_eq_false h]
  | cons e rest ih =>
    rw [aUpd]
    split
    · next hk =>
      simp only [aHas, hk]
      split
      · rfl
      · next h => simp [Ne.symm h]
    · simp only [aHas, ih]
      split <;> rfl

theorem aGet_of_not_has {β : Type} (d : β) : ∀ (m : List (Nat × β)) (t : Nat), aHas m t = false →
    aGet d m t = d := by
  intro m t
  induction m with
  | nil => intro _; rfl
  | cons e rest ih =>
    rw [aHas, aGet]
    split
    · intro h
      cases h
    · exact ih

/-- `for t in ts: m[t] = f(m.setdefault(t, d))`, `f` idempotent -/
theorem aGet_foldl_aUpd {β : Type} (d : β) (f : β → β) (hf : ∀ b, f (f b) = f b) :
    ∀ (ts : List Nat) (a : List (Nat × β)) (t : Nat),
    aGet d (ts.foldl (fun a t => aUpd d a t f) a) t =
      if t ∈ ts then f (aGet d a t) else aGet d a t := by
  intro ts
  induction ts with
  | nil => intro a t; simp
  | cons t0 rest ih =>
    intro a t
    rw [List.foldl_cons, ih, aGet_aUpd]
    by_cases h0 : t = t0
    · -- `t` is updated now and perhaps again later: `f` twice is `f` once
      rw [if_pos h0, if_pos (List.mem_cons.2 (Or.inl h0)), hf, ite_self, h0]
    · simp only [h0, if_false, List.mem_cons, false_or]

theorem aHas_foldl_aUpd {β : Type} (d : β) (f : β → β) :
    ∀ (ts : List Nat) (a : List (Nat × β)) (t : Nat),
    aHas (ts.foldl (fun a t => aUpd d a t f) a) t = (aHas a t || decide (t ∈ ts)) := by
  intro ts
  induction ts with
  | nil => intro a t; simp
  | cons t0 rest ih =>
    intro a t
    rw [List.foldl_cons, ih, aHas_aUpd, Bool.or_assoc, ← Bool.decide_or]
    simp only [List.mem_cons]

theorem mem_setAdd (s : List Nat) (r x : Nat) : x ∈ setAdd s r ↔ x ∈ s ∨ x = r := by
  unfold setAdd
  split
  · next hr => exact ⟨Or.inl, fun h => h.elim id (· ▸ hr)⟩
  · simp

theorem mem_setDiscard (s : List Nat) (r x : Nat) : x ∈ setDiscard s r ↔ x ∈ s ∧ x ≠ r := by
  simp [setDiscard]

theorem setAdd_idem (s : List Nat) (r : Nat) : setAdd (setAdd s r) r = setAdd s r := by
  rw [setAdd, if_pos ((mem_setAdd s r r).2 (Or.inr rfl))]

theorem setDiscard_idem (s : List Nat) (r : Nat) : setDiscard (setDiscard s r) r = setDiscard s r := by
  simp [setDiscard, List.filter_filter]

theorem mem_foldl_setAdd (add : List Nat) : ∀ (s : List Nat) (x : Nat),
    x ∈ add.foldl setAdd s ↔ x ∈ s ∨ x ∈ add := by
  induction add with
  | nil => simp
  | cons a rest ih =>
    intro s x
    simp only [List.foldl_cons, ih, mem_setAdd, List.mem_cons, or_assoc]

theorem mem_foldl_setDiscard (rem : List Nat) : ∀ (s : List Nat) (x : Nat),
    x ∈ rem.foldl setDiscard s ↔ x ∈ s ∧ x ∉ rem := by
  induction rem with
  | nil => simp
  | cons a rest ih =>
    intro s x
    simp only [List.foldl_cons, ih, mem_setDiscard, List.mem_cons, not_or, and_assoc, ne_eq]

theorem mem_insertSorted (x y : Nat) (l : List Nat) : y ∈ insertSorted x l ↔ y = x ∨ y ∈ l := by
  induction l with
  | nil => simp [insertSorted]
  | cons a rest ih =>
    simp only [insertSorted]
    split
    · simp
    · split
      · next h =>
        subst h
        simp
      · simp only [List.mem_cons, ih, or_left_comm]

theorem mem_sortDedup (l : List Nat) (y : Nat) : y ∈ sortDedup l ↔ y ∈ l := by
  induction l with
  | nil => simp [sortDedup]
  | cons a rest ih =>
    have : sortDedup (a :: rest) = insertSorted a (sortDedup rest) := rfl
    rw [this, mem_insertSorted, ih, List.mem_cons]

theorem strictSorted_iff (l : List Nat) : StrictSorted l ↔ l.Pairwise (· < ·) := by
  induction l with
  | nil => exact ⟨fun _ => .nil, fun _ => trivial⟩
  | cons a l ih =>
    cases l with
    | nil => exact ⟨fun _ => List.pairwise_singleton _ a, fun _ => trivial⟩
    | cons b rest =>
      rw [StrictSorted, ih, List.pairwise_cons (a := a)]
      refine and_congr_left fun h2 => ⟨fun h1 z hz => ?_, fun h1 => h1 b List.mem_cons_self⟩
      rcases List.mem_cons.1 hz with rfl | hz
      · exact h1
      · exact Nat.lt_trans h1 (List.rel_of_pairwise_cons h2 hz)

theorem pairwise_insertSorted (x : Nat) (l : List Nat) (h : l.Pairwise (· < ·)) :
    (insertSorted x l).Pairwise (· < ·) := by
  induction l with
  | nil => exact List.pairwise_singleton _ x
  | cons a rest ih =>
    have ⟨ha, hrest⟩ := List.pairwise_cons.1 h
    rw [insertSorted]
    split
    · next hxa =>
      exact List.pairwise_cons.2 ⟨fun z hz => (List.mem_cons.1 hz).elim (· ▸ hxa)
        (fun hz => Nat.lt_trans hxa (ha z hz)), h⟩
    · split
      · exact h
      · refine List.pairwise_cons.2 ⟨fun z hz => ?_, ih hrest⟩
        rcases (mem_insertSorted x z rest).1 hz with rfl | hz
        · omega
        · exact ha z hz

theorem pairwise_sortDedup (l : List Nat) : (sortDedup l).Pairwise (· < ·) := by
  induction l with
  | nil => exact .nil
  | cons a rest ih => exact pairwise_insertSorted a _ ih

theorem strictSorted_lt_head {a : Nat} {l : List Nat} (h : StrictSorted (a :: l)) :
    ∀ x ∈ l, a < x :=
  fun _ hx => List.rel_of_pairwise_cons ((strictSorted_iff _).1 h) hx

theorem pairwise_two_iff {l : List Nat} (h : l.Pairwise (· < ·)) :
    l.length > 1 ↔ ∃ a b, a ≠ b ∧ a ∈ l ∧ b ∈ l := by
  match l, h with
  | [], _ => exact ⟨fun h => (nomatch h), fun ⟨_, _, _, ha, _⟩ => (nomatch ha)⟩
  | [c], _ =>
    exact ⟨fun h => absurd h (Nat.lt_irrefl 1), fun ⟨_, _, hne, ha, hb⟩ =>
      absurd ((List.mem_singleton.1 ha).trans (List.mem_singleton.1 hb).symm) hne⟩
  | a :: b :: rest, h =>
    exact ⟨fun _ => ⟨a, b, Nat.ne_of_lt (List.rel_of_pairwise_cons h List.mem_cons_self),
      List.mem_cons_self, List.mem_cons_of_mem _ List.mem_cons_self⟩,
      fun _ => Nat.succ_lt_succ (Nat.succ_pos _)⟩

theorem sortDedup_two (l : List Nat) :
    (sortDedup l).length > 1 ↔ ∃ a b, a ≠ b ∧ a ∈ l ∧ b ∈ l := by
  simp only [← mem_sortDedup l]
  exact pairwise_two_iff (pairwise_sortDedup l)

theorem strictSorted_le_one {l : List Nat} (h : StrictSorted l)
    (huniq : ∀ a b, a ∈ l → b ∈ l → a = b) : l.length ≤ 1 :=
  Nat.le_of_not_lt fun hl =>
    let ⟨a, b, hne, ha, hb⟩ := (pairwise_two_iff ((strictSorted_iff l).1 h)).1 hl
    hne (huniq a b ha hb)

theorem has_addReference (m : Inv) (r t t' : Nat) :
    aHas (addReference m r t) t' = (aHas m t' || decide (t' = t)) := by
  unfold addReference
  exact aHas_aUpd _ _ _ _ _

/-- The loops of `_update_references` are folds of `aUpd`; the removing one (`removeRefs_eq`) when
    every target is a key, so that no KeyError is raised. -/
theorem addRefs_eq (r : Nat) : ∀ (ts : List Nat) (m : Inv),
    addRefs m r ts = ts.foldl (fun m t => aUpd [] m t (fun s => setAdd s r)) m := by
  intro ts
  induction ts with
  | nil =>
    intro m
    rfl
  | cons t rest ih =>
    intro m
    exact ih _

theorem removeRefs_eq (r : Nat) : ∀ (ts : List Nat) (m : Inv), (∀ t ∈ ts, aHas m t = true) →
    removeRefs m r ts = .ok (ts.foldl (fun m t => aUpd [] m t (fun s => setDiscard s r)) m) := by
  intro ts
  induction ts with
  | nil =>
    intro m _
    rfl
  | cons t rest ih =>
    intro m hm
    rw [removeRefs, removeReference, if_pos (hm t List.mem_cons_self)]
    refine ih _ fun t' ht' => ?_
    rw [aHas_aUpd, hm t' (List.mem_cons_of_mem _ ht')]
    rfl

theorem removeRefs_ok {m m' : Inv} {r : Nat} : ∀ {ts : List Nat}, removeRefs m r ts = .ok m' →
    ∀ t ∈ ts, aHas m t = true := by
  intro ts
  induction ts generalizing m with
  | nil =>
    intro _ _ h
    cases h
  | cons t rest ih =>
    intro h t' ht'
    by_cases hh : aHas m t = true
    · simp only [removeRefs, removeReference, hh, if_true] at h
      rcases List.mem_cons.mp ht' with rfl | h2
      · exact hh
      · have := ih h t' h2
        rw [aHas_aUpd, Bool.or_eq_true, decide_eq_true_eq] at this
        exact this.elim id (· ▸ hh)
    · simp only [removeRefs, removeReference, hh] at h
      cases h

theorem mem_addRefs (r : Nat) (ts : List Nat) (m : Inv) (r' t' : Nat) :
    r' ∈ invGet (addRefs m r ts) t' ↔ r' ∈ invGet m t' ∨ (r' = r ∧ t' ∈ ts) := by
  rw [addRefs_eq r ts m, invGet, aGet_foldl_aUpd [] (fun s => setAdd s r) (fun s => setAdd_idem s r)]
  split
  · next h => simp only [mem_setAdd, invGet, h, and_true]
  · next h => simp only [invGet, h, and_false, or_false]

theorem removeRefs_spec (r : Nat) (ts : List Nat) (m : Inv) (h : ∀ t ∈ ts, aHas m t = true) :
    ∃ m', removeRefs m r ts = .ok m' ∧
      ∀ r' t', r' ∈ invGet m' t' ↔ r' ∈ invGet m t' ∧ ¬ (r' = r ∧ t' ∈ ts) := by
  refine ⟨_, removeRefs_eq r ts m h, fun r' t' => ?_⟩
  rw [invGet, aGet_foldl_aUpd [] (fun s => setDiscard s r) (fun s => setDiscard_idem s r)]
  split
  · next h => simp only [mem_setDiscard, invGet, h, and_true, ne_eq]
  · next h => simp only [invGet, h, and_false, not_false_eq_true, and_true]

theorem getD_growSet (d : Cell) : ∀ (l : List Cell) (r : Nat) (v : Cell) (j : Nat),
    (growSet d l r v).getD j d = if j = r then v else l.getD j d := by
  intro l r
  induction r generalizing l with
  | zero =>
    intro v j
    cases l <;> cases j <;> rfl
  | succ n ih =>
    intro v j
    cases l <;> cases j <;>
      simp [growSet, ih, List.getD_cons_succ, List.getD_cons_zero, -List.getD_eq_getElem?_getD]

theorem refs_dflt (k : Kind) : refs k (dflt k) = [] := by cases k <;> simp [dflt, refs]

theorem refs_of_not_rightType {k : Kind} {v : Cell} (h : rightType k v = false) : refs k v = [] := by
  cases k <;> cases v <;> first | rfl | cases h

theorem refs_safeGet (c : Col) (r : Nat) : refs c.kind (safeGet c r) = refs c.kind (rawGet c r) := by
  rw [safeGet]
  split
  · rfl
  · next h => rw [refs_dflt, refs_of_not_rightType (Bool.not_eq_true _ ▸ h)]

theorem has_of_mem {m : Inv} {t r : Nat} (h : r ∈ invGet m t) : aHas m t = true := by
  cases hh : aHas m t
  · rw [invGet, aGet_of_not_has _ _ _ hh] at h
    cases h
  · rfl

theorem updateReferences_spec {k : Kind} {m : Inv} (r : Nat) {old : Cell} (new : Cell)
    (h : ∀ t ∈ refs k old, aHas m t = true) :
    ∃ m', updateReferences k m r old new = .ok m' ∧ ∀ r' t, r' ∈ invGet m' t ↔
      (r' ∈ invGet m t ∧ ¬ (r' = r ∧ t ∈ refs k old)) ∨ (r' = r ∧ t ∈ refs k new) := by
  obtain ⟨m1, hm1, hmem1⟩ := removeRefs_spec r _ m h
  exact ⟨addRefs m1 r (refs k new), by simp only [updateReferences, hm1],
    fun r' t => by rw [mem_addRefs, hmem1]⟩

theorem setCell_spec {c : Col} (hc : Exact c) (r : Nat) (v : Cell) :
    ∃ c', setCell c r v = .ok c' ∧ Exact c' ∧ c'.kind = c.kind ∧
      ∀ j, rawGet c' j = if j = r then v else rawGet c j := by
  have hraw : ∀ (m : Inv) j, rawGet { c with data := growSet (dflt c.kind) c.data r v, inv := m } j
      = if j = r then v else rawGet c j := fun m j => getD_growSet _ _ _ _ _
  -- no KeyError: the index is exact, so the old references are keys of it
  have hold : ∀ t ∈ refs c.kind (safeGet c r), aHas c.inv t = true :=
    fun t ht => has_of_mem ((hc t r).mpr (refs_safeGet c r ▸ ht))
  obtain ⟨m', hm', hmem⟩ := updateReferences_spec r
    (safeGet { c with data := growSet (dflt c.kind) c.data r v } r) hold
  refine ⟨{ c with data := growSet (dflt c.kind) c.data r v, inv := m' },
    by simp only [setCell, hm'], fun t r' => ?_, rfl, hraw m'⟩
  rw [hmem, hc t r', refs_safeGet c r,
    refs_safeGet { c with data := growSet (dflt c.kind) c.data r v } r, hraw, hraw]
  by_cases h : r' = r
  · subst h
    simp
  · simp [h]

theorem rawGet_of_fresh {c : Col} (h : c.data = [dflt c.kind]) (r : Nat) : rawGet c r = dflt c.kind := by
  rw [rawGet, h]
  cases r <;> rfl

theorem newCol_exact (k : Kind) : Exact (newCol k) := by
  intro t r
  rw [rawGet_of_fresh rfl, refs_dflt]
  exact iff_of_false List.not_mem_nil List.not_mem_nil

/-- slots past the end read as the default, which refers to nothing: no length bound -/
theorem mem_addAll (k : Kind) : ∀ (vs : List Cell) (m : Inv) (i r t : Nat),
    r ∈ invGet (addAll k m i vs) t ↔
      r ∈ invGet m t ∨ (i ≤ r ∧ t ∈ refs k (vs.getD (r - i) (dflt k))) := by
  intro vs
  induction vs with
  | nil =>
    intro m i r t
    simp [addAll, refs_dflt]
  | cons v rest ih =>
    intro m i r t
    -- a wrong-typed cell refers to nothing
    have hstep : (if rightType k v = true then addRefs m i (refs k v) else m)
        = addRefs m i (refs k v) := by
      split
      · rfl
      · next h =>
        rw [refs_of_not_rightType (Bool.not_eq_true _ ▸ h)]
        rfl
    rw [addAll, ih, hstep, mem_addRefs, or_assoc]
    refine or_congr_right ?_
    have hsub : i < r → r - i = r - (i + 1) + 1 := by omega
    constructor
    · rintro (⟨rfl, h⟩ | ⟨h1, h2⟩)
      · exact ⟨Nat.le_refl _, by rwa [Nat.sub_self]⟩
      · exact ⟨Nat.le_of_succ_le h1, by rwa [hsub h1]⟩
    · rintro ⟨h1, h2⟩
      rcases Nat.eq_or_lt_of_le h1 with rfl | hlt
      · exact Or.inl ⟨rfl, by rwa [Nat.sub_self] at h2⟩
      · exact Or.inr ⟨hlt, by rwa [hsub hlt] at h2⟩

theorem copyFrom_exact (c : Col) (d : List Cell) : Exact (copyFrom c d) := by
  intro t r
  show r ∈ invGet (addAll c.kind [] 0 d) t ↔ t ∈ refs c.kind (d.getD r (dflt c.kind))
  rw [mem_addAll]
  simp only [invGet, aGet, List.not_mem_nil, false_or, Nat.zero_le, true_and, Nat.sub_zero]

theorem clearData_exact {c : Col} (hc : Exact c) (h : ∀ r, refs c.kind (rawGet c r) = []) :
    Exact (clearData c) := by
  intro t r
  rw [rawGet_of_fresh rfl, refs_dflt]
  have := hc t r
  rw [h] at this
  exact iff_of_false (fun g => nomatch this.1 g) List.not_mem_nil

theorem applyCells_spec : ∀ (ups : List (Nat × Cell)) {c : Col}, Exact c →
    ∃ c', applyCells c ups = .ok c' ∧ Exact c' ∧ c'.kind = c.kind ∧
      ∀ j, rawGet c' j = (lastVal ups j).getD (rawGet c j) := by
  intro ups
  induction ups with
  | nil =>
    intro c hc
    exact ⟨c, rfl, hc, rfl, fun _ => rfl⟩
  | cons e rest ih =>
    intro c hc
    obtain ⟨r, v⟩ := e
    obtain ⟨c1, h1, hc1, hk1, hg1⟩ := setCell_spec hc r v
    obtain ⟨c2, h2, hc2, hk2, hg2⟩ := ih hc1
    refine ⟨c2, ?_, hc2, hk2.trans hk1, fun j => ?_⟩
    · simp only [applyCells, h1]
      exact h2
    rw [hg2, hg1, lastVal]
    cases lastVal rest j with
    | some w => rfl
    | none =>
      simp only [Option.getD_none, eq_comm (a := j)]
      split <;> rfl

theorem lastVal_map (g : Nat → Cell) : ∀ (l : List Nat) (j : Nat),
    lastVal (l.map (fun r => (r, g r))) j = if j ∈ l then some (g j) else none := by
  intro l
  induction l with
  | nil => simp [lastVal]
  | cons a rest ih =>
    intro j
    simp only [List.map_cons, lastVal, ih, List.mem_cons]
    by_cases h : j ∈ rest
    · simp only [h, or_true, if_true]
    · simp only [h, or_false, if_false, eq_comm (a := a)]
      split
      · next h2 => rw [h2]
      · rfl

theorem unsetRows_eq : ∀ (rs : List Nat) {c : Col}, Exact c →
    unsetRows c rs = applyCells c (rs.map (fun r => (r, dflt c.kind))) := by
  intro rs
  induction rs with
  | nil =>
    intro c _
    rfl
  | cons r rest ih =>
    intro c hc
    obtain ⟨c1, h1, hc1, hk1, _⟩ := setCell_spec hc r (dflt c.kind)
    simp only [unsetRows, unsetCell, List.map_cons, applyCells, h1]
    rw [ih hc1, hk1]

theorem unsetRows_spec (rs : List Nat) {c : Col} (hc : Exact c) :
    ∃ c', unsetRows c rs = .ok c' ∧ Exact c' ∧ c'.kind = c.kind ∧
      ∀ j, rawGet c' j = if j ∈ rs then dflt c.kind else rawGet c j := by
  obtain ⟨c', h, he, hk, hg⟩ := applyCells_spec (rs.map (fun r => (r, dflt c.kind))) hc
  refine ⟨c', (unsetRows_eq rs hc).trans h, he, hk, fun j => ?_⟩
  rw [hg, lastVal_map (fun _ => dflt c.kind)]
  split <;> rfl

def hits (k : Kind) (rows : List Nat) (v : Cell) : Bool := (refs k v).any (fun x => rows.contains x)

theorem hits_iff {k : Kind} {rows : List Nat} {v : Cell} :
    hits k rows v = true ↔ ∃ x ∈ refs k v, x ∈ rows := by
  simp only [hits, List.any_eq_true, List.contains_iff_mem]

/-- what the clean-up is specified to do with one cell: a Ref into `rows` becomes 0; a RefList loses
    the ids in `rows`, in order, and becomes None when empty; other cells stay. -/
def cleanCell (k : Kind) (rows : List Nat) (v : Cell) : Cell :=
  if hits k rows v then
    match k, v with
    | .ref, _ => .ref 0
    | .refList, .refList l =>
      let l' := l.filter (fun x => !(rows.contains x))
      if l'.isEmpty then .none else .refList l'
    | _, v => v
  else v

theorem rawGetWithout_of_hits {c : Col} {r : Nat} {rows : List Nat}
    (h : hits c.kind rows (rawGet c r) = true) :
    rawGetWithout c r rows = .ok (cleanCell c.kind rows (rawGet c r)) := by
  unfold rawGetWithout cleanCell
  rw [h]
  cases hk : c.kind with
  | ref => simp [dflt]
  | refList =>
    rw [hk] at h
    cases hv : rawGet c r with
    | refList l => simp
    | none =>
      rw [hv] at h
      cases h
    | ref n => simp
    | alt => simp

theorem withoutAll_spec {c : Col} {rows : List Nat} : ∀ (aff : List Nat),
    (∀ r ∈ aff, hits c.kind rows (rawGet c r) = true) →
    withoutAll c rows aff = .ok (aff.map (fun r => (r, cleanCell c.kind rows (rawGet c r)))) := by
  intro aff
  induction aff with
  | nil =>
    intro _
    rfl
  | cons r rest ih =>
    intro h
    simp only [withoutAll, rawGetWithout_of_hits (h r (by simp)),
      ih (fun r' hr' => h r' (by simp [hr'])), List.map_cons]

theorem mem_affected {c : Col} (hc : Exact c) (rows : List Nat) (r : Nat) :
    r ∈ sortDedup (affectedRows c.inv rows) ↔ hits c.kind rows (rawGet c r) = true := by
  rw [mem_sortDedup, hits_iff]
  simp only [affectedRows, List.mem_flatMap]
  constructor
  · rintro ⟨t, ht, hr⟩
    exact ⟨t, (hc t r).mp hr, ht⟩
  · rintro ⟨t, ht, hr⟩
    exact ⟨t, hr, (hc t r).mpr ht⟩

theorem cleanCell_of_not_hits {k : Kind} {rows : List Nat} {v : Cell} (h : hits k rows v = false) :
    cleanCell k rows v = v := by
  simp [cleanCell, h]

theorem cleanRemoved_spec {c : Col} (hc : Exact c) (rows : List Nat) :
    ∃ c', cleanRemoved c rows = .ok c' ∧ Exact c' ∧ c'.kind = c.kind ∧
      ∀ j, rawGet c' j = cleanCell c.kind rows (rawGet c j) := by
  -- the index finds exactly the rows whose cell refers to a removed row
  have hups := withoutAll_spec (c := c) (rows := rows) (sortDedup (affectedRows c.inv rows))
    (fun r hr => (mem_affected hc rows r).mp hr)
  obtain ⟨c', h1, h2, h3, h4⟩ := applyCells_spec
    ((sortDedup (affectedRows c.inv rows)).map (fun r => (r, cleanCell c.kind rows (rawGet c r)))) hc
  refine ⟨c', ?_, h2, h3, ?_⟩
  · simp only [cleanRemoved, updatesForRemovedTargets, hups]
    exact h1
  · intro j
    rw [h4, lastVal_map]
    split
    · rfl
    · next hj =>
      rw [mem_affected hc, Bool.not_eq_true] at hj
      exact (cleanCell_of_not_hits hj).symm

theorem refs_cleanCell (k : Kind) (rows : List Nat) (v : Cell) (t : Nat) :
    t ∈ refs k (cleanCell k rows v) ↔ t ∈ refs k v ∧ t ∉ rows := by
  unfold cleanCell
  by_cases hh : hits k rows v = true
  · rw [if_pos hh]
    cases k with
    | ref =>
      cases v with
      | ref n =>
        simp only [hits, refs, List.any_eq_true, List.contains_iff_mem] at hh ⊢
        obtain ⟨x, hx, hr⟩ := hh
        by_cases hn : n = 0
        · simp [hn] at hx
        · simp only [hn, if_false, List.mem_singleton] at hx ⊢
          subst hx
          simp only [if_true, List.not_mem_nil, false_iff, not_and, Classical.not_not]
          intro h
          subst h
          exact hr
      | _ => simp [hits, refs] at hh
    | refList =>
      cases v with
      | refList l =>
        simp only
        split
        · next he =>
          simp only [List.isEmpty_iff, List.filter_eq_nil_iff] at he
          simpa [refs] using he t
        · simp [refs, List.mem_filter]
      | _ => simp [hits, refs] at hh
  · rw [if_neg hh]
    rw [hits_iff] at hh
    exact (and_iff_left_of_imp fun ht hr => hh ⟨t, ht, hr⟩).symm

end Grist.Refs
