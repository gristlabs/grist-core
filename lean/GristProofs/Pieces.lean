/-
Pieces: a text cut into segments `a ++ b ++ c`, each with an optional replacement of its `b`.  The patches
read off a piece list (`patchesFrom`), handed to a Replacer in any order, produce `dstOf` from `srcOf`
(`replacer_pieces`); a patch on a copied segment of the output maps back to that segment (`mapBack_copied`).
Used for the `$` → `rec.` replacer and the renames of predicate formulas (C17) and for the renames in
formula text (C16).
-/
import GristProofs.Textbuilder
namespace Grist.PredRename
open Grist.Textbuilder

/-- a segment `a ++ b ++ c` of the text; `nw = some n` means "`b` is replaced by `n`". -/
structure Piece where
  a : Str
  b : Str
  c : Str
  nw : Option Str

def Piece.src (p : Piece) : Str := p.a ++ p.b ++ p.c
def Piece.dst (p : Piece) : Str := p.a ++ p.nw.getD p.b ++ p.c

def srcOf : List Piece → Str
  | [] => []
  | p :: ps => p.src ++ srcOf ps

def dstOf : List Piece → Str
  | [] => []
  | p :: ps => p.dst ++ dstOf ps

def Piece.patches (p : Piece) (off : Nat) : List Patch :=
  match p.nw with
  | some n => [⟨((off + p.a.length : Nat) : Int), ((off + p.a.length + p.b.length : Nat) : Int), p.b, n⟩]
  | none => []

/-- the patches of the pieces, when the first piece starts at offset `off`. -/
def patchesFrom (off : Nat) : List Piece → List Patch
  | [] => []
  | p :: ps => p.patches off ++ patchesFrom (off + p.src.length) ps

theorem srcOf_append (ps qs : List Piece) : srcOf (ps ++ qs) = srcOf ps ++ srcOf qs := by
  induction ps with
  | nil => rfl
  | cons p ps ih => simp [srcOf, ih]

theorem dstOf_append (ps qs : List Piece) : dstOf (ps ++ qs) = dstOf ps ++ dstOf qs := by
  induction ps with
  | nil => rfl
  | cons p ps ih => simp [dstOf, ih]

theorem patchesFrom_append (ps qs : List Piece) : ∀ off,
    patchesFrom off (ps ++ qs) = patchesFrom off ps ++ patchesFrom (off + (srcOf ps).length) qs := by
  induction ps with
  | nil =>
    intro off
    rfl
  | cons p ps ih =>
    intro off
    simp only [List.cons_append, patchesFrom, srcOf, List.length_append, ih, List.append_assoc,
      Nat.add_assoc]

theorem Piece.mem_patches {p : Piece} {off : Nat} {q : Patch} (h : q ∈ p.patches off) :
    ∃ n, p.nw = some n ∧
      q = ⟨((off + p.a.length : Nat) : Int), ((off + p.a.length + p.b.length : Nat) : Int), p.b, n⟩ := by
  unfold Piece.patches at h
  cases hn : p.nw with
  | none =>
    rw [hn] at h
    cases h
  | some n =>
    rw [hn] at h
    exact ⟨n, rfl, List.mem_singleton.mp h⟩

theorem mem_patchesFrom : ∀ {ps : List Piece} {off : Nat} {q : Patch}, q ∈ patchesFrom off ps →
    ∃ L p R n, ps = L ++ p :: R ∧ p.nw = some n ∧
      q = ⟨((off + (srcOf L).length + p.a.length : Nat) : Int),
           ((off + (srcOf L).length + p.a.length + p.b.length : Nat) : Int), p.b, n⟩
  | p :: ps, off, q, h => by
    rcases List.mem_append.mp h with h | h
    · obtain ⟨n, hn, rfl⟩ := Piece.mem_patches h
      exact ⟨[], p, ps, n, rfl, hn, rfl⟩
    · obtain ⟨L, p', R, n, rfl, hn, rfl⟩ := mem_patchesFrom h
      exact ⟨p :: L, p', R, n, rfl, hn, by simp only [srcOf, List.length_append, Nat.add_assoc]⟩

theorem patchesFrom_bounds (ps : List Piece) (off : Nat) (q : Patch) (h : q ∈ patchesFrom off ps) :
    (off : Int) ≤ q.start ∧ q.start ≤ q.end_ ∧ q.end_ ≤ ((off + (srcOf ps).length : Nat) : Int) := by
  obtain ⟨L, p, R, n, rfl, -, rfl⟩ := mem_patchesFrom h
  simp only [srcOf_append, srcOf, Piece.src, List.length_append]
  omega

/-- The patches of a piece relate to the patches of every later piece as they relate to anything that
    starts after the piece. -/
theorem patchesFrom_pairwise {R : Patch → Patch → Prop} : ∀ (ps : List Piece) (off : Nat),
    (∀ p ∈ ps, ∀ (off : Nat) (q r : Patch), q ∈ p.patches off →
      ((off + p.src.length : Nat) : Int) ≤ r.start → R q r) →
    (patchesFrom off ps).Pairwise R
  | [], _, _ => List.Pairwise.nil
  | p :: ps, off, h => by
    refine List.pairwise_append.mpr ⟨?_,
      patchesFrom_pairwise ps _ fun x hx => h x (List.mem_cons_of_mem _ hx), ?_⟩
    · unfold Piece.patches
      cases p.nw <;> simp
    · exact fun q hq r hr => h p List.mem_cons_self off q r hq (patchesFrom_bounds ps _ r hr).1

theorem patchesFrom_ordered (ps : List Piece) (off : Nat) : Ordered (patchesFrom off ps) :=
  patchesFrom_pairwise ps off fun p _ off q r hq hr => by
    obtain ⟨n, -, rfl⟩ := Piece.mem_patches hq
    simp only [Piece.src, List.length_append] at hr ⊢
    omega

/-- Patches start at distinct positions if every replaced piece takes up room from its start on (this
    excludes several insertions at one point). -/
theorem patchesFrom_strict (ps : List Piece) (off : Nat) (hb : ∀ p ∈ ps, p.nw.isSome → p.b ++ p.c ≠ []) :
    (patchesFrom off ps).Pairwise (fun p q => p.start < q.start) :=
  patchesFrom_pairwise ps off fun p hp off q r hq hr => by
    obtain ⟨n, hn, rfl⟩ := Piece.mem_patches hq
    have := List.length_pos_iff.mpr (hb p hp (by simp [hn]))
    simp only [Piece.src, List.length_append] at this hr ⊢
    omega

theorem slice_mid (A s R : Str) :
    slice (A ++ s ++ R) ((A.length : Nat) : Int) ((A.length + s.length : Nat) : Int) = s := by
  rw [← List.length_append]
  exact slice_exact A s R

theorem patchesFrom_fits (ps : List Piece) (q : Patch) (h : q ∈ patchesFrom 0 ps) :
    q.Fits (srcOf ps) := by
  have hb := patchesFrom_bounds ps 0 q h
  obtain ⟨L, p, R, n, rfl, -, rfl⟩ := mem_patchesFrom h
  refine ⟨by omega, hb.2.1, by simpa using hb.2.2, ?_⟩
  have := slice_mid (srcOf L ++ p.a) p.b (p.c ++ srcOf R)
  simpa only [srcOf_append, srcOf, Piece.src, List.length_append, List.append_assoc, Nat.zero_add]
    using this

theorem applyPatches_append (t : Str) (a b : List Patch) :
    applyPatches t (a ++ b) = applyPatches (applyPatches t b) a :=
  List.foldr_append ..

theorem applyPatches_pieces : ∀ (ps : List Piece) (A : Str),
    applyPatches (A ++ srcOf ps) (patchesFrom A.length ps) = A ++ dstOf ps
  | [], A => rfl
  | p :: ps, A => by
    have ih := applyPatches_pieces ps (A ++ p.src)
    rw [List.length_append, List.append_assoc] at ih
    rw [patchesFrom, applyPatches_append, srcOf, ih]
    unfold Piece.patches
    cases hn : p.nw with
    | none => simp [applyPatches, dstOf, Piece.dst, Piece.src, hn]
    | some n =>
      have := splice_append (A ++ p.a) p.b (p.c ++ dstOf ps)
        ⟨((A.length + p.a.length : Nat) : Int), ((A.length + p.a.length + p.b.length : Nat) : Int), p.b, n⟩
        (by simp only [List.length_append]) (by simp only [List.length_append])
      simpa [applyPatches, dstOf, Piece.dst, Piece.src, hn] using this

/-- Given the pieces' patches in ANY order, the Replacer is built without error and its text is `dstOf`. -/
theorem replacer_pieces (ps : List Piece) (l : List Patch)
    (hb : ∀ p ∈ ps, p.nw.isSome → p.b ++ p.c ≠ []) (hperm : l.Perm (patchesFrom 0 ps)) :
    replacerBuild (srcOf ps) l = .ok (tablesOf (srcOf ps) (patchesFrom 0 ps)) ∧
    (tablesOf (srcOf ps) (patchesFrom 0 ps)).outText = dstOf ps := by
  constructor
  · rw [replacerBuild_ok (srcOf ps) l fun p hp => (patchesFrom_fits ps p (hperm.subset hp)).2.2.2,
      sortPatches_eq_of_perm (patchesFrom_strict ps 0 hb) hperm]
  · rw [tablesOf_text _ _ (patchesFrom_fits ps) (patchesFrom_ordered ps 0)]
    exact applyPatches_pieces ps []

/-- In any order they are what C37 calls a set of non-overlapping patches of `srcOf ps`. -/
theorem patchesFrom_disjoint (ps : List Piece) (l : List Patch) (hperm : l.Perm (patchesFrom 0 ps)) :
    (∀ q ∈ l, q.Fits (srcOf ps)) ∧ l.Pairwise (fun p q => p.end_ ≤ q.start ∨ q.end_ ≤ p.start) :=
  ⟨fun q hq => patchesFrom_fits ps q (hperm.subset hq),
   hperm.symm.pairwise ((patchesFrom_ordered ps 0).imp Or.inl) fun h => h.symm⟩

theorem Piece.shift_patches (p : Piece) (off : Nat) :
    shift (p.patches off) = (p.dst.length : Int) - (p.src.length : Int) := by
  unfold Piece.patches Piece.dst Piece.src
  cases p.nw <;> simp only [shift, Option.getD, List.length_append] <;> omega

theorem patchesFrom_shift : ∀ (ps : List Piece) (off : Nat),
    shift (patchesFrom off ps) = ((dstOf ps).length : Int) - ((srcOf ps).length : Int)
  | [], _ => rfl
  | p :: ps, off => by
    simp only [patchesFrom, shift_append, p.shift_patches, patchesFrom_shift ps, srcOf, dstOf,
      List.length_append]
    omega

theorem lastEnd_le (B : Int) : ∀ (l : List Patch) (z : Int), z ≤ B → (∀ q ∈ l, q.end_ ≤ B) →
    lastEnd z l ≤ B
  | [], _, hz, _ => hz
  | p :: ps, _, _, h =>
    lastEnd_le B ps _ (h p List.mem_cons_self) fun q hq => h q (List.mem_cons_of_mem _ hq)

def Piece.copy (s : Str) : Piece := ⟨s, [], [], none⟩

theorem srcOf_copy (Lp Rp : List Piece) (s : Str) :
    srcOf (Lp ++ Piece.copy s :: Rp) = srcOf Lp ++ s ++ srcOf Rp := by
  simp [srcOf_append, srcOf, Piece.copy, Piece.src]

theorem dstOf_copy (Lp Rp : List Piece) (s : Str) :
    dstOf (Lp ++ Piece.copy s :: Rp) = dstOf Lp ++ s ++ dstOf Rp := by
  simp [dstOf_append, dstOf, Piece.copy, Piece.dst]

/-- A patch of the output text on a segment copied unchanged maps back to the same segment of the input. -/
theorem mapBack_copied (Lp Rp : List Piece) (s new : Str) (l : List Patch)
    (hb : ∀ p ∈ Lp ++ Piece.copy s :: Rp, p.nw.isSome → p.b ++ p.c ≠ [])
    (hnw : ∀ p ∈ Rp, p.nw ≠ some [])
    (hl : l.Perm (patchesFrom 0 (Lp ++ Piece.copy s :: Rp))) :
    mapBack (.replacer (.text (srcOf (Lp ++ Piece.copy s :: Rp)) 0) l)
      ⟨((dstOf Lp).length : Nat), ((dstOf Lp).length + s.length : Nat), s, new⟩
    = .ok (some (srcOf (Lp ++ Piece.copy s :: Rp), 0,
        ⟨((srcOf Lp).length : Nat), ((srcOf Lp).length + s.length : Nat), s, new⟩)) := by
  have hR := replacer_pieces _ l hb hl
  have hsplit : patchesFrom 0 (Lp ++ Piece.copy s :: Rp)
      = patchesFrom 0 Lp ++ patchesFrom ((srcOf Lp).length + s.length) Rp := by
    simp [patchesFrom_append, patchesFrom, Piece.patches, Piece.copy, Piece.src]
  have hlast := lastEnd_le _ _ 0 (Int.natCast_nonneg _)
    fun q hq => (patchesFrom_bounds Lp 0 q hq).2.2
  have hshift := patchesFrom_shift Lp 0
  rw [hsplit] at hR
  have := replacerInPatch_copied (srcOf (Lp ++ Piece.copy s :: Rp)) (patchesFrom 0 Lp)
    (patchesFrom ((srcOf Lp).length + s.length) Rp) ((srcOf Lp).length : Nat)
    ((srcOf Lp).length + s.length : Nat)
    ⟨((dstOf Lp).length : Nat), ((dstOf Lp).length + s.length : Nat), s, new⟩
    (hfit := fun r hr => patchesFrom_fits _ r (hsplit ▸ hr))
    (hord := hsplit ▸ patchesFrom_ordered _ 0)
    (hlo := by omega)
    (hxy := by omega)
    (hhi := fun q hq => (patchesFrom_bounds Rp _ q hq).1)
    (hlen := by
      rw [srcOf_copy]
      simp only [List.length_append]
      omega)
    (hdel := fun q hq _ hn => by
      obtain ⟨L, p, R, n, rfl, hp, rfl⟩ := mem_patchesFrom hq
      exact absurd (hn ▸ hp) (hnw p (by simp)))
    (hs := by simp only; omega)
    (he := by simp only; omega)
    (hold := by
      rw [hR.2, dstOf_copy]
      exact slice_mid _ _ _)
  simp only [mapBack, getText, hR.1, this.1, this.2, beq_self_eq_true, if_true]

end Grist.PredRename
