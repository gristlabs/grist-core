/-
Action summaries up to the insertion order of their dicts (the association lists of the model).
Defines `Summary.KeysNodup` and `Summary.Equiv`.  Main facts: `mergeSort_perm_eq`, `PermUpTo.lookup`,
and `Summary.Equiv.*`: what `_changes_to_actions` reads of a summary agrees on equivalent ones.
-/
import GristProofs.EngineLists
namespace Grist.Doc

/-- pointwise relation of two lists (core's `List.Forall₂` at one type) -/
inductive Rel2 {α : Type} (R : α → α → Prop) : List α → List α → Prop
  | nil : Rel2 R [] []
  | cons {a b : α} {l m : List α} : R a b → Rel2 R l m → Rel2 R (a :: l) (b :: m)

def PermUpTo {α : Type} (R : α → α → Prop) (a b : List α) : Prop :=
  ∃ m, a.Perm m ∧ Rel2 R m b

def KeyRel {κ β : Type} (R : β → β → Prop) (x y : κ × β) : Prop := x.1 = y.1 ∧ R x.2 y.2

/-- pointwise relation of two options (`ORel` of DocUndoBase at one type, as an inductive) -/
inductive OptRel {β : Type} (R : β → β → Prop) : Option β → Option β → Prop
  | none : OptRel R none none
  | some {x y : β} : R x y → OptRel R (some x) (some y)

/-- the dict-like association lists of a summary have distinct keys -/
structure TableDelta.KeysNodup (td : TableDelta) : Prop where
  before : (td.presentBefore.map (·.1)).Nodup
  after : (td.presentAfter.map (·.1)).Nodup
  renames : (td.colRenames.map (·.1)).Nodup
  cols : (td.colDeltas.map (·.1)).Nodup
  rows : ∀ cd ∈ td.colDeltas, (cd.2.map (·.1)).Nodup

structure Summary.KeysNodup (s : Summary) : Prop where
  tables : (s.tables.map (·.1)).Nodup
  renames : (s.tableRenames.map (·.1)).Nodup
  each : ∀ t ∈ s.tables, t.2.KeysNodup

/-- same table delta up to the order of its dicts (and of every column's row dict) -/
structure TableDelta.Equiv (a b : TableDelta) : Prop where
  before : a.presentBefore.Perm b.presentBefore
  after : a.presentAfter.Perm b.presentAfter
  renames : a.colRenames.Perm b.colRenames
  cols : PermUpTo (KeyRel List.Perm) a.colDeltas b.colDeltas

structure Summary.Equiv (s s' : Summary) : Prop where
  renames : s.tableRenames.Perm s'.tableRenames
  tables : PermUpTo (KeyRel TableDelta.Equiv) s.tables s'.tables

/-! ### sorting a permutation -/

theorem mergeSort_perm_eq {α : Type} (le : α → α → Bool)
    (tr : ∀ a b c, le a b = true → le b c = true → le a c = true)
    (tot : ∀ a b, (le a b || le b a) = true) (anti : ∀ a b, le a b = true → le b a = true → a = b)
    {l1 l2 : List α} (h : l1.Perm l2) : l1.mergeSort le = l2.mergeSort le :=
  List.Perm.eq_of_pairwise (le := fun a b => le a b = true) (fun a b _ _ => anti a b)
    (List.pairwise_mergeSort tr tot l1) (List.pairwise_mergeSort tr tot l2)
    ((List.mergeSort_perm l1 _).trans (h.trans (List.mergeSort_perm l2 _).symm))

theorem mergeSort_string_perm {l1 l2 : List String} (h : l1.Perm l2) :
    l1.mergeSort (· ≤ ·) = l2.mergeSort (· ≤ ·) := by
  refine mergeSort_perm_eq _ ?_ ?_ ?_ h <;> simp only [decide_eq_true_eq, Bool.or_eq_true]
  · exact fun _ _ _ => String.le_trans
  · exact String.le_total
  · exact fun _ _ => String.le_antisymm

theorem mergeSort_nat_perm {l1 l2 : List Nat} (h : l1.Perm l2) :
    l1.mergeSort (· ≤ ·) = l2.mergeSort (· ≤ ·) := by
  refine mergeSort_perm_eq _ ?_ ?_ ?_ h <;> simp only [decide_eq_true_eq, Bool.or_eq_true]
  · exact fun _ _ _ => Nat.le_trans
  · exact Nat.le_total
  · exact fun _ _ => Nat.le_antisymm

theorem foldl_congr_mem {α β : Type} {f g : β → α → β} (l : List α)
    (h : ∀ b, ∀ a ∈ l, f b a = g b a) (b : β) : l.foldl f b = l.foldl g b := by
  induction l generalizing b with
  | nil => rfl
  | cons a l ih =>
    rw [List.foldl_cons, List.foldl_cons, h b a (List.mem_cons_self ..)]
    exact ih (fun b x hx => h b x (List.mem_cons_of_mem _ hx)) _

/-! ### lookups in permuted association lists -/

theorem lookup_perm {α β : Type} [DecidableEq α] {a b : List (α × β)} (h : a.Perm b)
    (hn : (a.map (·.1)).Nodup) (k : α) : a.lookup k = b.lookup k := by
  have hb : (b.map (·.1)).Nodup := (h.map _).nodup_iff.mp hn
  exact Option.ext fun v =>
    ⟨fun e => lookup_eq_some_of_mem_nodup hb (h.mem_iff.mp (mem_of_lookup_eq_some e)),
     fun e => lookup_eq_some_of_mem_nodup hn (h.mem_iff.mpr (mem_of_lookup_eq_some e))⟩

theorem OptRel.none_left {β : Type} {R : β → β → Prop} {y : Option β}
    (h : OptRel R Option.none y) : y = Option.none := by
  cases h
  rfl

theorem OptRel.some_left {β : Type} {R : β → β → Prop} {x : β} {y : Option β}
    (h : OptRel R (Option.some x) y) : ∃ y', y = Option.some y' ∧ R x y' := by
  cases h with
  | some hr => exact ⟨_, rfl, hr⟩

theorem Rel2.keys {κ β : Type} {R : β → β → Prop} {m b : List (κ × β)}
    (h : Rel2 (KeyRel R) m b) : m.map (·.1) = b.map (·.1) := by
  induction h with
  | nil => rfl
  | cons hr _ ih => simp [hr.1, ih]

theorem Rel2.lookup {κ β : Type} [DecidableEq κ] {R : β → β → Prop} {m b : List (κ × β)}
    (h : Rel2 (KeyRel R) m b) (k : κ) : OptRel R (m.lookup k) (b.lookup k) := by
  induction h with
  | nil => exact .none
  | @cons x y l m' hr _ ih =>
    obtain ⟨x1, x2⟩ := x
    obtain ⟨y1, y2⟩ := y
    obtain ⟨h1, h2⟩ := hr
    simp only at h1 h2
    subst h1
    simp only [List.lookup_cons]
    by_cases hk : k = x1
    · subst hk
      simpa using .some h2
    · have : (k == x1) = false := by simpa using hk
      simpa [this] using ih

theorem PermUpTo.keys_perm {κ β : Type} {R : β → β → Prop} {a b : List (κ × β)}
    (h : PermUpTo (KeyRel R) a b) : (a.map (·.1)).Perm (b.map (·.1)) := by
  obtain ⟨m, h1, h2⟩ := h
  rw [← h2.keys]
  exact h1.map _

theorem PermUpTo.lookup {κ β : Type} [DecidableEq κ] {R : β → β → Prop} {a b : List (κ × β)}
    (h : PermUpTo (KeyRel R) a b) (hn : (a.map (·.1)).Nodup) (k : κ) :
    OptRel R (a.lookup k) (b.lookup k) := by
  obtain ⟨m, h1, h2⟩ := h
  rw [lookup_perm h1 hn k]
  exact h2.lookup k

/-! ### what the flush observes of a summary -/

theorem Summary.Equiv.table {s s' : Summary} (h : s.Equiv s') (hn : s.KeysNodup) (t : String) :
    (s.tables.lookup t = none ∧ s'.tables.lookup t = none) ∨
    ∃ td td', s.tables.lookup t = some td ∧ s'.tables.lookup t = some td' ∧
      td.Equiv td' ∧ td.KeysNodup := by
  have := h.tables.lookup hn.tables t
  cases h1 : s.tables.lookup t with
  | none =>
    rw [h1] at this
    exact .inl ⟨rfl, this.none_left⟩
  | some td =>
    rw [h1] at this
    obtain ⟨td', h2, hr⟩ := this.some_left
    exact .inr ⟨td, td', rfl, h2, hr, hn.each _ (mem_of_lookup_eq_some h1)⟩

theorem Summary.Equiv.filterOutGoneRows {s s' : Summary} (h : s.Equiv s') (hn : s.KeysNodup)
    (t : String) (rows : List Nat) : s.filterOutGoneRows t rows = s'.filterOutGoneRows t rows := by
  unfold Summary.filterOutGoneRows
  rcases h.table hn t with ⟨h1, h2⟩ | ⟨td, td', h1, h2, he, hk⟩
  · rw [h1, h2]
  · rw [h1, h2]
    simp only [lookup_perm he.after hk.after]

theorem Summary.Equiv.filterOutNewRows {s s' : Summary} (h : s.Equiv s') (hn : s.KeysNodup)
    (t : String) (rows : List Nat) : s.filterOutNewRows t rows = s'.filterOutNewRows t rows := by
  unfold Summary.filterOutNewRows
  rcases h.table hn t with ⟨h1, h2⟩ | ⟨td, td', h1, h2, he, hk⟩
  · rw [h1, h2]
  · rw [h1, h2]
    simp only [lookup_perm he.before hk.before]

theorem Summary.Equiv.isCreated {s s' : Summary} (h : s.Equiv s') (hn : s.KeysNodup)
    (t c : String) : s.isCreated t c = s'.isCreated t c := by
  unfold Summary.isCreated Renames.isCreated Renames.get?
  rw [lookup_perm h.renames hn.renames]
  rcases h.table hn t with ⟨h1, h2⟩ | ⟨td, td', h1, h2, he, hk⟩
  · rw [h1, h2]
  · rw [h1, h2]
    simp only [lookup_perm he.renames hk.renames]

theorem Summary.Equiv.originalTable {s s' : Summary} (h : s.Equiv s') (hn : s.KeysNodup)
    (t : String) : s.tableRenames.originalName t = s'.tableRenames.originalName t := by
  unfold Renames.originalName Renames.get?
  rw [lookup_perm h.renames hn.renames]

theorem Summary.Equiv.originalCol {s s' : Summary} (h : s.Equiv s') (hn : s.KeysNodup)
    (t c : String) :
    (s.get t).colRenames.originalName c = (s'.get t).colRenames.originalName c := by
  unfold Summary.get Renames.originalName Renames.get?
  rcases h.table hn t with ⟨h1, h2⟩ | ⟨td, td', h1, h2, he, hk⟩
  · rw [h1, h2]
  · rw [h1, h2]
    simp only [Option.getD_some, lookup_perm he.renames hk.renames]

end Grist.Doc
