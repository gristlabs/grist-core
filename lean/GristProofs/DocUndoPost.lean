/-
Defines the hypotheses of C01–C04 and C29 that GristModel/DocSpec does not: `Normal`, `colsDistinct`,
`undoExact`, `undoExactRun`, `stepDocs`; and `Post d a D U`, a relational `docAction d s a = .ok ⟨D, U, _⟩`
(`docAction_ok_iff`).  What the edits of a table the doc actions are made of (write cells, add and remove
rows, add, drop and swap a column) do to `Table.WF` and `Table.Normal`.
-/
import GristProofs.DocUndoBase
namespace Grist.Doc

/-- every stored cell is a fixed point of its column's `Column.set` normalisation (true of every
    cell the doc actions themselves write) -/
def Table.Normal (tb : Table) : Prop :=
  ∀ col ∈ tb.cols, ∀ r, colSet col.info.type (col.cells r) = col.cells r

def Normal (d : Doc) : Prop := ∀ tb ∈ d, tb.Normal

/-- `AddTable` names each column once. -/
def DocAction.colsDistinct : DocAction → Prop
  | .addTable _ cols => (cols.map (·.1)).Nodup
  | _ => True

/-- When the undo actions of `a` (applied in document `d`) restore the document exactly:
 * `ReplaceTableData` / `RemoveColumn`: formula columns are not restored by the undo actions
   (their values go to the calc summary), so they must be all-default;
 * `ModifyColumn`: the undo restores only the schema; the cells end as
   `colSet oldType (colSet newType v)`, which must be `v`. -/
def DocAction.undoExact : DocAction → Doc → Prop
  | .replaceData t _ _, d => ∀ tb, findTable? d t = some tb →
      ∀ col ∈ tb.cols, col.info.isFormula = true → ∀ r ∈ tb.rows, col.cells r = typeDefault col.info.type
  | .removeColumn t c, d => ∀ tb col, findTable? d t = some tb → tb.findCol? c = some col →
      col.info.isFormula = true → ∀ r ∈ tb.rows, col.cells r = typeDefault col.info.type
  | .modifyColumn t c p, d => ∀ tb col, findTable? d t = some tb → tb.findCol? c = some col →
      ∀ r ∈ tb.rows,
        colSet col.info.type (colSet (colInfoOfPatch col.info p).type (col.cells r)) = col.cells r
  | _, _ => True

/-- `undoExact`, threaded through a run -/
def undoExactRun : Doc → List DocAction → Prop
  | _, [] => True
  | d, a :: rest => a.undoExact d ∧ ∀ r, docAction d {} a = .ok r → undoExactRun r.doc rest

def stepDocs (st : EState) (steps : List (DocAction × Bool)) : Except String EState :=
  steps.foldlM (fun s ab => stepDoc s ab.1 ab.2) st

def Col.unsetRows (rows' : List Nat) (col : Col) : Col :=
  { col with cells := fun r => if rows'.contains r then typeDefault col.info.type else col.cells r }

def Table.removeRows (tb : Table) (rows' : List Nat) : Table :=
  { tb with
    cols := tb.cols.map (fun col =>
      { col with cells := fun r => if rows'.contains r then typeDefault col.info.type else col.cells r }),
    rows := tb.rows.filter (fun r => !rows'.contains r) }

def Table.removeUndoVals (tb : Table) (rows' : List Nat) : List (String × List Val) :=
  (tb.cols.filter (fun col => !allDefault col rows')).map (fun col => (col.id, rows'.map col.cells))

def Table.updUndoVals (tb : Table) (rows : List Nat) (cols : List (String × List Val)) :
    List (String × List Val) :=
  cols.map (fun cv =>
    (cv.1, rows.map (fun r => match tb.findCol? cv.1 with | some col => col.cells r | none => .null)))

def Col.clear (col : Col) : Col := { col with cells := fun _ => typeDefault col.info.type }

def Table.cleared (tb : Table) (rows : List Nat) : Table :=
  { tb with cols := tb.cols.map (fun col => { col with cells := fun _ => typeDefault col.info.type }),
            rows := rows }

def Table.dataVals (tb : Table) : List (String × List Val) :=
  (tb.cols.filter (fun col => !col.info.isFormula)).map (fun col => (col.id, tb.rows.map col.cells))

def newCol (c : String) (info : ColInfo) : Col :=
  { id := c, info := info, cells := fun _ => typeDefault info.type }

def removeColUndoUpd (t c : String) (tb : Table) (col : Col) : List DocAction :=
  let nonDefault := tb.rows.filter (fun r => col.cells r != typeDefault col.info.type)
  if nonDefault.isEmpty then [] else if col.info.isFormula then []
  else [.bulkUpdate t nonDefault [(c, nonDefault.map col.cells)]]

def modCol (tb : Table) (col : Col) (c : String) (p : ColPatch) : Col :=
  { id := c, info := colInfoOfPatch col.info p,
    cells := fun r => if tb.rows.contains r then colSet (colInfoOfPatch col.info p).type (col.cells r)
                      else typeDefault (colInfoOfPatch col.info p).type }

def newTable (t : String) (cols : List (String × ColInfo)) : Table :=
  { id := t, rows := [], cols := cols.map (fun ci => newCol ci.1 ci.2) }

def removeTableDataUndo (t : String) (tb : Table) : List DocAction :=
  if tb.rows.isEmpty then []
  else [.bulkAdd t tb.rows (tb.cols.map (fun col => (col.id, tb.rows.map col.cells)))]

/-- `docAction d s a = .ok ⟨D, U, _⟩`, relationally. -/
def Post (d : Doc) : DocAction → Doc → List DocAction → Prop
  | .bulkAdd t rows cols, D, U =>
    ∃ tb tb2, findTable? d t = some tb ∧ (∀ x ∈ rows, x ∉ tb.rows) ∧
      writeCols { tb with rows := insertRows (rows.filter (· != 0)) tb.rows } rows cols = .ok tb2 ∧
      D = replaceTable d t tb2 ∧ U = [.bulkRemove t rows]
  | .bulkRemove t rows, D, U =>
    ∃ tb, findTable? d t = some tb ∧
      ((rows.filter (fun r => tb.rows.contains r) = [] ∧ D = d ∧ U = []) ∨
       (rows.filter (fun r => tb.rows.contains r) ≠ [] ∧
        D = replaceTable d t (tb.removeRows (rows.filter (fun r => tb.rows.contains r))) ∧
        U = [.bulkAdd t (rows.filter (fun r => tb.rows.contains r))
              (tb.removeUndoVals (rows.filter (fun r => tb.rows.contains r)))]))
  | .bulkUpdate t rows cols, D, U =>
    ∃ tb tb', findTable? d t = some tb ∧ (∀ x ∈ rows, x ∈ tb.rows) ∧
      (∀ cv ∈ cols, tb.hasCol cv.1 = true) ∧ writeCols tb rows cols = .ok tb' ∧
      D = replaceTable d t tb' ∧ U = [.bulkUpdate t rows (tb.updUndoVals rows cols)]
  | .replaceData t rows cols, D, U =>
    ∃ tb tb2, findTable? d t = some tb ∧
      writeCols (tb.cleared (insertRows (rows.filter (· != 0)) [])) rows
        (cols.filter (fun cv => tb.hasCol cv.1)) = .ok tb2 ∧
      D = replaceTable d t tb2 ∧ U = [.replaceData t tb.rows tb.dataVals]
  | .addColumn t c info, D, U =>
    ∃ tb, findTable? d t = some tb ∧ tb.hasCol c = false ∧
      D = replaceTable d t { tb with cols := tb.cols ++ [newCol c info] } ∧ U = [.removeColumn t c]
  | .removeColumn t c, D, U =>
    ∃ tb col, findTable? d t = some tb ∧ tb.findCol? c = some col ∧
      D = replaceTable d t { tb with cols := tb.cols.filter (fun x => x.id != c) } ∧
      U = removeColUndoUpd t c tb col ++ [.addColumn t c col.info]
  | .renameColumn t old new, D, U =>
    ∃ tb col, findTable? d t = some tb ∧ tb.findCol? old = some col ∧ tb.hasCol new = false ∧
      D = replaceTable d t
        { tb with cols := tb.cols.filter (fun x => x.id != old) ++ [{ col with id := new }] } ∧
      U = [.renameColumn t new old]
  | .modifyColumn t c p, D, U =>
    ∃ tb col, findTable? d t = some tb ∧ tb.findCol? c = some col ∧
      ((colInfoOfPatch col.info p = col.info ∧ D = d ∧ U = []) ∨
       (colInfoOfPatch col.info p ≠ col.info ∧
        D = replaceTable d t
          { tb with cols := tb.cols.filter (fun x => x.id != c) ++ [modCol tb col c p] } ∧
        U = [.modifyColumn t c (undoPatch col.info p)]))
  | .addTable t cols, D, U =>
    findTable? d t = none ∧ D = d ++ [newTable t cols] ∧ U = [.removeTable t]
  | .removeTable t, D, U =>
    ∃ tb, findTable? d t = some tb ∧ D = d.filter (fun x => x.id != t) ∧
      U = removeTableDataUndo t tb ++ [.addTable t (tb.cols.map (fun col => (col.id, col.info)))]
  | .renameTable old new, D, U =>
    ∃ tb, findTable? d old = some tb ∧ findTable? d new = none ∧
      D = d.filter (fun x => x.id != old) ++ [{ tb with id := new }] ∧ U = [.renameTable new old]

theorem post_of_ok {d : Doc} {s : Summary} {a : DocAction} {r : DAResult}
    (h : docAction d s a = .ok r) : Post d a r.doc r.undo := by
  -- each clause is a ladder of lookups and guards: a failed one contradicts `h`, the passed ones
  -- are the conjuncts of `Post`
  cases a with
  | bulkAdd t rows cols =>
    dsimp only [docAction] at h
    cases hf : findTable? d t with
    | none => simp [hf] at h
    | some tb =>
      simp only [hf] at h
      split at h
      · simp at h
      · rename_i hany
        generalize hw : writeCols _ rows cols = w at h
        cases w with
        | error e => simp at h
        | ok tb2 =>
          simp only [Except.ok.injEq] at h
          subst h
          refine ⟨tb, tb2, hf, ?_, hw, rfl, rfl⟩
          intro x hx hx'
          apply hany
          simp only [List.any_eq_true]
          exact ⟨x, hx, by simpa using hx'⟩
  | bulkRemove t rows =>
    dsimp only [docAction] at h
    cases hf : findTable? d t with
    | none => simp [hf] at h
    | some tb =>
      simp only [hf] at h
      split at h
      · rename_i he
        simp only [Except.ok.injEq] at h
        subst h
        exact ⟨tb, hf, .inl ⟨by simpa using he, rfl, rfl⟩⟩
      · rename_i he
        simp only [Except.ok.injEq] at h
        subst h
        exact ⟨tb, hf, .inr ⟨by simpa using he, rfl, rfl⟩⟩
  | bulkUpdate t rows cols =>
    dsimp only [docAction] at h
    cases hf : findTable? d t with
    | none => simp [hf] at h
    | some tb =>
      simp only [hf] at h
      split at h
      · simp at h
      · rename_i h1
        split at h
        · simp at h
        · rename_i h2
          generalize hw : writeCols _ rows cols = w at h
          cases w with
          | error e => simp at h
          | ok tb2 =>
            simp only [Except.ok.injEq] at h
            subst h
            refine ⟨tb, tb2, hf, ?_, ?_, hw, rfl, rfl⟩
            · intro x hx
              simp only [List.any_eq_true, not_exists, not_and] at h1
              have := h1 x hx
              simpa using this
            · intro cv hcv
              simp only [List.any_eq_true, not_exists, not_and] at h2
              have := h2 cv hcv
              simpa using this
  | replaceData t rows cols =>
    dsimp only [docAction] at h
    cases hf : findTable? d t with
    | none => simp [hf] at h
    | some tb =>
      simp only [hf] at h
      generalize hw : writeCols _ rows _ = w at h
      cases w with
      | error e => simp at h
      | ok tb2 =>
        simp only [Except.ok.injEq] at h
        subst h
        exact ⟨tb, tb2, hf, hw, rfl, rfl⟩
  | addColumn t c info =>
    dsimp only [docAction] at h
    cases hf : findTable? d t with
    | none => simp [hf] at h
    | some tb =>
      simp only [hf] at h
      split at h
      · simp at h
      · rename_i h1
        simp only [Except.ok.injEq] at h
        subst h
        exact ⟨tb, hf, by simpa using h1, rfl, rfl⟩
  | removeColumn t c =>
    dsimp only [docAction] at h
    cases hf : findTable? d t with
    | none => simp [hf] at h
    | some tb =>
      simp only [hf] at h
      cases hc : tb.findCol? c with
      | none => simp [hc] at h
      | some col =>
        simp only [hc, Except.ok.injEq] at h
        subst h
        refine ⟨tb, col, hf, hc, rfl, ?_⟩
        simp only [removeColUndoUpd]
        split
        · rfl
        · split <;> rfl
  | renameColumn t old new =>
    dsimp only [docAction] at h
    cases hf : findTable? d t with
    | none => simp [hf] at h
    | some tb =>
      simp only [hf] at h
      cases hc : tb.findCol? old with
      | none => simp [hc] at h
      | some col =>
        simp only [hc] at h
        split at h
        · simp at h
        · rename_i h1
          simp only [Except.ok.injEq] at h
          subst h
          exact ⟨tb, col, hf, hc, by simpa using h1, rfl, rfl⟩
  | modifyColumn t c p =>
    dsimp only [docAction] at h
    cases hf : findTable? d t with
    | none => simp [hf] at h
    | some tb =>
      simp only [hf] at h
      cases hc : tb.findCol? c with
      | none => simp [hc] at h
      | some col =>
        simp only [hc] at h
        split at h
        · rename_i h1
          simp only [Except.ok.injEq] at h
          subst h
          exact ⟨tb, col, hf, hc, .inl ⟨by simpa using h1, rfl, rfl⟩⟩
        · rename_i h1
          simp only [Except.ok.injEq] at h
          subst h
          exact ⟨tb, col, hf, hc, .inr ⟨by simpa using h1, rfl, rfl⟩⟩
  | addTable t cols =>
    dsimp only [docAction] at h
    split at h
    · simp at h
    · rename_i h1
      simp only [Except.ok.injEq] at h
      subst h
      exact ⟨by simpa [hasTable] using h1, rfl, rfl⟩
  | removeTable t =>
    dsimp only [docAction] at h
    cases hf : findTable? d t with
    | none => simp [hf] at h
    | some tb =>
      simp only [hf, Except.ok.injEq] at h
      subst h
      exact ⟨tb, hf, rfl, rfl⟩
  | renameTable old new =>
    dsimp only [docAction] at h
    cases hf : findTable? d old with
    | none => simp [hf] at h
    | some tb =>
      simp only [hf] at h
      split at h
      · simp at h
      · rename_i h1
        simp only [Except.ok.injEq] at h
        subst h
        exact ⟨tb, hf, by simpa [hasTable] using h1, rfl, rfl⟩

theorem ok_of_post {d : Doc} (s : Summary) {a : DocAction} {D : Doc} {U : List DocAction}
    (h : Post d a D U) : ∃ r, docAction d s a = .ok r ∧ r.doc = D ∧ r.undo = U := by
  cases a with
  | bulkAdd t rows cols =>
    obtain ⟨tb, tb2, hf, hno, hw, rfl, rfl⟩ := h
    have : rows.any (fun r => tb.rows.contains r) = false := by
      rw [Bool.eq_false_iff]
      intro h'
      simp only [List.any_eq_true] at h'
      obtain ⟨x, hx, hx'⟩ := h'
      exact hno x hx (by simpa using hx')
    simp only [docAction, hf, this, hw]
    exact ⟨_, rfl, rfl, rfl⟩
  | bulkRemove t rows =>
    obtain ⟨tb, hf, ⟨he, rfl, rfl⟩ | ⟨he, rfl, rfl⟩⟩ := h
    · simp only [docAction, hf, he]
      exact ⟨_, rfl, rfl, rfl⟩
    · have : (rows.filter (fun r => tb.rows.contains r)).isEmpty = false := by
        simpa using he
      simp only [docAction, hf, this]
      exact ⟨_, rfl, rfl, rfl⟩
  | bulkUpdate t rows cols =>
    obtain ⟨tb, tb', hf, h1, h2, hw, rfl, rfl⟩ := h
    have e1 : rows.any (fun r => !tb.rows.contains r) = false := by
      rw [Bool.eq_false_iff]
      intro h'
      simp only [List.any_eq_true] at h'
      obtain ⟨x, hx, hx'⟩ := h'
      have := h1 x hx
      simp [this] at hx'
    have e2 : cols.any (fun cv => !tb.hasCol cv.1) = false := by
      rw [Bool.eq_false_iff]
      intro h'
      simp only [List.any_eq_true] at h'
      obtain ⟨x, hx, hx'⟩ := h'
      have := h2 x hx
      simp [this] at hx'
    simp only [docAction, hf, e1, e2, hw]
    exact ⟨_, rfl, rfl, rfl⟩
  | replaceData t rows cols =>
    obtain ⟨tb, tb2, hf, hw, rfl, rfl⟩ := h
    simp only [Table.cleared] at hw
    simp only [docAction, hf, hw]
    exact ⟨_, rfl, rfl, rfl⟩
  | addColumn t c info =>
    obtain ⟨tb, hf, h1, rfl, rfl⟩ := h
    simp only [docAction, hf, h1]
    exact ⟨_, rfl, rfl, rfl⟩
  | removeColumn t c =>
    obtain ⟨tb, col, hf, hc, rfl, rfl⟩ := h
    simp only [docAction, hf, hc]
    refine ⟨_, rfl, rfl, ?_⟩
    simp only [removeColUndoUpd]
    split
    · rfl
    · split <;> rfl
  | renameColumn t old new =>
    obtain ⟨tb, col, hf, hc, h1, rfl, rfl⟩ := h
    simp only [docAction, hf, hc, h1]
    exact ⟨_, rfl, rfl, rfl⟩
  | modifyColumn t c p =>
    obtain ⟨tb, col, hf, hc, ⟨he, rfl, rfl⟩ | ⟨he, rfl, rfl⟩⟩ := h
    · have : (colInfoOfPatch col.info p == col.info) = true := by simp [he]
      simp only [docAction, hf, hc, this]
      exact ⟨_, rfl, rfl, rfl⟩
    · have : (colInfoOfPatch col.info p == col.info) = false := by simpa using he
      simp only [docAction, hf, hc, this]
      exact ⟨_, rfl, rfl, rfl⟩
  | addTable t cols =>
    obtain ⟨hf, rfl, rfl⟩ := h
    have : hasTable d t = false := hasTable_eq_false.2 hf
    simp only [docAction, this]
    exact ⟨_, rfl, rfl, rfl⟩
  | removeTable t =>
    obtain ⟨tb, hf, rfl, rfl⟩ := h
    simp only [docAction, hf]
    exact ⟨_, rfl, rfl, rfl⟩
  | renameTable old new =>
    obtain ⟨tb, hf, hn, rfl, rfl⟩ := h
    have : hasTable d new = false := hasTable_eq_false.2 hn
    simp only [docAction, hf, this]
    exact ⟨_, rfl, rfl, rfl⟩

theorem docAction_ok_iff {d : Doc} (s : Summary) {a : DocAction} {D : Doc} {U : List DocAction} :
    (∃ r, docAction d s a = .ok r ∧ r.doc = D ∧ r.undo = U) ↔ Post d a D U := by
  constructor
  · rintro ⟨r, h, rfl, rfl⟩
    exact post_of_ok h
  · exact ok_of_post s

theorem applyAll_cons_of_post {D D1 : Doc} {u : DocAction} {U1 : List DocAction}
    (rest : List DocAction) (h : Post D u D1 U1) : applyAll D (u :: rest) = applyAll D1 rest := by
  obtain ⟨r, hr, rfl, _⟩ := ok_of_post {} h
  simp [applyAll, hr]

theorem applyAll_single_of_post {D D1 : Doc} {u : DocAction} {U1 : List DocAction}
    (h : Post D u D1 U1) : applyAll D [u] = .ok D1 := by
  rw [applyAll_cons_of_post [] h]
  rfl

theorem WF.table {d : Doc} (h : WF d) {t : String} {tb : Table} (hf : findTable? d t = some tb) :
    tb.WF := h.2 tb (findTable?_some hf).2

theorem Normal.table {d : Doc} (h : Normal d) {t : String} {tb : Table}
    (hf : findTable? d t = some tb) : tb.Normal := h tb (findTable?_some hf).2

theorem WF.replaceTable {d : Doc} (h : WF d) {t : String} {tb' : Table} (hid : tb'.id = t)
    (hwf : tb'.WF) : WF (replaceTable d t tb') := by
  refine ⟨by rw [map_id_replaceTable hid]; exact h.1, ?_⟩
  intro x hx
  rcases mem_replaceTable hx with rfl | hx
  · exact hwf
  · exact h.2 x hx

theorem Normal.replaceTable {d : Doc} (h : Normal d) {t : String} {tb' : Table}
    (hn : tb'.Normal) : Normal (replaceTable d t tb') := by
  intro x hx
  rcases mem_replaceTable hx with rfl | hx
  · exact hn
  · exact h x hx

theorem Table.Normal.of_cols {tb tb' : Table} (h : tb.Normal) (he : tb'.cols = tb.cols) :
    tb'.Normal := by
  intro col hcol r
  rw [he] at hcol
  exact h col hcol r

theorem Table.WF.written {tb : Table} (h : tb.WF) {rows : List Nat} {cols : List (String × List Val)}
    (hrows : ∀ r ∈ rows, r ∈ tb.rows) : (tb.written rows cols).WF := by
  obtain ⟨h1, h2, h3, h4⟩ := h
  refine ⟨by rw [Table.written_map_id]; exact h1, h2, h3, ?_⟩
  intro col hcol r hr
  obtain ⟨x, hx, rfl⟩ := List.mem_map.1 hcol
  simp only [Col.written]
  rw [writeCells_not_mem _ _ _ (fun h' => hr (hrows r h'))]
  exact h4 x hx r hr

theorem Table.Normal.written {tb : Table} (h : tb.Normal) (rows : List Nat)
    (cols : List (String × List Val)) : (tb.written rows cols).Normal := by
  intro col hcol r
  obtain ⟨x, hx, rfl⟩ := List.mem_map.1 hcol
  exact writeCells_pred x.info.type rows x.id (fun v => colSet x.info.type v = v)
    (colSet_idem _) cols x.cells (h x hx) r

theorem Table.WF.addRows {tb : Table} (h : tb.WF) {rows : List Nat} (hpos : ∀ r ∈ rows, 0 < r) :
    Table.WF { tb with rows := insertRows rows tb.rows } := by
  obtain ⟨h1, h2, h3, h4⟩ := h
  refine ⟨h1, pairwise_insertRows h2, ?_, ?_⟩
  · intro r hr
    rcases mem_insertRows.1 hr with hr | hr
    · exact hpos r hr
    · exact h3 r hr
  · intro col hcol r hr
    exact h4 col hcol r (fun h' => hr (mem_insertRows.2 (.inr h')))

theorem Table.WF.removeRows {tb : Table} (h : tb.WF) (rows' : List Nat) : (tb.removeRows rows').WF := by
  obtain ⟨h1, h2, h3, h4⟩ := h
  refine ⟨?_, h2.filter _, ?_, ?_⟩
  · simp only [Table.removeRows, List.map_map]
    exact h1
  · intro r hr
    exact h3 r (List.mem_filter.1 hr).1
  · intro col hcol r hr
    obtain ⟨x, hx, rfl⟩ := List.mem_map.1 hcol
    simp only [Table.removeRows, List.mem_filter, not_and] at hr
    by_cases hc : r ∈ rows'
    · simp [hc]
    · simp only [List.contains_iff_mem, hc, ↓reduceIte]
      apply h4 x hx r
      intro hmem
      exact hr hmem (by simpa using hc)

theorem Table.Normal.removeRows {tb : Table} (h : tb.Normal) (rows' : List Nat) :
    (tb.removeRows rows').Normal := by
  intro col hcol r
  obtain ⟨x, hx, rfl⟩ := List.mem_map.1 hcol
  by_cases hc : r ∈ rows'
  · simp [hc, colSet_typeDefault]
  · simp only [List.contains_iff_mem, hc, ↓reduceIte]
    exact h x hx r

theorem Table.WF.cleared (tb : Table) (h : tb.WF) {rows : List Nat} (hpos : ∀ r ∈ rows, 0 < r) :
    (tb.cleared (insertRows rows [])).WF := by
  obtain ⟨h1, h2, h3, h4⟩ := h
  refine ⟨?_, pairwise_insertRows List.Pairwise.nil, ?_, ?_⟩
  · simp only [Table.cleared, List.map_map]
    exact h1
  · intro r hr
    rcases mem_insertRows.1 hr with hr | hr
    · exact hpos r hr
    · simp at hr
  · intro col hcol r _
    obtain ⟨x, hx, rfl⟩ := List.mem_map.1 hcol
    rfl

theorem Table.Normal.cleared (tb : Table) (rows : List Nat) : (tb.cleared rows).Normal := by
  intro col hcol r
  obtain ⟨x, hx, rfl⟩ := List.mem_map.1 hcol
  exact colSet_typeDefault _

theorem Table.WF.addCol {tb : Table} (h : tb.WF) {col : Col} (hc : tb.hasCol col.id = false)
    (hd : ∀ r, r ∉ tb.rows → col.cells r = typeDefault col.info.type) :
    Table.WF { tb with cols := tb.cols ++ [col] } := by
  obtain ⟨h1, h2, h3, h4⟩ := h
  refine ⟨nodup_map_append_single Col.id h1 (findCol?_none.1 (hasCol_eq_false.1 hc)), h2, h3, ?_⟩
  intro x hx r hr
  rcases List.mem_append.1 hx with hx | hx
  · exact h4 x hx r hr
  · simp only [List.mem_singleton] at hx
    subst hx
    exact hd r hr

theorem Table.WF.dropCol {tb : Table} (h : tb.WF) (c : String) :
    Table.WF { tb with cols := tb.cols.filter (fun x => x.id != c) } := by
  obtain ⟨h1, h2, h3, h4⟩ := h
  refine ⟨nodup_map_filter Col.id _ h1, h2, h3, ?_⟩
  intro x hx r hr
  exact h4 x (List.mem_filter.1 hx).1 r hr

theorem Table.WF.swapCol {tb : Table} (h : tb.WF) (c : String) {col : Col}
    (hc : ∀ x ∈ tb.cols, x.id ≠ c → x.id ≠ col.id)
    (hd : ∀ r, r ∉ tb.rows → col.cells r = typeDefault col.info.type) :
    Table.WF { tb with cols := tb.cols.filter (fun x => x.id != c) ++ [col] } := by
  have h' := h.dropCol c
  obtain ⟨h1, h2, h3, h4⟩ := h'
  refine ⟨nodup_map_append_single Col.id h1 ?_, h2, h3, ?_⟩
  · intro y hy
    have := List.mem_filter.1 hy
    exact hc y this.1 (by simpa using this.2)
  · intro x hx r hr
    rcases List.mem_append.1 hx with hx | hx
    · exact h4 x hx r hr
    · simp only [List.mem_singleton] at hx
      subst hx
      exact hd r hr

theorem Table.Normal.swapCol {tb : Table} (h : tb.Normal) (c : String) {col : Col}
    (hn : ∀ r, colSet col.info.type (col.cells r) = col.cells r) :
    Table.Normal { tb with cols := tb.cols.filter (fun x => x.id != c) ++ [col] } := by
  intro x hx r
  rcases List.mem_append.1 hx with hx | hx
  · exact h x (List.mem_filter.1 hx).1 r
  · simp only [List.mem_singleton] at hx
    subst hx
    exact hn r

theorem newCol_normal (c : String) (info : ColInfo) (r : Nat) :
    colSet (newCol c info).info.type ((newCol c info).cells r) = (newCol c info).cells r :=
  colSet_typeDefault _

theorem modCol_normal (tb : Table) (col : Col) (c : String) (p : ColPatch) (r : Nat) :
    colSet (modCol tb col c p).info.type ((modCol tb col c p).cells r) = (modCol tb col c p).cells r := by
  simp only [modCol]
  split
  · exact colSet_idem _ _
  · exact colSet_typeDefault _

theorem newTable_WF (t : String) {cols : List (String × ColInfo)} (h : (cols.map (·.1)).Nodup) :
    (newTable t cols).WF := by
  refine ⟨?_, List.Pairwise.nil, by simp [newTable], ?_⟩
  · simp only [newTable, List.map_map]
    exact h
  · intro col hcol r _
    obtain ⟨x, hx, rfl⟩ := List.mem_map.1 hcol
    rfl

theorem newTable_Normal (t : String) (cols : List (String × ColInfo)) : (newTable t cols).Normal := by
  intro col hcol r
  obtain ⟨x, hx, rfl⟩ := List.mem_map.1 hcol
  exact colSet_typeDefault _

end Grist.Doc
