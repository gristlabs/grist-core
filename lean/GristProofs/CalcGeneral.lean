/-
A word of bulk record actions on other tables and `calc` steps on one column `(t, c)`, then `finish`.
Defines `StepOK` (the steps allowed) and the summary invariant `SumInv` such a word keeps.  Main facts:
`ColView.bulk`, `bulk_calc_finish`, `bulk_calc_faithful`.
-/
import GristProofs.CalcFlush
import GristProofs.DocLocal
namespace Grist.Doc

/-- the table a bulk record action names (none for the other actions) -/
def bulkTable : DocAction → Option String
  | .bulkAdd u _ _ => some u
  | .bulkRemove u _ => some u
  | .bulkUpdate u _ _ => some u
  | _ => none

/-- the steps allowed in the word: bulk record actions on tables other than `t`, and calc steps on
    column `(t, c)` -/
def StepOK (t c : String) : Step → Prop
  | .doc a _ => ∃ u, bulkTable a = some u ∧ u ≠ t
  | .calc t' c' _ => t' = t ∧ c' = c
  | _ => False

def docActs (w : List Step) : List DocAction :=
  w.filterMap (fun s => match s with | .doc a _ => some a | _ => none)

def calcChs (w : List Step) : List (Nat × Val × Val) :=
  w.flatMap (fun s => match s with | .calc _ _ chs => chs | _ => [])

/-- Summary invariant: no renames; one entry per table; only table `t` has column deltas, namely
    (once a calc step happened, `acc = some chs`) the merged delta of column `c`. -/
structure SumInv (S : Summary) (t c : String) (acc : Option (List (Nat × Val × Val))) : Prop where
  renames : S.tableRenames = []
  nodup : (S.tables.map (·.1)).Nodup
  others : ∀ u td, (u, td) ∈ S.tables → u ≠ t → td.colDeltas = []
  calcT : S.tables.lookup t =
    acc.map (fun chs => ({ colDeltas := [(c, addChangesFold [] chs)] } : TableDelta))

/-! ### the summary kept by such a word -/

theorem SumInv.empty (t c : String) : SumInv {} t c none :=
  ⟨rfl, List.nodup_nil, fun _ _ h => (nomatch h), rfl⟩

theorem SumInv.get_other {S : Summary} {t c : String} {acc} (h : SumInv S t c acc) {u : String}
    (hu : u ≠ t) : (S.get u).colDeltas = [] := by
  unfold Summary.get
  cases hl : S.tables.lookup u with
  | none => rfl
  | some td => exact h.others u td (mem_of_lookup_eq_some hl) hu

/-- Both kinds of step rewrite one table's entry with `Summary.put`: the invariant needs the new entry
    to have no column deltas unless it is `t`'s, and `t`'s entry (new or kept) to be the one `acc'` names. -/
theorem SumInv.put {S : Summary} {t c : String} {acc acc'} (h : SumInv S t c acc) (u : String)
    (td : TableDelta) (ho : u ≠ t → td.colDeltas = [])
    (hc : (if t = u then some td else S.tables.lookup t) =
      acc'.map (fun chs => ({ colDeltas := [(c, addChangesFold [] chs)] } : TableDelta))) :
    SumInv (S.put u td) t c acc' := by
  refine ⟨h.renames, keys_filter_ne_append_nodup _ _ _ h.nodup, fun u' td' hm hu' => ?_,
    (lookup_filter_ne_append ..).trans hc⟩
  rcases List.mem_append.mp hm with h1 | h1
  · exact h.others u' td' (List.mem_filter.mp h1).1 hu'
  · cases List.mem_singleton.mp h1
    exact ho hu'

theorem SumInv.calc {S : Summary} {t c : String} {acc} (h : SumInv S t c acc)
    (chs : List (Nat × Val × Val)) :
    SumInv (S.addChanges t c chs) t c (some (acc.getD [] ++ chs)) := by
  refine h.put t _ (fun e => absurd rfl e) ?_
  unfold Summary.get
  rw [if_pos rfl, h.calcT]
  cases acc <;> simp [addChangesFold, List.foldl_append]

theorem SumInv.presence {S : Summary} {t c : String} {acc} (h : SumInv S t c acc) {u : String}
    (hu : u ≠ t) (bv av : Bool) (rows : List Nat) :
    SumInv (S.put u (presenceFold bv av (S.get u) rows)) t c acc :=
  h.put u _ (fun _ => (presenceFold_colDeltas bv av rows _).1.trans (h.get_other hu))
    ((if_neg fun e => hu e.symm).trans h.calcT)

/-! ### the flush under the invariant -/

theorem foldl_single {α β : Type} [DecidableEq β] (f : α → β → α) (t : β)
    (hf : ∀ acc x, x ≠ t → f acc x = acc) (l : List β) (hl : l.Nodup) (a : α) :
    l.foldl f a = if t ∈ l then f a t else a := by
  induction l generalizing a with
  | nil => rfl
  | cons x l ih =>
    rw [List.foldl_cons, ih (List.nodup_cons.mp hl).2]
    by_cases hx : x = t
    · subst hx
      simp [(List.nodup_cons.mp hl).1]
    · simp [hf a x hx, show ¬ t = x from fun e => hx e.symm]

theorem flushAll_of_sumInv {S : Summary} {t c : String} {acc} (h : SumInv S t c acc)
    (ht : isDefunct t = false) (hc : isDefunct c = false) (stored undo : List DocAction) :
    (flushAll S stored undo).1 =
      stored ++ flushAction t c (addChangesFold [] (acc.getD [])) := by
  unfold flushAll
  -- the step function does nothing at tables other than `t`
  rw [foldl_single _ t (fun a tk htk => by simp [h.get_other htk]) _
    ((List.mergeSort_perm _ _).nodup_iff.mpr h.nodup)]
  have hl := h.calcT
  cases acc with
  | none =>
    rw [if_neg]
    · simp [flushAction, addChangesFold, changedRows]
    · intro hm
      obtain ⟨p, hp, rfl⟩ := List.mem_map.mp (List.mem_mergeSort.mp hm)
      simpa using List.lookup_eq_none_iff.mp hl p hp
  | some chs =>
    simp only [Option.map_some] at hl
    rw [if_pos (List.mem_mergeSort.mpr (List.mem_map.mpr ⟨_, mem_of_lookup_eq_some hl, rfl⟩))]
    have hget : S.get t = { colDeltas := [(c, addChangesFold [] chs)] } := by
      simp [Summary.get, hl]
    simp only [hget, List.map_cons, List.map_nil, List.mergeSort_singleton, List.foldl_cons,
      List.foldl_nil, List.lookup_cons_self, Option.getD_some]
    rw [changesToActions_stored _ _ _ _ ht hc]
    have : ∀ rows, S.filterOutGoneRows t rows = rows := by
      intro rows
      simp [Summary.filterOutGoneRows, hl]
    simp only [this, flushAction]

/-! ### bulk record actions: table-local in the document, at most a presence fold in the summary -/

theorem bulkTable_table? {a : DocAction} {u : String} (ha : bulkTable a = some u) :
    a.table? = some u := by
  cases a <;> first | exact ha | cases ha

/-- the summary bookkeeping of a bulk record action is at most a presence fold on its table -/
theorem docAction_bulk_summary {a : DocAction} {u : String} (ha : bulkTable a = some u)
    {E : Doc} {s : Summary} {r : DAResult} (hr : docAction E s a = .ok r) :
    r.summary = s ∨ ∃ bv av rows, r.summary = s.put u (presenceFold bv av (s.get u) rows) := by
  cases a <;> cases ha <;> dsimp only [docAction] at hr <;> (repeat' split at hr) <;> cases hr
  · exact .inr ⟨false, true, _, rfl⟩
  · exact .inl rfl
  · exact .inr ⟨true, false, _, rfl⟩
  · exact .inl rfl

/-! ### the engine document vs the replayed document along the word -/

theorem ColView.calc {D E : Doc} {t c : String} {tb : Table} {col : Col} {f : Nat → Val}
    (h : ColView D t c tb col E f) (chs : List (Nat × Val × Val)) :
    ColView D t c tb col (writeCalc E t c chs) (writeAfters f chs) := by
  obtain ⟨tbX, hX1, hX2, hX3, colX, hX4, hX5, hX6⟩ := h.tbl
  rw [writeCalc_eq hX1 hX4, hX6]
  have hid : (tbX.replaceCol c { colX with cells := writeAfters f chs }).id = t := by
    rw [replaceCol_id]
    exact (findTable?_some hX1).1
  have hcid : ({ colX with cells := writeAfters f chs } : Col).id = c := (findCol?_some hX4).1
  refine ⟨fun t' ht' => (findTable?_replaceTable_ne hid ht').trans (h.other t' ht'), _,
    findTable?_replaceTable_self hid hX1, hX2,
    fun c' hc' => (findCol?_replaceCol_ne hcid hc').trans (hX3 c' hc'),
    _, findCol?_replaceCol_self hcid hX4, hX5, rfl⟩

/-- A bulk record action on another table `u` reads and changes only `u` (`post_local`), which the
    replay document and the engine's share: it does the same to both, and the view stays. -/
theorem ColView.bulk {D E : Doc} {t c : String} {tb : Table} {col : Col} {f : Nat → Val}
    (h : ColView D t c tb col E f) (hT : findTable? D t = some tb) {a : DocAction} {u : String}
    (ha : bulkTable a = some u) (hu : u ≠ t) {DE : Doc} {U : List DocAction} (hp : Post E a DE U) :
    ∃ D1, Post D a D1 U ∧ ColView D1 t c tb col DE f ∧ findTable? D1 t = some tb := by
  have ha' := bulkTable_table? ha
  obtain ⟨tbu, o, hf, hp', rfl⟩ := (post_local ha').1 hp
  have hDu : findTable? D u = some tbu := (h.other u hu).symm.trans hf
  have hid : ∀ tb', o = some tb' → tb'.id = u :=
    fun tb' e => (e ▸ hp').id.trans (findTable?_some hf).1
  have eD := findTable?_applyLocal hDu hid
  have eE := findTable?_applyLocal hf hid
  have htu : ¬ t = u := fun e => hu e.symm
  refine ⟨_, (post_local ha').2 ⟨tbu, o, hDu, hp', rfl⟩, ⟨fun t' ht' => ?_, ?_⟩, ?_⟩
  · rw [eE, eD, h.other t' ht']
  · rw [eE, if_neg htu]
    exact h.tbl
  · rw [eD, if_neg htu]
    exact hT

theorem docActs_doc (a : DocAction) (b : Bool) (w : List Step) :
    docActs (.doc a b :: w) = a :: docActs w := rfl
theorem docActs_calc (t c : String) (chs) (w : List Step) :
    docActs (.calc t c chs :: w) = docActs w := rfl
theorem calcChs_doc (a : DocAction) (b : Bool) (w : List Step) :
    calcChs (.doc a b :: w) = calcChs w := rfl
theorem calcChs_calc (t c : String) (chs) (w : List Step) :
    calcChs (.calc t c chs :: w) = chs ++ calcChs w := rfl

theorem run_bulk_calc {t c : String} {tb : Table} {col : Col} : ∀ (w : List Step)
    {st st1 : EState} {D : Doc} {f : Nat → Val} {acc : Option (List (Nat × Val × Val))},
    (∀ s ∈ w, StepOK t c s) → ColView D t c tb col st.doc f → findTable? D t = some tb →
    SumInv st.summary t c acc → run st w = .ok st1 →
    ∃ D1, applyAll D (docActs w) = .ok D1 ∧
      ColView D1 t c tb col st1.doc (writeAfters f (calcChs w)) ∧ findTable? D1 t = some tb ∧
      st1.stored = st.stored ++ docActs w ∧
      ∃ acc', SumInv st1.summary t c acc' ∧ acc'.getD [] = acc.getD [] ++ calcChs w := by
  intro w
  induction w with
  | nil =>
    intro st st1 D f acc _ hv hT hS h
    cases h
    exact ⟨D, rfl, hv, hT, (List.append_nil _).symm, acc, hS, (List.append_nil _).symm⟩
  | cons s w ih =>
    intro st st1 D f acc hw hv hT hS h
    obtain ⟨st2, h1, h2⟩ := run_cons_ok h
    have hw' : ∀ s ∈ w, StepOK t c s := fun s hs => hw s (List.mem_cons_of_mem _ hs)
    have hs := hw s (by simp)
    cases s with
    | doc a b =>
      obtain ⟨u, ha, hu⟩ := hs
      obtain ⟨r, hr, rfl⟩ := stepDoc_ok_iff.mp (show stepDoc st a b = .ok st2 from h1)
      obtain ⟨D2, hp, hv2, hT2⟩ := hv.bulk hT ha hu (post_of_ok hr)
      have hS2 : SumInv r.summary t c acc := by
        rcases docAction_bulk_summary ha hr with e | ⟨bv, av, rows, e⟩
        · exact e ▸ hS
        · exact e ▸ hS.presence hu bv av rows
      obtain ⟨D1, g1, g2, g3, g4, g5⟩ := ih hw' hv2 hT2 hS2 h2
      rw [docActs_doc, calcChs_doc, applyAll_cons_of_post _ hp]
      exact ⟨D1, g1, g2, g3, g4.trans (List.append_assoc ..), g5⟩
    | «calc» t' c' chs =>
      obtain ⟨rfl, rfl⟩ := hs
      cases h1
      obtain ⟨D1, g1, g2, g3, g4, acc', g6, g7⟩ :=
        ih (st := stepCalc st t' c' chs) hw' (hv.calc chs) hT (hS.calc chs) h2
      rw [docActs_calc, calcChs_calc, ← writeAfters_append, ← List.append_assoc]
      exact ⟨D1, g1, g2, g3, g4, acc', g6, g7⟩
    | flushcol t' c' => exact hs.elim
    | finish => exact hs.elim

theorem applyAll_flushAction {d : Doc} {t c : String} {tb : Table} {col : Col}
    (hT : findTable? d t = some tb) (hC : tb.findCol? c = some col)
    (chs : List (Nat × Val × Val)) (hrows : ∀ ch ∈ chs, ch.1 ∈ tb.rows) :
    ∃ d', applyAll d (flushAction t c (addChangesFold [] chs)) = .ok d' ∧
      ColView d t c tb col d' (replayCells col chs) := by
  unfold flushAction
  by_cases he : (changedRows (addChangesFold [] chs)).isEmpty = true
  · rw [if_pos he]
    refine ⟨d, rfl, ?_⟩
    rw [replayCells_of_no_change col chs (by simpa using he)]
    exact ColView.self hT hC
  · rw [if_neg he]
    refine ⟨replaceTable d t (tb.replaceCol c { col with cells := replayCells col chs }),
      ?_, ColView.replace hT hC _⟩
    rw [applyAll_updateAction hT hC]
    · congr 4
      funext k
      unfold replayCells
      split
      · exact setCells_map _ _ _ _ ‹_›
      · exact setCells_not_mem _ _ _ _ ‹_›
    · intro r hr
      rw [mem_changedRows_merged] at hr
      obtain ⟨b, a, hl, _⟩ := hr
      obtain ⟨_, l, hl1, hl2, _⟩ := mergedChange_mem hl
      exact hl2 ▸ hrows l hl1

/-- what `w ++ [finish]` stores, and the engine's document as a view of what the doc actions alone
    produce -/
theorem bulk_calc_finish {st st' : EState} {t c : String} {tb : Table} {col : Col}
    (hs : st.summary = {}) (hsto : st.stored = [])
    (ht : isDefunct t = false) (hc : isDefunct c = false)
    (hT : findTable? st.doc t = some tb) (hC : tb.findCol? c = some col)
    (w : List Step) (hw : ∀ s ∈ w, StepOK t c s)
    (h : run st (w ++ [.finish]) = .ok st') :
    st'.stored = docActs w ++ flushAction t c (addChangesFold [] (calcChs w)) ∧
    ∃ D1, applyAll st.doc (docActs w) = .ok D1 ∧ findTable? D1 t = some tb ∧
      ColView D1 t c tb col st'.doc (writeAfters col.cells (calcChs w)) := by
  obtain ⟨st1, h1, h2⟩ := run_append_word w [.finish] h
  cases h2
  obtain ⟨D1, g1, g2, g3, g4, acc', g6, g7⟩ :=
    run_bulk_calc w hw (ColView.self hT hC) hT (hs ▸ SumInv.empty t c) h1
  refine ⟨?_, D1, g1, g3, g2⟩
  rw [stepFinish_stored, flushAll_of_sumInv g6 ht hc, g4, hsto, g7]
  rfl

theorem bulk_calc_finish_views {st st' : EState} {t c : String} {tb : Table} {col : Col}
    (hs : st.summary = {}) (hsto : st.stored = [])
    (ht : isDefunct t = false) (hc : isDefunct c = false)
    (hT : findTable? st.doc t = some tb) (hC : tb.findCol? c = some col)
    (w : List Step) (hw : ∀ s ∈ w, StepOK t c s)
    (hrows : ∀ ch ∈ calcChs w, ch.1 ∈ tb.rows)
    (h : run st (w ++ [.finish]) = .ok st') :
    ∃ D1 d', applyAll st.doc (docActs w) = .ok D1 ∧ applyAll st.doc st'.stored = .ok d' ∧
      ColView D1 t c tb col d' (replayCells col (calcChs w)) ∧
      ColView D1 t c tb col st'.doc (writeAfters col.cells (calcChs w)) := by
  obtain ⟨hsto', D1, g1, g3, g2⟩ := bulk_calc_finish hs hsto ht hc hT hC w hw h
  obtain ⟨d', k1, k2⟩ := applyAll_flushAction g3 hC (calcChs w) hrows
  exact ⟨D1, d', g1, hsto' ▸ (applyAll_append g1).trans k1, k2, g2⟩

theorem bulk_calc_faithful {st st' : EState} {t c : String} {tb : Table} {col : Col}
    {R : Val → Val → Prop} (hR : ∀ v, R v v)
    (hs : st.summary = {}) (hsto : st.stored = [])
    (ht : isDefunct t = false) (hc : isDefunct c = false)
    (hT : findTable? st.doc t = some tb) (hC : tb.findCol? c = some col)
    (w : List Step) (hw : ∀ s ∈ w, StepOK t c s)
    (hrows : ∀ ch ∈ calcChs w, ch.1 ∈ tb.rows)
    (hnorm : ∀ ch ∈ calcChs w, colSet col.info.type ch.2.2 = ch.2.2)
    (hkeep : ∀ k b a, mergedChange (calcChs w) k = some (b, a) → equalEncoding b a = true →
      R (col.cells k) a)
    (h : run st (w ++ [.finish]) = .ok st') :
    ∃ d', applyAll st.doc st'.stored = .ok d' ∧ SameRel R d' st'.doc := by
  obtain ⟨D1, d', _, h1, h2, h3⟩ := bulk_calc_finish_views hs hsto ht hc hT hC w hw hrows h
  exact ⟨d', h1, h2.replay_sameRel h3 hR hnorm hkeep⟩

/-! ### the special case: a word of calc steps only -/

theorem stepOK_calcs (t c : String) (calcs : List (List (Nat × Val × Val))) :
    ∀ s ∈ calcs.map (Step.calc t c), StepOK t c s := by
  intro s hs
  obtain ⟨chs, _, rfl⟩ := List.mem_map.mp hs
  exact ⟨rfl, rfl⟩

theorem docActs_calcs (t c : String) (calcs : List (List (Nat × Val × Val))) :
    docActs (calcs.map (Step.calc t c)) = [] := by
  induction calcs with
  | nil => rfl
  | cons chs calcs ih => exact ih

theorem calcChs_calcs (t c : String) (calcs : List (List (Nat × Val × Val))) :
    calcChs (calcs.map (Step.calc t c)) = calcs.flatten := by
  induction calcs with
  | nil => rfl
  | cons chs calcs ih => rw [List.map_cons, calcChs_calc, ih, List.flatten_cons]

end Grist.Doc
