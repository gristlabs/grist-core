/-
CPython's `_ymd2ord` / `_ord2ymd` (behind `date - DATE_EPOCH` and `DATE_EPOCH + timedelta`; C34
clause 2) are mutually inverse on valid civil dates of any year.  `ord2ymd_spec` follows `_ord2ymd`
through its divmod chain once; the other direction needs no second pass: `_ymd2ord` is strictly
increasing in (year, month, day) order, hence injective on valid dates.
-/
import GristModel.Zone
import GristProofs.Calendar
namespace Grist.Zone
open Grist.Cal

theorem daysBeforeYear_eq (y : Int) : daysBeforeYear y = yearDays (y - 1) := by
  simp only [daysBeforeYear, yearDays]
  omega

theorem isLeap_iff (y : Int) : isLeap y = true ↔ Leap y := by
  unfold isLeap Leap
  exact decide_eq_true_iff

theorem daysBeforeYear_succ (y : Int) :
    daysBeforeYear (y + 1) = daysBeforeYear y + 365 + if isLeap y then 1 else 0 := by
  rw [daysBeforeYear_eq, daysBeforeYear_eq, show y + 1 - 1 = y - 1 + 1 by omega]
  by_cases h : isLeap y = true
  · rw [if_pos h, yearDays_succ_of_leap
      (by rw [show y - 1 + 1 = y by omega]; exact (isLeap_iff y).1 h)]
    omega
  · rw [if_neg h, yearDays_succ_of_not_leap
      (by rw [show y - 1 + 1 = y by omega]; exact fun hl => h ((isLeap_iff y).2 hl))]
    omega

theorem forall_months {P : Int → Prop} (h : ∀ k : Fin 12, P (k.val + 1)) (m : Int) (h1 : 1 ≤ m)
    (h12 : m ≤ 12) : P m := by
  have e : ((m - 1).toNat : Int) + 1 = m := by omega
  exact e ▸ h ⟨(m - 1).toNat, by omega⟩

/-- All that is used of the two month tables.  Start and end of month `m` lie in the bands
    `[32m - 50, 32m - 18]` and `(32m - 19, 32m + 14]`: that is why the estimate `(n + 50) >> 5` of
    `_ord2ymd` is the month of day `n` of the year or the one after it. -/
theorem month_table : ∀ m : Int, 1 ≤ m → m ≤ 12 → ∀ leap : Bool,
    (m ≤ 11 → daysBeforeMonth leap (m + 1) = daysBeforeMonth leap m + daysInMonthL leap m ∧
      32 * m - 19 < daysBeforeMonth leap m + daysInMonthL leap m) ∧
    (m = 1 → daysBeforeMonth leap m = 0) ∧
    (m = 12 → daysBeforeMonth leap m + daysInMonthL leap m = 365 + if leap then 1 else 0) ∧
    32 * m - 50 ≤ daysBeforeMonth leap m ∧ daysBeforeMonth leap m ≤ 32 * m - 18 ∧
    daysBeforeMonth leap m + daysInMonthL leap m ≤ 32 * m + 14 ∧ 1 ≤ daysInMonthL leap m :=
  forall_months (by decide)

/-- The month step of `_ord2ymd`, in both branches of its correction. -/
theorem month_split (leap : Bool) (n k : Int) (h0 : 0 ≤ n) (h1 : n < 365 + if leap then 1 else 0)
    (hk : k = (n + 50) / 32) :
    (daysBeforeMonth leap k > n →
      1 ≤ k - 1 ∧ k - 1 ≤ 12 ∧
      1 ≤ n - (daysBeforeMonth leap k - daysInMonthL leap (k - 1)) + 1 ∧
      n - (daysBeforeMonth leap k - daysInMonthL leap (k - 1)) + 1 ≤ daysInMonthL leap (k - 1) ∧
      daysBeforeMonth leap (k - 1) + (n - (daysBeforeMonth leap k - daysInMonthL leap (k - 1)) + 1)
        = n + 1) ∧
    (¬ daysBeforeMonth leap k > n →
      1 ≤ k ∧ k ≤ 12 ∧ 1 ≤ n - daysBeforeMonth leap k + 1 ∧
      n - daysBeforeMonth leap k + 1 ≤ daysInMonthL leap k ∧
      daysBeforeMonth leap k + (n - daysBeforeMonth leap k + 1) = n + 1) := by
  have hL : (if leap = true then (1 : Int) else 0) ≤ 1 := by split <;> omega
  have k1 : 1 ≤ k := by omega
  have k12 : k ≤ 12 := by omega
  have hn : 32 * k ≤ n + 50 ∧ n + 50 < 32 * k + 32 := by omega
  clear hk
  obtain ⟨t1, t2, t3, -, -, -, -⟩ := month_table k k1 k12 leap
  constructor
  · intro hp
    have k2 : 2 ≤ k := by
      false_or_by_contra
      have := t2 (by omega)
      omega
    obtain ⟨s1, -, -, -, s2, -, -⟩ := month_table (k - 1) (by omega) (by omega) leap
    have := (s1 (by omega)).1
    rw [show k - 1 + 1 = k by omega] at this
    omega
  · intro hp
    refine ⟨k1, k12, by omega, ?_, by omega⟩
    by_cases hk : k = 12
    · have := t3 hk
      omega
    · have := (t1 (by omega)).2
      omega

theorem month_lt (leap : Bool) (m m' : Int) (h1 : 1 ≤ m) (hlt : m < m') (h12 : m' ≤ 12) :
    daysBeforeMonth leap m + daysInMonthL leap m ≤ daysBeforeMonth leap m' := by
  obtain ⟨t1, -, -, -, -, t2, -⟩ := month_table m h1 (by omega) leap
  obtain ⟨-, -, -, s1, -, -, -⟩ := month_table m' (by omega) h12 leap
  by_cases h : m' = m + 1
  · rw [h, (t1 (by omega)).1]
    exact Int.le_refl _
  · omega

theorem dayOfYear_range (leap : Bool) (m d : Int) (m1 : 1 ≤ m) (m12 : m ≤ 12) (d1 : 1 ≤ d)
    (d2 : d ≤ daysInMonthL leap m) :
    1 ≤ daysBeforeMonth leap m + d ∧
    daysBeforeMonth leap m + d ≤ 365 + if leap then 1 else 0 := by
  obtain ⟨-, t2, t3, t4, -, -, -⟩ := month_table m m1 m12 leap
  by_cases h : m = 12
  · have := t3 h
    omega
  · obtain ⟨-, -, s3, -, -, -, s7⟩ := month_table 12 (by omega) (by omega) leap
    have := month_lt leap m 12 m1 (by omega) (by omega)
    have := s3 rfl
    have : m = 1 → daysBeforeMonth leap m = 0 := t2
    omega

/-- The divmod chain of `_ord2ymd`.  A century is one day short of 25 four-year cycles and a cycle
    one day longer than 4 years, so `b = 4` and `d = 4` occur, each only on the last day of its
    period. -/
theorem digit_chain (N : Int) :
    ∃ a b c d r : Int,
      N / 146097 = a ∧ N % 146097 / 36524 = b ∧ N % 146097 % 36524 / 1461 = c ∧
      N % 146097 % 36524 % 1461 / 365 = d ∧ N % 146097 % 36524 % 1461 % 365 = r ∧
      N = 146097 * a + 36524 * b + 1461 * c + 365 * d + r ∧
      0 ≤ b ∧ b ≤ 4 ∧ 0 ≤ c ∧ c ≤ 24 ∧ 0 ≤ d ∧ d ≤ 4 ∧ 0 ≤ r ∧ r ≤ 364 ∧
      (b = 4 → c = 0 ∧ d = 0 ∧ r = 0) ∧ (d = 4 → r = 0 ∧ c ≤ 23) := by
  refine ⟨_, _, _, _, _, rfl, rfl, rfl, rfl, rfl, ?_⟩
  obtain ⟨e1, l1, u1⟩ := divmod_spec N 146097 (by decide)
  generalize N / 146097 = a, N % 146097 = n1 at *
  obtain ⟨e2, l2, u2⟩ := divmod_spec n1 36524 (by decide)
  generalize n1 / 36524 = b, n1 % 36524 = n2 at *
  obtain ⟨e3, l3, u3⟩ := divmod_spec n2 1461 (by decide)
  generalize n2 / 1461 = c, n2 % 1461 = n3 at *
  obtain ⟨e4, l4, u4⟩ := divmod_spec n3 365 (by decide)
  generalize n3 / 365 = d, n3 % 365 = r at *
  omega

theorem year_of_digits (y a b c d : Int) (hy : y = 400 * a + 100 * b + 4 * c + d + 1)
    (hb : 0 ≤ b ∧ b ≤ 3) (hc : 0 ≤ c ∧ c ≤ 24) (hd : 0 ≤ d ∧ d ≤ 3) :
    daysBeforeYear y = 146097 * a + 36524 * b + 1461 * c + 365 * d ∧
    isLeap y = decide (d = 3 ∧ (c ≠ 24 ∨ b = 3)) := by
  subst hy
  constructor
  · rw [daysBeforeYear_eq, Int.add_sub_cancel]
    exact yearDays_digits a b c d hb hc hd
  · exact decide_eq_decide.2 (leap_digits a b c d hb hc hd)

/-- **`_ymd2ord(_ord2ymd(n)) = n`** and `_ord2ymd(n)` is a valid civil date, for every integer `n`. -/
theorem ord2ymd_spec (n0 : Int) : (ord2ymd n0).Valid ∧ ymd2ord (ord2ymd n0) = n0 := by
  obtain ⟨a, b, c, d, r, ha, hb, hc, hd, hr, hN, b0, b4, c0, c24, d0, d4, r0, r364, hb4, hd4⟩ :=
    digit_chain (n0 - 1)
  unfold ord2ymd
  simp only [ha, hb, hc, hd, hr]
  clear ha hb hc hd hr
  by_cases early : d = 4 ∨ b = 4
  · rw [if_pos early]
    -- the last day of a leap year, counted by the chain as day 0 of a fifth year (`d = 4`) or a
    -- fifth century (`b = 4`): the year before has digits `b', c', 3`
    obtain ⟨b', c', hy, hb', hc', hleap, hdays⟩ :
        ∃ b' c' : Int, a * 400 + 1 + (b * 100 + c * 4 + d) - 1 = 400 * a + 100 * b' + 4 * c' + 3 + 1 ∧
          (0 ≤ b' ∧ b' ≤ 3) ∧ (0 ≤ c' ∧ c' ≤ 24) ∧ (c' ≠ 24 ∨ b' = 3) ∧
          36524 * b' + 1461 * c' + 365 * 3 + 365 = 36524 * b + 1461 * c + 365 * d + r := by
      by_cases eb : b = 4
      · have := hb4 eb
        exact ⟨3, 24, by omega, by omega, by omega, by omega, by omega⟩
      · have := hd4 (by omega)
        exact ⟨b, c, by omega, by omega, by omega, by omega, by omega⟩
    obtain ⟨hy', hl⟩ := year_of_digits _ a b' c' 3 hy hb' hc' (by decide)
    rw [decide_eq_true ⟨rfl, hleap⟩] at hl
    constructor
    · simp only [Civil.Valid, daysInMonth, hl]
      decide
    · simp only [ymd2ord, hl, hy']
      rw [show daysBeforeMonth true 12 = 335 by decide]
      omega
  · rw [if_neg early]
    obtain ⟨hy, hl⟩ := year_of_digits (a * 400 + 1 + (b * 100 + c * 4 + d)) a b c d (by omega)
      ⟨b0, by omega⟩ ⟨c0, c24⟩ ⟨d0, by omega⟩
    generalize decide (d = 3 ∧ (c ≠ 24 ∨ b = 3)) = leap at *
    obtain ⟨hA, hB⟩ := month_split leap r _ r0 (by split <;> omega) rfl
    split
    · next hp =>
      obtain ⟨m1, m12, d1, d2, e⟩ := hA hp
      refine ⟨⟨m1, m12, d1, ?_⟩, ?_⟩
      · simp only [daysInMonth, hl]
        exact d2
      · simp only [ymd2ord, hl, hy]
        omega
    · next hp =>
      obtain ⟨m1, m12, d1, d2, e⟩ := hB hp
      refine ⟨⟨m1, m12, d1, ?_⟩, ?_⟩
      · simp only [daysInMonth, hl]
        exact d2
      · simp only [ymd2ord, hl, hy]
        omega

theorem ymd2ord_window (c : Civil) (hv : c.Valid) :
    daysBeforeYear c.y < ymd2ord c ∧ ymd2ord c ≤ daysBeforeYear (c.y + 1) := by
  obtain ⟨m1, m12, d1, d2⟩ := hv
  have := dayOfYear_range (isLeap c.y) c.m c.d m1 m12 d1 d2
  rw [daysBeforeYear_succ]
  unfold ymd2ord
  omega

theorem ymd2ord_lt_of_year_lt (c c' : Civil) (hv : c.Valid) (hv' : c'.Valid) (h : c.y < c'.y) :
    ymd2ord c < ymd2ord c' := by
  have := (ymd2ord_window c hv).2
  have := (ymd2ord_window c' hv').1
  have : daysBeforeYear (c.y + 1) ≤ daysBeforeYear c'.y := by
    rw [daysBeforeYear_eq, daysBeforeYear_eq]
    exact yearDays_mono (by omega)
  omega

theorem ymd2ord_inj (c c' : Civil) (hv : c.Valid) (hv' : c'.Valid) (h : ymd2ord c = ymd2ord c') :
    c = c' := by
  have hy : c.y = c'.y := by
    rcases Int.lt_trichotomy c.y c'.y with hlt | heq | hgt
    · have := ymd2ord_lt_of_year_lt c c' hv hv' hlt
      omega
    · exact heq
    · have := ymd2ord_lt_of_year_lt c' c hv' hv hgt
      omega
  obtain ⟨y, m, d⟩ := c
  obtain ⟨y', m', d'⟩ := c'
  obtain ⟨m1, m12, d1, d2⟩ := hv
  obtain ⟨m1', m12', d1', d2'⟩ := hv'
  simp only [ymd2ord, daysInMonth] at hy h m1 m12 d1 d2 m1' m12' d1' d2'
  subst hy
  have hm : m = m' := by
    rcases Int.lt_trichotomy m m' with hlt | heq | hgt
    · have := month_lt (isLeap y) m m' m1 hlt m12'
      omega
    · exact heq
    · have := month_lt (isLeap y) m' m m1' hgt m12
      omega
  subst hm
  have hd : d = d' := by omega
  rw [hd]

/-- **`_ord2ymd(_ymd2ord(y, m, d)) = (y, m, d)`** for every valid civil date of any year. -/
theorem ord2ymd_ymd2ord (c : Civil) (hv : c.Valid) : ord2ymd (ymd2ord c) = c :=
  ymd2ord_inj _ _ (ord2ymd_spec _).1 hv (ord2ymd_spec _).2

theorem days_of_civil_of_days (n : Int) : daysFromCivil (civilFromDays n) = n := by
  unfold daysFromCivil civilFromDays
  rw [(ord2ymd_spec _).2]
  omega

theorem civilFromDays_valid (n : Int) : (civilFromDays n).Valid := (ord2ymd_spec _).1

theorem civil_of_days_of_civil (c : Civil) (hv : c.Valid) : civilFromDays (daysFromCivil c) = c := by
  unfold daysFromCivil civilFromDays
  rw [show ymd2ord c - 719163 + 719163 = ymd2ord c by omega]
  exact ord2ymd_ymd2ord c hv

end Grist.Zone
