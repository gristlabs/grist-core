/-
The lookup index under engine events (`step`), for C13.  Defines `containsKeyOf`.  Main facts:
`mem_containsNewKeys_iff` (the keys of `itertools.product` are the column-wise matches);
`indexExact_step` (exactness survives every event); `inv_step` (cached sorted versions stay fresh,
under the ordering assumption `Ev.allowed`).
-/
import GristProofs.Lookup
import GristProofs.SortedFind
namespace Grist.Lookup
open Grist.SortedFind (Val keyLt Key RowId pySorted)

section contains

abbrev GoodC (m : Index (List LKey)) : Prop := Good containsRight (wfC setC rowHashable) m

theorem rel_containsRight (d : Dict Nat (List LKey)) (k : Nat) (x : LKey) :
    Rel containsRight d k x ↔ x ∈ (dget k d).getD [] := by
  simp only [Rel, containsRight, containerOps, setC]
  cases dget k d with
  | none => simp
  | some s => simp

/-- `for new_key in keys: self._row_key_map.insert(row_id, new_key)` -/
theorem insertAll_spec (row : Nat) :
    ∀ (ks : List LKey) {m : Index (List LKey)}, GoodC m → (∀ k ∈ ks, k.hashable = true) →
      GoodC (insertAll m row ks) ∧ CacheRel m.bwd (insertAll m row ks).bwd ∧
      ∀ l r, Rel containsRight (insertAll m row ks).fwd l r ↔
        (Rel containsRight m.fwd l r ∨ (l = row ∧ r ∈ ks)) := by
  intro ks
  induction ks with
  | nil => intro m hm _; exact ⟨hm, CacheRel.refl _, by intro l r; simp [insertAll]⟩
  | cons k ks ih =>
    intro m hm hh
    have hk := hh k (by simp)
    obtain ⟨ra, fwd1, h1⟩ := container_add_total setC rowHashable LKey.hashable m.fwd (k := row) rfl hk
    obtain ⟨m1, he, hw, hc, hrel⟩ := ix_insert_ok lawful_containsRight hm hk h1
    obtain ⟨g, c, rl⟩ := ih hw (fun x hx => hh x (by simp [hx]))
    simp only [insertAll, he]
    refine ⟨g, hc.trans c, ?_⟩
    intro l r
    rw [rl l r, hrel l r]
    simp only [reduceCtorEq, and_false, not_false_eq_true, and_true, List.mem_cons]
    constructor
    · rintro ((⟨e1, e2⟩ | h) | ⟨e1, e2⟩)
      · exact Or.inr ⟨e1, Or.inl e2⟩
      · exact Or.inl h
      · exact Or.inr ⟨e1, Or.inr e2⟩
    · rintro (h | ⟨e1, e2 | e2⟩)
      · exact Or.inl (Or.inr h)
      · exact Or.inl (Or.inl ⟨e1, e2⟩)
      · exact Or.inr ⟨e1, e2⟩

def allIn {τ : Type} : List τ → List (List τ) → Prop
  | [], [] => True
  | x :: xs, g :: gs => x ∈ g ∧ allIn xs gs
  | _, _ => False

theorem mem_product {τ : Type} : ∀ (gs : List (List τ)) (k : List τ),
    k ∈ product gs ↔ allIn k gs := by
  intro gs
  induction gs with
  | nil => intro k; cases k <;> simp [product, allIn]
  | cons g gs ih =>
    intro k
    simp only [product, List.mem_flatMap, List.mem_map]
    constructor
    · rintro ⟨x, hx, t, ht, rfl⟩
      exact ⟨hx, (ih t).mp ht⟩
    · intro h
      cases k with
      | nil => simp [allIn] at h
      | cons x t => exact ⟨x, h.1, t, (ih t).mpr h.2, rfl⟩

theorem norm_hashable (c : Cell) : c.norm.hashable = c.hashable := by cases c <;> rfl

theorem mem_keyGroup_iff (kind : ColKind) (c x : Cell) :
    x ∈ keyGroup kind c ↔ matchCol kind c x = true := by
  cases kind with
  | plain =>
    simp only [keyGroup, matchCol, Bool.and_eq_true, beq_iff_eq]
    by_cases hc : c.hashable = true
    · simp only [hc, if_true, List.mem_singleton]
      constructor
      · intro h
        subst h
        exact ⟨by rw [norm_hashable]; exact hc, rfl⟩
      · intro h
        exact h.2.symm
    · simp only [hc, if_false, Bool.false_eq_true, List.not_mem_nil, false_iff]
      rintro ⟨h1, h2⟩
      rw [← h2, norm_hashable] at h1
      exact hc h1
  | contains me =>
    cases c with
    | v y =>
      simp only [keyGroup]
      by_cases h1 : y.isStr = true
      · cases x <;> simp [matchCol, h1]
      · by_cases h2 : y.falsy = true
        · cases me <;> cases x <;> simp [matchCol, h1, h2]
          exact eq_comm
        · cases x <;> simp [matchCol, h1, h2]
    | lst xs =>
      simp only [keyGroup]
      by_cases h1 : xs.isEmpty = true
      · cases me <;> cases x <;> simp [matchCol, h1]
        exact eq_comm
      · cases x <;> simp [matchCol, h1, List.mem_eraseDups]

theorem allIn_keyGroups_iff : ∀ (kinds : List ColKind) (cells : List Cell) (K : LKey),
    allIn K (keyGroups kinds cells) ↔ matchKey kinds cells K = true := by
  intro kinds
  induction kinds with
  | nil => intro cells K; cases K <;> simp [keyGroups, allIn, matchKey]
  | cons kd kinds ih =>
    intro cells K
    cases cells with
    | nil => cases K <;> simp [keyGroups, allIn, matchKey]
    | cons c cells =>
      cases K with
      | nil => simp [keyGroups, allIn, matchKey]
      | cons x t =>
        simp only [keyGroups, allIn, matchKey, Bool.and_eq_true]
        rw [mem_keyGroup_iff, ih cells t]

theorem mem_containsNewKeys_iff (kinds : List ColKind) (cells : List Cell) (K : LKey) :
    K ∈ containsNewKeys kinds cells ↔ matchKey kinds cells K = true := by
  simp only [containsNewKeys, List.mem_eraseDups]
  rw [mem_product, allIn_keyGroups_iff]

theorem matchCol_hashable {kind : ColKind} {c x : Cell} (h : matchCol kind c x = true) :
    x.hashable = true := by
  cases kind <;> cases c <;> cases x <;> simp_all [matchCol, Cell.hashable]

theorem matchKey_hashable : ∀ (kinds : List ColKind) (cells : List Cell) (K : LKey),
    matchKey kinds cells K = true → K.hashable = true
  | _, _, [] => fun _ => rfl
  | [], _, _ :: _ => by simp [matchKey]
  | _ :: _, [], _ :: _ => by simp [matchKey]
  | kd :: kinds, c :: cells, x :: t => by
    simp only [matchKey, Bool.and_eq_true, LKey.hashable, List.all_cons]
    exact fun h => ⟨matchCol_hashable h.1, matchKey_hashable kinds cells t h.2⟩

theorem containsNewKeys_hashable {kinds : List ColKind} {cells : List Cell} {k : LKey}
    (h : k ∈ containsNewKeys kinds cells) : k.hashable = true :=
  matchKey_hashable kinds cells k ((mem_containsNewKeys_iff kinds cells k).mp h)

theorem containsUpdate_spec (kinds : List ColKind) {m : Index (List LKey)} (hm : GoodC m)
    (row : Nat) (cells : List Cell) :
    GoodC (containsUpdate kinds m row cells).1 ∧
    CacheRel m.bwd (containsUpdate kinds m row cells).1.bwd ∧
    ∀ l r, Rel containsRight (containsUpdate kinds m row cells).1.fwd l r ↔
      (if l = row then r ∈ containsNewKeys kinds cells else Rel containsRight m.fwd l r) := by
  unfold containsUpdate
  simp only
  have hold : ∀ k ∈ containsMappedKeys m row, k.hashable = true := by
    intro k hk
    exact Good.key_hashable hm ((rel_containsRight _ _ _).mpr hk)
  obtain ⟨g1, c1, r1⟩ := removeAll_spec lawful_containsRight row
    ((containsMappedKeys m row).filter (fun k => !(containsNewKeys kinds cells).contains k)) hm
    (fun k hk => hold k (List.mem_filter.mp hk).1)
  obtain ⟨g2, c2, r2⟩ := insertAll_spec row
    ((containsNewKeys kinds cells).filter (fun k => !(containsMappedKeys m row).contains k)) g1
    (fun k hk => containsNewKeys_hashable (List.mem_filter.mp hk).1)
  refine ⟨g2, c1.trans c2, ?_⟩
  intro l r
  rw [r2 l r, r1 l r]
  by_cases e : l = row
  · subst e
    simp only [if_true, true_and, List.mem_filter]
    have hmem : Rel containsRight m.fwd l r ↔ r ∈ containsMappedKeys m l := rel_containsRight _ _ _
    rw [hmem]
    by_cases hn : r ∈ containsNewKeys kinds cells
    · by_cases ho : r ∈ containsMappedKeys m l <;> simp [hn, ho]
    · simp [hn]
  · simp [e]

theorem matchKey_plain : ∀ (cells : List Cell) (K : LKey),
    matchKey (cells.map (fun _ => ColKind.plain)) cells K = true ↔
      (K = simpleNewKey cells ∧ K.hashable = true) := by
  intro cells
  induction cells with
  | nil => intro K; cases K <;> simp [matchKey, simpleNewKey, LKey.hashable]
  | cons c cells ih =>
    intro K
    cases K with
    | nil => simp [matchKey, simpleNewKey]
    | cons x t =>
      simp only [List.map_cons, matchKey, matchCol, Bool.and_eq_true, beq_iff_eq, ih t,
        simpleNewKey, List.cons.injEq, LKey.hashable, List.all_cons]
      constructor
      · rintro ⟨⟨h1, h2⟩, h3, h4⟩
        exact ⟨⟨h2.symm, h3⟩, h1, h4⟩
      · rintro ⟨⟨h2, h3⟩, h1, h4⟩
        exact ⟨⟨h1, h2.symm⟩, h3, h4⟩

def containsKeyOf (kinds : List ColKind) (cells : List Cell) (K : LKey) : Prop :=
  matchKey kinds cells K = true

theorem lawful_containsMapping (kinds : List ColKind) :
    LawfulMapping (containsMapping kinds) (wfC setC rowHashable) (containsKeyOf kinds) where
  right_lawful := lawful_containsRight
  update_spec := by
    intro m row cells hm
    obtain ⟨g, c, f⟩ := containsUpdate_spec kinds hm row cells
    refine ⟨g, c, inSet_of_fwd hm g fun l r => ?_⟩
    show Rel containsRight _ l r ↔ if l = row then _ else Rel containsRight _ l r
    rw [f l r, mem_containsNewKeys_iff]
    rfl
  remove_spec := fun row hm =>
    removeRow_spec lawful_containsRight hm row fun K => (rel_containsRight _ _ _).symm
  newKeys_spec := by
    intro cells ks h K
    simp only [containsMapping] at h
    injection h with h
    subst h
    exact mem_containsNewKeys_iff kinds cells K
  newKeys_err := by
    intro cells e h
    simp [containsMapping] at h

end contains

section sorting
open Grist.SortedFind
variable (table : Dict Nat RowData) (spec : SortSpec)

theorem sortValues_length (row : Nat) : (sortValues table spec row).length = spec.length := by
  simp [sortValues]

theorem rowLt_trans {a b c : Nat} (h1 : rowLt table spec a b = true) (h2 : rowLt table spec b c = true) :
    rowLt table spec a c = true :=
  keyLt_trans (by simp [sortValues_length]) (by simp [sortValues_length]) h1 h2

theorem rowLt_asymm {a b : Nat} (h : rowLt table spec a b = true) : rowLt table spec b a = false :=
  keyLt_asymm h

theorem rowLt_total {a b : Nat} (h : a ≠ b) :
    rowLt table spec a b = true ∨ rowLt table spec b a = true :=
  keyLt_total h _ _

theorem sortRows_perm (rows : List Nat) : (sortRows table spec rows).Perm rows :=
  pySorted_perm _ rows

theorem sortRows_sorted (rows : List Nat) :
    (sortRows table spec rows).Pairwise (fun a b => rowLt table spec b a = false) :=
  pySorted_pairwise (rowLt table spec) (fun _ => True)
    (fun _ _ _ _ _ _ h1 h2 => rowLt_trans table spec h1 h2)
    (fun _ _ _ _ h => rowLt_asymm table spec h) rows (fun _ _ => trivial)

theorem sortRows_strict {rows : List Nat} (hnd : rows.Nodup) :
    (sortRows table spec rows).Pairwise (fun a b => rowLt table spec a b = true) := by
  have hnd' : (sortRows table spec rows).Nodup :=
    (List.Perm.nodup_iff (sortRows_perm table spec rows)).mpr hnd
  refine List.Pairwise.imp ?_ (List.Pairwise.and (sortRows_sorted table spec rows) hnd')
  intro a b ⟨h1, h2⟩
  rcases rowLt_total table spec h2 with h | h
  · exact h
  · rw [h1] at h
    exact absurd h (by simp)

theorem sortRows_eq_of_perm {l1 l2 : List Nat} (hp : l1.Perm l2) :
    sortRows table spec l1 = sortRows table spec l2 := by
  refine List.Perm.eq_of_pairwise (le := fun a b => rowLt table spec b a = false) ?_
    (sortRows_sorted table spec l1) (sortRows_sorted table spec l2)
    ((sortRows_perm table spec l1).trans (hp.trans (sortRows_perm table spec l2).symm))
  intro a b _ _ h1 h2
  apply Classical.byContradiction
  intro hne
  rcases rowLt_total table spec hne with h | h
  · rw [h2] at h
    exact absurd h (by simp)
  · rw [h1] at h
    exact absurd h (by simp)

theorem insertSorted_congr {α : Type} {lt1 lt2 : α → α → Bool} (x : α) :
    ∀ l : List α, (∀ b ∈ l, lt1 x b = lt2 x b) → insertSorted lt1 x l = insertSorted lt2 x l := by
  intro l
  induction l with
  | nil => intro _; rfl
  | cons y ys ih =>
    intro h
    simp only [insertSorted, h y (by simp)]
    rw [ih (fun b hb => h b (by simp [hb]))]

theorem pySorted_congr {α : Type} {lt1 lt2 : α → α → Bool} :
    ∀ l : List α, (∀ a ∈ l, ∀ b ∈ l, lt1 a b = lt2 a b) → pySorted lt1 l = pySorted lt2 l := by
  intro l
  induction l with
  | nil => intro _; rfl
  | cons x l ih =>
    intro h
    have e1 : pySorted lt1 (x :: l) = insertSorted lt1 x (pySorted lt1 l) := by simp [pySorted]
    have e2 : pySorted lt2 (x :: l) = insertSorted lt2 x (pySorted lt2 l) := by simp [pySorted]
    rw [e1, e2, ← ih (fun a ha b hb => h a (by simp [ha]) b (by simp [hb]))]
    apply insertSorted_congr
    intro b hb
    exact h x (by simp) b (by simp [(pySorted_perm lt1 l).mem_iff.mp hb])

theorem sortRows_congr {t1 t2 : Dict Nat RowData} {rows : List Nat}
    (h : ∀ x ∈ rows, sortValues t1 spec x = sortValues t2 spec x) :
    sortRows t1 spec rows = sortRows t2 spec rows := by
  apply pySorted_congr
  intro a ha b hb
  simp only [rowLt, h a ha, h b hb]

end sorting

section machine
variable {σR : Type}

theorem step_deliverKey (M : Mapping σR) (sortCols : List String) (st : St σR) (row : Nat) :
    (step M sortCols st (.deliverKey row)).1 = st ∨ ∃ rd, dget row st.table = some rd ∧
      (step M sortCols st (.deliverKey row)).1 =
        { st with index := (M.update st.index row rd.key).1, dirtyKey := st.dirtyKey.filter (· != row),
                  seen := st.seen.filter (· != row) } := by
  simp only [step]
  cases dget row st.table with
  | none => exact Or.inl rfl
  | some rd => exact Or.inr ⟨rd, rfl, rfl⟩

theorem step_deliverSort (M : Mapping σR) (sortCols : List String) (st : St σR) (row : Nat)
    (spec : SortSpec) :
    (step M sortCols st (.deliverSort row spec)).1 = st ∨ ∃ rd ks, dget row st.table = some rd ∧
      M.newKeys rd.key = .ok ks ∧
      (step M sortCols st (.deliverSort row spec)).1 =
        { st with index := { st.index with bwd := ks.foldl (popSorted spec) st.index.bwd },
                  sortDone := (row, spec) :: st.sortDone,
                  seen := if st.dirtyKey.contains row then row :: st.seen else st.seen } := by
  simp only [step]
  cases dget row st.table with
  | none => exact Or.inl rfl
  | some rd =>
    simp only
    cases hnk : M.newKeys rd.key with
    | error e => exact Or.inl rfl
    | ok ks => exact Or.inr ⟨rd, ks, rfl, hnk, rfl⟩

theorem step_lookup (M : Mapping σR) (sortCols : List String) (st : St σR) (key : LKey)
    (spec : SortSpec) :
    (step M sortCols st (.lookup key spec)).1 = st ∨ ∃ s, dget (key.map Cell.norm) st.index.bwd = some s ∧
      (step M sortCols st (.lookup key spec)).1 =
        { st with index := ⟨st.index.fwd, dset (key.map Cell.norm)
            { s with sorted := dset spec (sortRows st.table spec s.elems) s.sorted } st.index.bwd⟩ } := by
  simp only [step]
  split
  · exact Or.inl rfl
  · split
    · exact Or.inl rfl
    · exact Or.inl rfl
    next s hl =>
      split
      · exact Or.inl rfl
      · refine Or.inr ⟨s, ?_, rfl⟩
        unfold lookupByKey at hl
        split at hl
        · injection hl
        · cases hl


theorem rel_left_of_elems {bwd bwd' : Dict LKey (LSet Nat)}
    (he : ∀ K, (dget K bwd').map (·.elems) = (dget K bwd).map (·.elems)) (K : LKey) (r : Nat) :
    Rel leftOps bwd' K r ↔ Rel leftOps bwd K r := by
  have := he K
  simp only [Rel, leftOps, containerOps, lookupSetC]
  revert this
  rcases dget K bwd' with _ | S' <;> rcases dget K bwd with _ | S <;> simp
  intro h
  rw [h]

theorem good_of_elems {R : BinOps Nat LKey σR} {wfR : Dict Nat σR → Prop} {fwd : Dict Nat σR}
    {bwd bwd' : Dict LKey (LSet Nat)} (hg : Good R wfR { fwd := fwd, bwd := bwd })
    (he : ∀ K, (dget K bwd').map (·.elems) = (dget K bwd).map (·.elems)) :
    Good R wfR { fwd := fwd, bwd := bwd' } := by
  refine ⟨hg.wfF, ?_, fun l r => (hg.inv l r).trans (rel_left_of_elems he r l).symm⟩
  intro k s hs
  have := he k
  rw [hs] at this
  rcases h2 : dget k bwd with _ | S <;> rw [h2] at this <;> simp at this
  have hw := hg.wfB k S h2
  simp only [lookupSetC] at hw ⊢
  rw [this]
  exact hw

theorem dset_sorted_elems {bwd : Dict LKey (LSet Nat)} {key : LKey} {s : LSet Nat}
    (hget : dget key bwd = some s) (c : Dict SortSpec (List Nat)) (K : LKey) :
    (dget K (dset key { s with sorted := c } bwd)).map (·.elems) = (dget K bwd).map (·.elems) := by
  rw [dget_dset]
  by_cases e : K = key
  · simp [e, hget]
  · simp [e]

/-- one `sorted_versions.pop(sort_spec, None)` -/
theorem popSorted_get (sp : SortSpec) (d : Dict LKey (LSet Nat)) (key K : LKey) :
    dget K (popSorted sp d key) =
      (dget K d).map (fun S => if K = key then { S with sorted := ddel sp S.sorted } else S) := by
  unfold popSorted
  cases hk : dget key d with
  | none =>
    simp only
    by_cases e : K = key
    · subst e
      simp [hk]
    · cases dget K d <;> simp [e]
  | some s =>
    simp only
    rw [dget_dset]
    by_cases e : K = key
    · subst e
      simp [hk]
    · cases dget K d <;> simp [e]

/-- the loop of `_reset_sorted_versions` -/
theorem pop_fold_get (sp : SortSpec) : ∀ (ks : List LKey) (d : Dict LKey (LSet Nat)) (K : LKey),
    dget K (ks.foldl (popSorted sp) d) =
      (dget K d).map (fun S => if K ∈ ks then { S with sorted := ddel sp S.sorted } else S)
  | [], d, K => by simp
  | k :: ks, d, K => by
    rw [List.foldl_cons, pop_fold_get sp ks, popSorted_get, Option.map_map]
    congr 1
    funext S
    by_cases e : K = k <;> by_cases h : K ∈ ks <;> simp [e, h, ddel_ddel]

theorem pop_fold (sp : SortSpec) (ks : List LKey) (d : Dict LKey (LSet Nat)) (K : LKey) :
    (dget K (ks.foldl (popSorted sp) d) = none ∧ dget K d = none) ∨
    ∃ S S', dget K d = some S ∧ dget K (ks.foldl (popSorted sp) d) = some S' ∧ S'.elems = S.elems ∧
      (∀ sp' c, dget sp' S'.sorted = some c → dget sp' S.sorted = some c) ∧
      (K ∈ ks → dget sp S'.sorted = none) := by
  rw [pop_fold_get]
  cases dget K d with
  | none => exact Or.inl ⟨rfl, rfl⟩
  | some S =>
    refine Or.inr ⟨S, _, rfl, rfl, ?_, ?_, ?_⟩
    · split <;> rfl
    · intro sp' c
      split
      · rw [dget_ddel]
        split
        · intro h
          cases h
        · exact id
      · exact id
    · intro h
      simp [h, dget_ddel]

theorem pop_fold_elems (sp : SortSpec) (ks : List LKey) (d : Dict LKey (LSet Nat)) (K : LKey) :
    (dget K (ks.foldl (popSorted sp) d)).map (·.elems) = (dget K d).map (·.elems) := by
  rcases pop_fold sp ks d K with ⟨a, b⟩ | ⟨S, S', hb, hc, he, _, _⟩
  · rw [a, b]
  · rw [hb, hc]
    simp [he]

variable {M : Mapping σR} {wfR : Dict Nat σR → Prop} {keyOf : List Cell → LKey → Prop}

/-! the index part of the invariant needs no ordering assumption -/

structure IndexExact (M : Mapping σR) (wfR : Dict Nat σR → Prop) (keyOf : List Cell → LKey → Prop)
    (table : Dict Nat RowData) (index : Index σR) (dirtyKey : List Nat) : Prop where
  good : Good M.right wfR index
  exact : ∀ r, r ∉ dirtyKey → ∀ K,
    inSet index K r ↔ ∃ rd, dget r table = some rd ∧ keyOf rd.key K
  nodup : (tableRows table).Nodup

theorem IndexExact.of_dset {table : Dict Nat RowData} {index : Index σR} {dk dk' : List Nat}
    (hi : IndexExact M wfR keyOf table index dk) {row : Nat} {rd' : RowData}
    (h : ∀ r, r ∉ dk' → r ∉ dk ∧ (dget r (dset row rd' table)).map (·.key) = (dget r table).map (·.key)) :
    IndexExact M wfR keyOf (dset row rd' table) index dk' := by
  refine ⟨hi.good, fun r hr K => ?_, nodup_keys_dset row rd' hi.nodup⟩
  obtain ⟨hd, hk⟩ := h r hr
  have hopt : ∀ o : Option RowData, (∃ rd, o = some rd ∧ keyOf rd.key K) ↔
      ∃ k, o.map (·.key) = some k ∧ keyOf k K := by
    intro o; cases o <;> simp
  rw [hi.exact r hd K, hopt, hopt, hk]

theorem IndexExact.of_elems {table : Dict Nat RowData} {index : Index σR} {dk : List Nat}
    (hi : IndexExact M wfR keyOf table index dk) {bwd' : Dict LKey (LSet Nat)}
    (he : ∀ K, (dget K bwd').map (·.elems) = (dget K index.bwd).map (·.elems)) :
    IndexExact M wfR keyOf table { index with bwd := bwd' } dk :=
  ⟨good_of_elems hi.good he, fun r hr K => (rel_left_of_elems he K r).trans (hi.exact r hr K), hi.nodup⟩

theorem indexExact_step (LM : LawfulMapping M wfR keyOf) (sortCols : List String) {st : St σR}
    (hi : IndexExact M wfR keyOf st.table st.index st.dirtyKey) (e : Ev) : IndexExact M wfR keyOf (step M sortCols st e).1.table
      (step M sortCols st e).1.index (step M sortCols st e).1.dirtyKey := by
  cases e with
  | setKey row cells =>
    simp only [step]
    refine hi.of_dset fun r hr => ?_
    have hne : r ≠ row := fun e => hr (by simp [e])
    exact ⟨fun h => hr (by simp [h]), by rw [dget_dset]; simp [hne]⟩
  | setSort row cells =>
    simp only [step]
    cases hrow : dget row st.table with
    | some rd0 =>
      refine hi.of_dset fun r hr => ⟨hr, ?_⟩
      rw [dget_dset]
      by_cases e : r = row
      · simp [e, hrow]
      · simp [e]
    | none =>
      refine hi.of_dset fun r hr => ?_
      have hne : r ≠ row := fun e => hr (by simp [e])
      exact ⟨fun h => hr (by simp [h]), by rw [dget_dset]; simp [hne]⟩
  | deliverKey row =>
    rcases step_deliverKey M sortCols st row with h | ⟨rd, hrow, h⟩ <;> rw [h]
    · exact hi
    obtain ⟨g, _, rl⟩ := LM.update_spec row rd.key hi.good
    refine ⟨g, fun r hr K => ?_, hi.nodup⟩
    rw [rl K r]
    by_cases e : r = row
    · subst e
      simp [hrow]
    · simp only [e, if_false]
      exact hi.exact r (fun h => hr (mem_filter_ne.mpr ⟨h, e⟩)) K
  | deliverSort row spec0 =>
    rcases step_deliverSort M sortCols st row spec0 with h | ⟨rd, ks, _, _, h⟩ <;> rw [h]
    · exact hi
    exact hi.of_elems (pop_fold_elems spec0 ks st.index.bwd)
  | unset row =>
    obtain ⟨g, _, rl⟩ := LM.remove_spec row hi.good
    refine ⟨g, fun r hr K => ?_, nodup_keys_ddel row hi.nodup⟩
    show inSet (M.removeRowId st.index row).1 K r ↔ ∃ rd, dget r (ddel row st.table) = some rd ∧ _
    rw [rl K r, dget_ddel]
    by_cases e : r = row
    · simp [e]
    · simp only [e, if_false, ne_eq, not_false_eq_true, true_and]
      exact hi.exact r (fun h => hr (mem_filter_ne.mpr ⟨h, e⟩)) K
  | lookup key spec =>
    rcases step_lookup M sortCols st key spec with h | ⟨s, hget, h⟩ <;> rw [h]
    · exact hi
    exact hi.of_elems (dset_sorted_elems hget _)

theorem indexExact_exec (LM : LawfulMapping M wfR keyOf) (sortCols : List String) :
    ∀ (evs : List Ev) {st : St σR}, IndexExact M wfR keyOf st.table st.index st.dirtyKey →
      IndexExact M wfR keyOf (exec M sortCols st evs).table (exec M sortCols st evs).index
        (exec M sortCols st evs).dirtyKey := by
  intro evs
  induction evs with
  | nil => intro st hi; exact hi
  | cons e es ih =>
    intro st hi
    simp only [exec, List.foldl_cons]
    exact ih (indexExact_step LM sortCols hi e)

theorem indexExact_empty (LM : LawfulMapping M wfR keyOf) :
    IndexExact M wfR keyOf ([] : Dict Nat RowData) ({} : Index σR) [] :=
  ⟨good_empty LM.right_lawful, by intro r _ K; simp [inSet_iff, dget], List.nodup_nil⟩

/-- "row `r` is (ghost-)excused for the set under `K`": a `_reset_sorted_versions` ran for it while
    its key delivery was pending, and by its current cells it does not belong under `K`. -/
def excused (keyOf : List Cell → LKey → Prop) (st : St σR) (r : Nat) (K : LKey) : Prop :=
  r ∈ st.seen ∧ ∀ rd, dget r st.table = some rd → ¬ keyOf rd.key K

structure Inv (M : Mapping σR) (wfR : Dict Nat σR → Prop) (keyOf : List Cell → LKey → Prop)
    (st : St σR) : Prop extends IndexExact M wfR keyOf st.table st.index st.dirtyKey where
  seen_dirty : ∀ r, r ∈ st.seen → r ∈ st.dirtyKey
  cache : ∀ K S spec c, dget K st.index.bwd = some S → dget spec S.sorted = some c →
    (∀ r ∈ S.elems, st.sortDirty r spec = false ∧ ¬ excused keyOf st r K) →
    c = sortRows st.table spec S.elems

theorem inv_empty (LM : LawfulMapping M wfR keyOf) : Inv M wfR keyOf ({} : St σR) where
  toIndexExact := indexExact_empty LM
  seen_dirty := by intro r h; simp at h
  cache := by intro K S spec c h; simp [dget] at h

/-- a cached version stays right across a step that leaves its set in place -/
theorem cache_transfer {st st' : St σR} {K : LKey} {S : LSet Nat} {spec : SortSpec} {c : List Nat}
    (hold : (∀ r ∈ S.elems, st.sortDirty r spec = false ∧ ¬ excused keyOf st r K) →
      c = sortRows st.table spec S.elems)
    (hp : ∀ r ∈ S.elems, st'.sortDirty r spec = false ∧ ¬ excused keyOf st' r K)
    (hd : ∀ r ∈ S.elems, st'.sortDirty r spec = false → st.sortDirty r spec = false)
    (hx : ∀ r ∈ S.elems, excused keyOf st r K → excused keyOf st' r K)
    (hv : ∀ r ∈ S.elems, sortValues st'.table spec r = sortValues st.table spec r) :
    c = sortRows st'.table spec S.elems := by
  rw [hold fun r hr => ⟨hd r hr (hp r hr).1, fun h => (hp r hr).2 (hx r hr h)⟩]
  exact (sortRows_congr spec hv).symm

theorem sortValues_dset {table : Dict Nat RowData} {row x : Nat} {rd' : RowData} (spec : SortSpec)
    (h : x = row → ∀ c, (dget c rd'.sort).getD Val.none =
      match dget row table with
      | some rd => (dget c rd.sort).getD Val.none
      | none => Val.none) :
    sortValues (dset row rd' table) spec x = sortValues table spec x := by
  simp only [sortValues]
  apply List.map_congr_left
  intro s _
  rw [dget_dset]
  by_cases e : x = row
  · subst e
    simp only [if_true]
    exact h rfl _
  · simp [e]

theorem not_keyOf_dset {table : Dict Nat RowData} {row r : Nat} {rd' : RowData} {K : LKey}
    (e : r ≠ row) (hx : ∀ rd, dget r table = some rd → ¬ keyOf rd.key K) :
    ∀ rd, dget r (dset row rd' table) = some rd → ¬ keyOf rd.key K := by
  intro rd hd
  rw [dget_dset, if_neg e] at hd
  exact hx rd hd

theorem inv_setKey (LM : LawfulMapping M wfR keyOf) (sortCols : List String) {st : St σR}
    (hi : Inv M wfR keyOf st) (row : Nat) (cells : List Cell) (hal : row ∉ st.seen) :
    Inv M wfR keyOf (step M sortCols st (.setKey row cells)).1 := by
  refine ⟨indexExact_step LM sortCols hi.toIndexExact _, ?seen_dirty, ?cache⟩ <;> simp only [step]
  case seen_dirty =>
    intro r h
    simp [hi.seen_dirty r h]
  case cache =>
    intro K S spec c h1 h2 hp
    have tr := cache_transfer (hi.cache K S spec c h1 h2) hp
    refine tr (fun _ _ h => h) ?_ ?_
    · rintro r _ ⟨hs, hx⟩
      have e : r ≠ row := fun e => hal (e ▸ hs)
      exact ⟨hs, not_keyOf_dset e hx⟩
    · intro x _
      apply sortValues_dset
      intro _ c
      cases dget row st.table <;> simp [dget]

theorem inv_setSort (LM : LawfulMapping M wfR keyOf) (sortCols : List String) {st : St σR}
    (hi : Inv M wfR keyOf st) (row : Nat) (cells : Dict String Val) :
    Inv M wfR keyOf (step M sortCols st (.setSort row cells)).1 := by
  refine ⟨indexExact_step LM sortCols hi.toIndexExact _, ?_, ?_⟩ <;> simp only [step] <;>
    cases dget row st.table <;> simp only
  · intro r h
    simp [hi.seen_dirty r h]
  · exact hi.seen_dirty
  -- the written row is now sort-dirty for every spec, so it is not in the set
  all_goals
    intro K S spec c h1 h2 hp
    have hne : ∀ r ∈ S.elems, r ≠ row := by
      rintro r hr rfl
      have := (hp r hr).1
      simp [St.sortDirty, List.mem_filter] at this
    have tr := cache_transfer (hi.cache K S spec c h1 h2) hp
    refine tr ?_ ?_ ?_
    · intro r hr a
      have e := hne r hr
      simpa [St.sortDirty, List.contains_cons, List.contains_iff_mem, List.mem_filter, e] using a
    · rintro r hr ⟨hs, hx⟩
      have e := hne r hr
      exact ⟨hs, not_keyOf_dset e hx⟩
    · intro x hx
      exact sortValues_dset spec fun e => absurd e (hne x hx)

theorem inv_deliverKey (LM : LawfulMapping M wfR keyOf) (sortCols : List String) {st : St σR}
    (hi : Inv M wfR keyOf st) (row : Nat) :
    Inv M wfR keyOf (step M sortCols st (.deliverKey row)).1 := by
  have h0 := indexExact_step LM sortCols hi.toIndexExact (.deliverKey row)
  rcases step_deliverKey M sortCols st row with h | ⟨rd, hrow, h⟩ <;> rw [h] at h0 ⊢
  · exact hi
  refine ⟨h0, ?seen_dirty, ?cache⟩
  case seen_dirty =>
    intro r h
    obtain ⟨h1, h2⟩ := mem_filter_ne.mp h
    exact mem_filter_ne.mpr ⟨hi.seen_dirty r h1, h2⟩
  case cache =>
    obtain ⟨g, c, rl⟩ := LM.update_spec row rd.key hi.good
    intro K S spec cc h1 h2 hp
    rcases c K with e | e
    · have tr := cache_transfer (hi.cache K S spec cc (e ▸ h1) h2) hp
      refine tr (fun _ _ h => h) ?_ (fun _ _ => rfl)
      rintro r hr ⟨hs, hx⟩
      refine ⟨mem_filter_ne.mpr ⟨hs, ?_⟩, hx⟩
      -- the delivered row is in the set under `K` only if it belongs there
      rintro rfl
      exact hx rd hrow (by simpa using (rl K r).mp ⟨S, h1, hr⟩)
    · rw [e S h1] at h2
      simp [dget] at h2

theorem inv_unset (LM : LawfulMapping M wfR keyOf) (sortCols : List String) {st : St σR}
    (hi : Inv M wfR keyOf st) (row : Nat) :
    Inv M wfR keyOf (step M sortCols st (.unset row)).1 := by
  refine ⟨indexExact_step LM sortCols hi.toIndexExact _, ?seen_dirty, ?cache⟩ <;> simp only [step]
  case seen_dirty =>
    intro r h
    obtain ⟨h1, h2⟩ := mem_filter_ne.mp h
    exact mem_filter_ne.mpr ⟨hi.seen_dirty r h1, h2⟩
  case cache =>
    obtain ⟨g, c, rl⟩ := LM.remove_spec row hi.good
    intro K S spec cc h1 h2 hp
    rcases c K with e | e
    · have hne : ∀ r ∈ S.elems, r ≠ row := fun r hr => ((rl K r).mp ⟨S, h1, hr⟩).1
      have tr := cache_transfer (hi.cache K S spec cc (e ▸ h1) h2) hp
      refine tr ?_ ?_ ?_
      · intro r hr a
        have hn := hne r hr
        simpa [St.sortDirty, List.contains_iff_mem, List.mem_filter, hn] using a
      · rintro r hr ⟨hs, hx⟩
        have hn := hne r hr
        exact ⟨mem_filter_ne.mpr ⟨hs, hn⟩, by
          intro rd hd
          rw [dget_ddel] at hd
          simp [hn] at hd
          exact hx rd hd⟩
      · intro x hx
        have hn := hne x hx
        simp only [sortValues]
        apply List.map_congr_left
        intro s _
        rw [dget_ddel]
        simp [hn]
    · rw [e S h1] at h2
      simp [dget] at h2

theorem inv_lookup (LM : LawfulMapping M wfR keyOf) (sortCols : List String) {st : St σR}
    (hi : Inv M wfR keyOf st) (key : LKey) (spec : SortSpec) :
    Inv M wfR keyOf (step M sortCols st (.lookup key spec)).1 := by
  have h0 := indexExact_step LM sortCols hi.toIndexExact (.lookup key spec)
  rcases step_lookup M sortCols st key spec with h | ⟨s, hget, h⟩ <;> rw [h] at h0 ⊢
  · exact hi
  refine ⟨h0, hi.seen_dirty, ?cache⟩
  case cache =>
    intro K S sp cc h1 h2 hp
    simp only at h1
    rw [dget_dset] at h1
    by_cases e : K = key.map Cell.norm
    · simp only [e, if_true, Option.some.injEq] at h1
      subst h1
      simp only at h2 hp ⊢
      rw [dget_dset] at h2
      by_cases e2 : sp = spec
      · -- the version just stored is the fresh sort
        simp only [e2, if_true, Option.some.injEq] at h2
        rw [← h2, e2]
      · simp only [e2, if_false] at h2
        exact hi.cache K s sp cc (e ▸ hget) h2 hp
    · simp only [e, if_false] at h1
      exact hi.cache K S sp cc h1 h2 hp

theorem inv_deliverSort (LM : LawfulMapping M wfR keyOf) (sortCols : List String) {st : St σR}
    (hi : Inv M wfR keyOf st) (row : Nat) (spec0 : SortSpec) :
    Inv M wfR keyOf (step M sortCols st (.deliverSort row spec0)).1 := by
  have h0 := indexExact_step LM sortCols hi.toIndexExact (.deliverSort row spec0)
  rcases step_deliverSort M sortCols st row spec0 with h | ⟨rd, ks, hrow, hnk, h⟩ <;>
    rw [h] at h0 ⊢
  · exact hi
  refine ⟨h0, ?seen_dirty, ?cache⟩
  case seen_dirty =>
    intro r h
    by_cases hd : st.dirtyKey.contains row = true
    · simp only [hd, if_true, List.mem_cons] at h
      rcases h with e | e
      · rw [e]
        exact List.contains_iff_mem.mp hd
      · exact hi.seen_dirty r e
    · simp only [hd, if_false, Bool.false_eq_true] at h
      exact hi.seen_dirty r h
  case cache =>
    intro K S' sp cc h1 h2 hp
    simp only at h1
    rcases pop_fold spec0 ks st.index.bwd K with ⟨a, _⟩ | ⟨S, S2, hb, hc, he, hs, hn⟩
    · rw [a] at h1
      simp at h1
    · rw [hc] at h1
      injection h1 with h1
      subst h1
      have h2' := hs sp cc h2
      rw [he]
      apply hi.cache K S sp cc hb h2'
      intro r hr
      obtain ⟨a, b⟩ := hp r (by rw [he]; exact hr)
      by_cases hcase : r = row ∧ sp = spec0
      · -- the delivered (row, spec): the set was popped, or the row is excused
        obtain ⟨e1, e2⟩ := hcase
        subst e1 e2
        exfalso
        by_cases hK : K ∈ ks
        · rw [hn hK] at h2
          simp at h2
        · have hnk' : ¬ keyOf rd.key K := fun h => hK ((LM.newKeys_spec hnk K).mpr h)
          have hdk : r ∈ st.dirtyKey := by
            apply Classical.byContradiction
            intro hnd
            obtain ⟨rd', h1, h2⟩ := (hi.exact r hnd K).mp ⟨S, hb, hr⟩
            rw [hrow] at h1
            injection h1 with h1
            subst h1
            exact hnk' h2
          apply b
          refine ⟨?_, ?_⟩
          · simp [hdk]
          · intro rd' hd
            rw [hrow] at hd
            injection hd with hd
            subst hd
            exact hnk'
      · constructor
        · simp only [St.sortDirty] at a ⊢
          have : ((r, sp) == (row, spec0)) = false := by
            simp only [beq_eq_false_iff_ne, ne_eq, Prod.mk.injEq]
            exact hcase
          rw [List.contains_cons, this, Bool.false_or] at a
          exact a
        · rintro ⟨hs', hx⟩
          apply b
          refine ⟨?_, hx⟩
          by_cases hd : st.dirtyKey.contains row = true
          · simp [List.contains_iff_mem.mp hd, hs']
          · simp only [hd, if_false, Bool.false_eq_true]
            exact hs'

theorem inv_step (LM : LawfulMapping M wfR keyOf) (sortCols : List String) {st : St σR}
    (hi : Inv M wfR keyOf st) (e : Ev) (hal : e.allowed st) :
    Inv M wfR keyOf (step M sortCols st e).1 := by
  cases e with
  | setKey row cells => exact inv_setKey LM sortCols hi row cells hal
  | setSort row cells => exact inv_setSort LM sortCols hi row cells
  | deliverKey row => exact inv_deliverKey LM sortCols hi row
  | deliverSort row spec => exact inv_deliverSort LM sortCols hi row spec
  | unset row => exact inv_unset LM sortCols hi row
  | lookup key spec => exact inv_lookup LM sortCols hi key spec

theorem inv_exec (LM : LawfulMapping M wfR keyOf) (sortCols : List String) :
    ∀ (evs : List Ev) {st : St σR}, Inv M wfR keyOf st → disciplined M sortCols st evs →
      Inv M wfR keyOf (exec M sortCols st evs) := by
  intro evs
  induction evs with
  | nil => intro st hi _; exact hi
  | cons e es ih =>
    intro st hi hd
    simp only [exec, List.foldl_cons]
    exact ih (inv_step LM sortCols hi e hd.1) hd.2


theorem mem_tableRows_iff (table : Dict Nat RowData) (r : Nat) :
    r ∈ tableRows table ↔ ∃ rd, dget r table = some rd := by
  unfold tableRows
  induction table with
  | nil => simp [dget]
  | cons p t ih =>
    obtain ⟨a, v⟩ := p
    simp only [List.map_cons, List.mem_cons, dget]
    by_cases e : a = r
    · simp [e]
    · have : ¬ r = a := fun h => e h.symm
      simp [e, this, ih]

end machine
end Grist.Lookup
