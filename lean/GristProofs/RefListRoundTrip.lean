/-
C09: `RefListRoundTrip` from `SplitOnJoin`, a statement about the core library's legacy
`String.splitOn` alone; the rest of `parseRefList` on a rendered token is proved.
-/
import GristProofs.MetaRefs
namespace Grist.Doc

def digitStep (acc : Option Nat) (ch : Char) : Option Nat :=
  match acc with
  | none => none
  | some n => if ch.isDigit then some (n * 10 + (ch.toNat - '0'.toNat)) else none

theorem natOfDigits_eq (cs : List Char) :
    natOfDigits cs = if cs.isEmpty then none else cs.foldl digitStep (some 0) := rfl

theorem digitChar_facts : ∀ d, d < 10 →
    (Nat.digitChar d).isDigit = true ∧ (Nat.digitChar d).toNat - '0'.toNat = d := by decide

theorem foldl_digitStep_toDigits : ∀ (n : Nat),
    (Nat.toDigits 10 n).foldl digitStep (some 0) = some n := by
  intro n
  induction n using Nat.strongRecOn with
  | _ n ih =>
    rw [Nat.toDigits_eq_if (by omega)]
    split
    · rename_i h
      obtain ⟨h1, h2⟩ := digitChar_facts n h
      simp only [List.foldl_cons, List.foldl_nil, digitStep, h1, ↓reduceIte, h2]
      simp
    · rename_i h
      have hlt : n / 10 < n := Nat.div_lt_self (by omega) (by omega)
      obtain ⟨h1, h2⟩ := digitChar_facts (n % 10) (Nat.mod_lt _ (by omega))
      rw [List.foldl_append, ih _ hlt]
      simp only [List.foldl_cons, List.foldl_nil, digitStep, h1, ↓reduceIte, h2, Option.some.injEq]
      omega

theorem natOfDigits_toString (n : Nat) : natOfDigits (toString n).toList = some n := by
  have : (toString n).toList = Nat.toDigits 10 n := Nat.toList_repr
  rw [this, natOfDigits_eq, foldl_digitStep_toDigits]
  have : (Nat.toDigits 10 n).isEmpty = false := by
    cases h : Nat.toDigits 10 n with
    | nil => exact absurd h Nat.toDigits_ne_nil
    | cons _ _ => rfl
  simp [this]

theorem mapM_natOfDigits (l : List Nat) :
    (l.map toString).mapM (fun part => natOfDigits part.toList) = some l := by
  induction l with
  | nil => rfl
  | cons n l ih =>
    rw [List.map_cons, List.mapM_cons, natOfDigits_toString, ih]
    rfl

theorem toString_digits (n : Nat) : ∀ c ∈ (toString n).toList, c.isDigit = true := by
  intro c hc
  have : (toString n).toList = Nat.toDigits 10 n := Nat.toList_repr
  rw [this] at hc
  exact Nat.isDigit_of_mem_toDigits (by omega) (by omega) hc

theorem toString_ne_empty (n : Nat) : toString n ≠ "" := Nat.repr_ne_empty

/-- splitting a `", "`-joined list of non-empty digit strings gives the list back -/
def SplitOnJoin : Prop :=
  ∀ parts : List String, parts ≠ [] → (∀ p ∈ parts, p ≠ "" ∧ ∀ c ∈ p.toList, c.isDigit = true) →
    (", ".intercalate parts).splitOn ", " = parts

theorem parseRefList_render (hs : SplitOnJoin) (l : List Nat) (hl : l ≠ []) :
    parseRefList ("[\"L\", " ++ ", ".intercalate (l.map toString) ++ "]") = some l := by
  generalize hb : ", ".intercalate (l.map toString) = body
  have hsplit : body.splitOn ", " = l.map toString := by
    rw [← hb]
    refine hs _ (by simpa using hl) ?_
    intro p hp
    obtain ⟨n, _, rfl⟩ := List.mem_map.mp hp
    exact ⟨toString_ne_empty n, toString_digits n⟩
  have hlist : ("[\"L\", " ++ body ++ "]").toList = "[\"L\", ".toList ++ (body.toList ++ ['\x5d']) := by
    simp [String.toList_append]
  unfold parseRefList
  have h1 : (("[\"L\", " ++ body ++ "]") == "[\"L\"]") = false := by
    rw [beq_eq_false_iff_ne]
    intro h
    have := congrArg (fun s => s.toList.length) h
    simp only [hlist, List.length_append] at this
    simp at this
    omega
  have h2 : ("[\"L\", " ++ body ++ "]").startsWith "[\"L\", " = true := by
    rw [String.startsWith_string_iff, hlist]
    exact List.prefix_append _ _
  have h3 : ("[\"L\", " ++ body ++ "]").endsWith "]" = true := by
    rw [← String.endsWith_toSlice, String.Slice.endsWith_string_iff, String.copy_toSlice, hlist,
      ← List.append_assoc]
    exact List.suffix_append _ _
  have h4 : ((("[\"L\", " ++ body ++ "]").drop 6).toString.dropEnd 1).toString = body := by
    rw [← String.toList_inj]
    simp only [String.Slice.toString, String.toList_copy_dropEnd, String.toList_copy_drop, hlist]
    have : ("[\"L\", ".toList).length = 6 := by decide
    rw [List.drop_append_of_le_length (by omega), show List.drop 6 "[\"L\", ".toList = [] by decide]
    simp
  simp only [h1, h2, h3, Bool.false_eq_true, ↓reduceIte, Bool.and_self, h4, hsplit]
  exact mapM_natOfDigits l

theorem refListRoundTrip_of_splitOn (hs : SplitOnJoin) : RefListRoundTrip := by
  intro l hl
  have : l.isEmpty = false := by cases l <;> simp_all
  unfold cellRefs
  simp only [renderRefList, this, Bool.false_eq_true, ↓reduceIte]
  exact parseRefList_render hs l hl

end Grist.Doc
