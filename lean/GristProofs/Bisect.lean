/-
The loop of CPython's `bisect.bisect_right`, which `GristModel/Zone.lean` and `GristModel/Textbuilder.lean`
each model by a function `bisectGo` with the same two equations.  Whatever function satisfies them returns
the partition point of the list, if there is one inside the search interval; a sorted list has one.
-/
namespace Grist

/-- `go fuel lo hi` runs `while lo < hi: mid = (lo+hi)//2; if x < a[mid]: hi = mid else: lo = mid+1`
    for at most `fuel` rounds.  Both models' `bisectGo a x` satisfy the two equations by `rfl`. -/
structure BisectLoop (go : Nat → Nat → Nat → Nat) (a : List Int) (x : Int) : Prop where
  zero : ∀ lo hi, go 0 lo hi = lo
  succ : ∀ fuel lo hi, go (fuel + 1) lo hi =
    if lo < hi then
      if x < a.getD ((lo + hi) / 2) 0 then go fuel lo ((lo + hi) / 2)
      else go fuel ((lo + hi) / 2 + 1) hi
    else lo

/-- `k` is a partition point of `a` for `x`: everything before it is `≤ x`, everything from it on `> x`.
    (The list need not be sorted.) -/
def PartitionPoint (a : List Int) (x : Int) (k : Nat) : Prop :=
  k ≤ a.length ∧ (∀ j, j < k → a.getD j 0 ≤ x) ∧ (∀ j, k ≤ j → j < a.length → x < a.getD j 0)

/-- The search interval always contains the partition point: an element `≤ x` at `mid` shows the point
    is beyond `mid`, an element `> x` that it is at or before `mid`. -/
theorem BisectLoop.eq_partitionPoint {go : Nat → Nat → Nat → Nat} {a : List Int} {x : Int}
    (loop : BisectLoop go a x) {k : Nat} (hk : PartitionPoint a x k) :
    ∀ fuel lo hi, lo ≤ k → k ≤ hi → hi ≤ a.length → hi - lo ≤ fuel → go fuel lo hi = k := by
  intro fuel
  induction fuel with
  | zero =>
    intro lo hi h1 h2 _ hf
    rw [loop.zero]
    omega
  | succ fuel ih =>
    intro lo hi h1 h2 h3 hf
    rw [loop.succ]
    split
    · by_cases hm : (lo + hi) / 2 < k
      · rw [if_neg (Int.not_lt.mpr (hk.2.1 _ hm))]
        exact ih _ _ (by omega) h2 h3 (by omega)
      · rw [if_pos (hk.2.2 _ (by omega) (by omega))]
        exact ih _ _ h1 (by omega) (by omega) (by omega)
    · omega

/-- A sequence that is non-decreasing on `[0, n)` has a partition point for every `x`. -/
theorem exists_partition (f : Nat → Int) (x : Int) :
    ∀ n, (∀ i j, i ≤ j → j < n → f i ≤ f j) →
      ∃ k, k ≤ n ∧ (∀ j, j < k → f j ≤ x) ∧ (∀ j, k ≤ j → j < n → x < f j) := by
  intro n
  induction n with
  | zero => exact fun _ => ⟨0, Nat.le_refl _, fun _ h => by omega, fun _ _ h => by omega⟩
  | succ n ih =>
    intro mono
    by_cases hx : f n ≤ x
    · exact ⟨n + 1, Nat.le_refl _,
        fun j hj => Int.le_trans (mono j n (by omega) (by omega)) hx, fun _ _ _ => by omega⟩
    · obtain ⟨k, hk, h1, h2⟩ := ih fun i j hij hj => mono i j hij (by omega)
      refine ⟨k, by omega, h1, fun j hkj hj => ?_⟩
      by_cases e : j = n
      · rw [e]
        omega
      · exact h2 j hkj (by omega)

/-- The result never exceeds `hi`, whatever the list holds. -/
theorem BisectLoop.le {go : Nat → Nat → Nat → Nat} {a : List Int} {x : Int} (loop : BisectLoop go a x) :
    ∀ fuel lo hi, lo ≤ hi → go fuel lo hi ≤ hi := by
  intro fuel
  induction fuel with
  | zero =>
    intro lo hi h
    rw [loop.zero]
    exact h
  | succ fuel ih =>
    intro lo hi h
    rw [loop.succ]
    split
    · split
      · exact Nat.le_trans (ih _ _ (by omega)) (by omega)
      · exact ih _ _ (by omega)
    · exact h

theorem partitionPoint_append {pre post : List Int} {x : Int} (h1 : ∀ y ∈ pre, y ≤ x)
    (h2 : ∀ y ∈ post, x < y) : PartitionPoint (pre ++ post) x pre.length := by
  refine ⟨by simp, fun j hj => ?_, fun j hkj hj => ?_⟩
  · rw [List.getD_eq_getElem?_getD, List.getElem?_append_left hj, List.getElem?_eq_getElem hj]
    exact h1 _ (List.getElem_mem hj)
  · rw [List.length_append] at hj
    rw [List.getD_eq_getElem?_getD, List.getElem?_append_right hkj,
      List.getElem?_eq_getElem (by omega)]
    exact h2 _ (List.getElem_mem _)

end Grist
