/-
Proofs about GristModel/Relabel.lean for an arbitrary lawful linear order `K`.  Defines `Laws` (what is
assumed of the numeric primitives), `Slot`, and the clauses `RankInc`, `InSlots` (what the checker tests),
`RequestOrder`, `Placement` (what the property says).  Main facts: `clauses_of_slots` and `slotChecks_iff`
(checker ⇔ clauses); `prepAt_ok`, `plain_step`, `foldlM_plain` (while no relabel or renumber step has run,
`Untouched`, the fold keeps `PlainInv`).
-/
import GristModel.Relabel
import GristProofs.Basics
-- the order instances are declared once per section; a lemma that needs fewer still carries all
set_option linter.unusedSectionVars false
namespace Grist.Relabel
open Std

section Vocabulary
variable {K : Type} [LT K] [LE K] [DecidableLT K] [DecidableLE K] [IsLinearOrder K] [LawfulOrderLT K]

/-- The facts about the numeric primitives that the plain path relies on (all are validated on the
    real `get_range` / float arithmetic by the Python check):
    `get_range(s, e, c)` returns `c` keys, weakly increasing, and for `s < e` all in `[s, e)`
    (monotone rounding of `s + step*k`, clipping to `prevfloat(e)`); `begin + count + 1 ≥ begin`;
    non-infinite values are an interval; `0.0` is not infinite. -/
structure Laws (F : FloatLike K) : Prop where
  range_length : ∀ s e c, (F.getRange s e c).length = c
  range_mono : ∀ s e c, (F.getRange s e c).Pairwise (· ≤ ·)
  range_bounds : ∀ s e c, s < e → ∀ k ∈ F.getRange s e c, s ≤ k ∧ k < e
  endAfter_ge : ∀ b c, b ≤ F.endAfter b c
  isInf_convex : ∀ a k b, a ≤ k → k ≤ b → F.isInf a = false → F.isInf b = false → F.isInf k = false
  zero_fin : F.isInf F.zero = false

/-- `s` lies strictly between `final[b-1]` and `final[b]`, where they exist (`b = length` allowed) -/
def Slot (final : List K) (b : Nat) (s : K) : Prop :=
  b ≤ final.length ∧ (∀ x, 0 < b → final[b - 1]? = some x → x < s) ∧ (∀ y, final[b]? = some y → s < y)

def LexLt (a b : K × Nat) : Prop := a.1 < b.1 ∨ (a.1 = b.1 ∧ a.2 < b.2)

def RankInc (keys newKeys : List K) : Prop :=
  (insKeys keys).Pairwise fun p q => ∀ sp sq : K, newKeys[p.2]? = some sp →
    newKeys[q.2]? = some sq → sp < sq

/-- the clause `Outcome.request_order` -/
def RequestOrder (keys newKeys : List K) : Prop :=
  ∀ (a b : Nat) (qa qb sa sb : K), keys[a]? = some qa → keys[b]? = some qb →
    newKeys[a]? = some sa → newKeys[b]? = some sb → (qa < qb ∨ (qa = qb ∧ a < b)) → sa < sb

def InSlots (existing final keys newKeys : List K) : Prop :=
  ∀ p ∈ insKeys keys, ∀ s : K, newKeys[p.2]? = some s → Slot final (bisectLeft existing p.1) s

/-- the clause `Outcome.placement` -/
def Placement (existing final keys newKeys : List K) : Prop :=
  ∀ (a i : Nat) (q x f s : K), keys[a]? = some q → existing[i]? = some x → final[i]? = some f →
    newKeys[a]? = some s → (x < q → f < s) ∧ (q ≤ x → s < f)

end Vocabulary

theorem exists_getElem? {α : Type} {l : List α} {i : Nat} (h : i < l.length) : ∃ x, l[i]? = some x :=
  ⟨l[i], List.getElem?_eq_getElem h⟩

section Order
variable {K : Type} [LT K] [LE K] [DecidableLT K] [DecidableLE K] [IsLinearOrder K] [LawfulOrderLT K]

theorem keq_iff (a b : K) : keq a b = true ↔ a = b := by
  unfold keq
  simp only [Bool.and_eq_true, Bool.not_eq_true', decide_eq_false_iff_not]
  constructor
  · rintro ⟨h1, h2⟩
    exact le_antisymm (not_lt.mp h2) (not_lt.mp h1)
  · rintro rfl
    exact ⟨lt_irrefl, lt_irrefl⟩

theorem kne_iff (a b : K) : kne a b = true ↔ a ≠ b := by
  unfold kne
  simp only [Bool.or_eq_true, decide_eq_true_eq]
  constructor
  · rintro (h | h)
    · exact ne_of_lt h
    · exact (ne_of_lt h).symm
  · intro hne
    rcases lt_trichotomy a b with h | h | h
    · exact Or.inl h
    · exact absurd h hne
    · exact Or.inr h

theorem bisectLeft_cons (x : K) (xs : List K) (k : K) :
    bisectLeft (x :: xs) k = if x < k then bisectLeft xs k + 1 else 0 := rfl

theorem bisectLeft_le_length (xs : List K) (k : K) : bisectLeft xs k ≤ xs.length := by
  induction xs with
  | nil => exact Nat.le_refl _
  | cons x xs ih =>
    rw [bisectLeft_cons, List.length_cons]
    split <;> omega

theorem bisectLeft_lt (xs : List K) (k : K) : ∀ i x, xs[i]? = some x → i < bisectLeft xs k → x < k := by
  induction xs with
  | nil =>
    intro i x h
    simp at h
  | cons y ys ih =>
    intro i x h hi
    rw [bisectLeft_cons] at hi
    split at hi
    · next hy =>
      cases i with
      | zero =>
        cases h
        exact hy
      | succ j => exact ih j x h (by omega)
    · omega

theorem bisectLeft_ge (xs : List K) (k : K) (hs : xs.Pairwise (· ≤ ·)) :
    ∀ i x, xs[i]? = some x → bisectLeft xs k ≤ i → k ≤ x := by
  induction xs with
  | nil =>
    intro i x h
    simp at h
  | cons y ys ih =>
    intro i x h hi
    rw [bisectLeft_cons] at hi
    rw [List.pairwise_cons] at hs
    split at hi
    · cases i with
      | zero => omega
      | succ j => exact ih hs.2 j x h (by omega)
    · next hy =>
      have hky : k ≤ y := not_lt.mp hy
      cases i with
      | zero =>
        cases h
        exact hky
      | succ j => exact le_trans hky (hs.1 x (List.mem_of_getElem? h))

theorem bisectLeft_mono (xs : List K) (k k' : K) (h : k ≤ k') : bisectLeft xs k ≤ bisectLeft xs k' := by
  induction xs with
  | nil => exact Nat.le_refl _
  | cons y ys ih =>
    rw [bisectLeft_cons, bisectLeft_cons]
    split
    · next hy =>
      rw [if_pos (lt_of_lt_of_le hy h)]
      omega
    · omega

theorem strictlyInc_iff (l : List K) : strictlyInc l = true ↔ l.Pairwise (· < ·) := by
  induction l with
  | nil => simp [strictlyInc]
  | cons a t ih =>
    cases t with
    | nil => simp [strictlyInc]
    | cons b t' =>
      simp only [strictlyInc, Bool.and_eq_true, decide_eq_true_eq, ih]
      constructor
      · rintro ⟨hab, ht⟩
        refine List.pairwise_cons.mpr ⟨fun c hc => ?_, ht⟩
        rcases List.mem_cons.mp hc with rfl | hc'
        · exact hab
        · exact lt_trans hab ((List.pairwise_cons.mp ht).1 c hc')
      · intro h
        rw [List.pairwise_cons] at h
        exact ⟨h.1 b List.mem_cons_self, h.2⟩

theorem pairwise_getElem? {α : Type} {R : α → α → Prop} {l : List α} (h : l.Pairwise R) :
    ∀ (i j : Nat) (x y : α), i < j → l[i]? = some x → l[j]? = some y → R x y := by
  intro i j x y hij hx hy
  obtain ⟨hi, rfl⟩ := List.getElem?_eq_some_iff.mp hx
  obtain ⟨hj, rfl⟩ := List.getElem?_eq_some_iff.mp hy
  exact List.pairwise_iff_getElem.mp h i j hi hj hij

theorem pairwise_le_getElem? {l : List K} (h : l.Pairwise (· ≤ ·)) :
    ∀ (i j : Nat) (x y : K), i ≤ j → l[i]? = some x → l[j]? = some y → x ≤ y := by
  intro i j x y hij hx hy
  rcases Nat.lt_or_eq_of_le hij with h' | rfl
  · exact pairwise_getElem? h i j x y h' hx hy
  · exact le_of_eq (Option.some.inj (hx.symm.trans hy))

theorem slotOK_iff (final : List K) (b : Nat) (s : K) : slotOK final b s = true ↔ Slot final b s := by
  -- `slotOK` tests the left neighbour (none if `b = 0`), then the right neighbour (`b = length` if none)
  unfold slotOK Slot
  constructor
  · intro h
    simp only [Bool.and_eq_true] at h
    obtain ⟨h1, h2⟩ := h
    refine ⟨?_, ?_, ?_⟩
    · cases hb : final[b]? with
      | none =>
        rw [hb] at h2
        simp only [beq_iff_eq] at h2
        omega
      | some y =>
        have := (List.getElem?_eq_some_iff.mp hb).1
        omega
    · intro x hb hx
      cases b with
      | zero => omega
      | succ b' =>
        simp only [Nat.add_sub_cancel] at hx
        simp only [hx, decide_eq_true_eq] at h1
        exact h1
    · intro y hy
      simp only [hy, decide_eq_true_eq] at h2
      exact h2
  · rintro ⟨h0, h1, h2⟩
    simp only [Bool.and_eq_true]
    constructor
    · cases b with
      | zero => rfl
      | succ b' =>
        obtain ⟨x, hx⟩ := exists_getElem? (l := final) (i := b') (by omega)
        simp only [hx, decide_eq_true_eq]
        exact h1 x (by omega) hx
    · cases hb : final[b]? with
      | none =>
        simp only [beq_iff_eq]
        have := List.getElem?_eq_none_iff.mp hb
        omega
      | some y =>
        simp only [decide_eq_true_eq]
        exact h2 y hb

/-- the two neighbour tests of a slot extend to all rows by transitivity -/
theorem slot_global {final : List K} (hf : final.Pairwise (· ≤ ·)) {b : Nat} {s : K}
    (hs : Slot final b s) :
    ∀ i x, final[i]? = some x → (i < b → x < s) ∧ (b ≤ i → s < x) := by
  intro i x hx
  obtain ⟨h0, h1, h2⟩ := hs
  have hil := (List.getElem?_eq_some_iff.mp hx).1
  constructor
  · intro hib
    obtain ⟨y, hy⟩ := exists_getElem? (l := final) (i := b - 1) (by omega)
    exact lt_of_le_of_lt (pairwise_le_getElem? hf i (b - 1) x y (by omega) hx hy) (h1 y (by omega) hy)
  · intro hbi
    obtain ⟨y, hy⟩ := exists_getElem? (l := final) (i := b) (by omega)
    exact lt_of_lt_of_le (h2 y hy) (pairwise_le_getElem? hf b i y x hbi hy hx)

end Order

theorem groupRuns_expand (l : List Nat) :
    (groupRuns l).flatMap (fun g => List.replicate g.2 g.1) = l := by
  induction l with
  | nil => rfl
  | cons x xs ih =>
    simp only [groupRuns]
    split
    · rename_i y c rest heq
      rw [heq] at ih
      split
      · rename_i hxy
        subst hxy
        simp only [List.flatMap_cons] at ih ⊢
        rw [List.replicate_succ, List.cons_append, ih]
      · simp only [List.flatMap_cons] at ih ⊢
        simp only [List.replicate_one, ih, List.cons_append, List.nil_append]
    · rename_i heq
      rw [heq] at ih
      simp only [List.flatMap_nil, List.nil_eq] at ih
      subst ih
      rfl

theorem groupRuns_head (l : List Nat) : (groupRuns l).head?.map (·.1) = l.head? := by
  cases l with
  | nil => rfl
  | cons x xs =>
    simp only [groupRuns]
    split
    · split
      · rename_i h
        simp [h]
      · rfl
    · rfl

theorem groupRuns_pos (l : List Nat) : ∀ g ∈ groupRuns l, 0 < g.2 := by
  induction l with
  | nil => exact fun _ h => nomatch h
  | cons x xs ih =>
    simp only [groupRuns]
    split
    · rename_i y c rest heq
      rw [heq, List.forall_mem_cons] at ih
      split
      · exact List.forall_mem_cons.mpr ⟨Nat.succ_pos c, ih.2⟩
      · exact List.forall_mem_cons.mpr ⟨Nat.one_pos, List.forall_mem_cons.mpr ih⟩
    · exact List.forall_mem_cons.mpr ⟨Nat.one_pos, fun _ h => nomatch h⟩

theorem groupRuns_mem (l : List Nat) {g : Nat × Nat} (hg : g ∈ groupRuns l) : g.1 ∈ l := by
  rw [← groupRuns_expand l, List.mem_flatMap]
  exact ⟨g, hg, List.mem_replicate.mpr ⟨Nat.ne_of_gt (groupRuns_pos l g hg), rfl⟩⟩

theorem groupRuns_sorted (l : List Nat) (hs : l.Pairwise (· ≤ ·)) :
    ((groupRuns l).map (·.1)).Pairwise (· < ·) := by
  induction l with
  | nil => exact List.Pairwise.nil
  | cons x xs ih =>
    rw [List.pairwise_cons] at hs
    have ih' := ih hs.2
    have hmem := fun g => groupRuns_mem xs (g := g)
    simp only [groupRuns]
    split
    · rename_i y c rest heq
      rw [heq] at ih' hmem
      split
      · exact ih'
      · rename_i hne
        have hxy : x ≤ y := hs.1 y (hmem (y, c) List.mem_cons_self)
        rw [List.map_cons, List.pairwise_cons] at ih'
        refine List.pairwise_cons.mpr ⟨fun z hz => ?_, List.pairwise_cons.mpr ih'⟩
        rcases List.mem_cons.mp hz with rfl | hz'
        · exact Nat.lt_of_le_of_ne hxy hne
        · exact Nat.lt_of_le_of_lt hxy (ih'.1 z hz')
    · exact List.pairwise_singleton _ _

/-- run-length decoding -/
theorem count_flatMap_replicate (gs : List (Nat × Nat)) (hnd : (gs.map (·.1)).Nodup) (s : Nat) :
    (gs.flatMap (fun g => List.replicate g.2 g.1)).count s = (gs.lookup s).getD 0 := by
  induction gs with
  | nil => rfl
  | cons g rest ih =>
    obtain ⟨v, c⟩ := g
    rw [List.map_cons, List.nodup_cons] at hnd
    rw [List.flatMap_cons, List.count_append, List.count_replicate, ih hnd.2, List.lookup_cons]
    by_cases hs : s = v
    · subst hs
      have : rest.lookup s = none :=
        List.lookup_eq_none_iff.mpr fun p hp =>
          bne_iff_ne.mpr fun he => hnd.1 (List.mem_map.mpr ⟨p, hp, he.symm⟩)
      simp [this]
    · have h1 : (s == v) = false := beq_false_of_ne hs
      have h2 : (v == s) = false := beq_false_of_ne (Ne.symm hs)
      simp [h1, h2]

theorem groupRuns_count (l : List Nat) (hs : l.Pairwise (· ≤ ·)) (s : Nat) :
    ((groupRuns l).lookup s).getD 0 = l.count s := by
  have hnd : ((groupRuns l).map (·.1)).Nodup := (groupRuns_sorted l hs).imp Nat.ne_of_lt
  rw [← count_flatMap_replicate _ hnd, groupRuns_expand]

/-- In a list strictly sorted by an asymmetric relation `R`, whatever holds along the list holds of
    any two members related by `R`. -/
theorem pairwise_asymm_mem {α : Type} {R S : α → α → Prop} {l : List α}
    (hasymm : ∀ a b, R a b → ¬ R b a) (h : l.Pairwise (fun a b => R a b ∧ S a b)) {a b : α}
    (ha : a ∈ l) (hb : b ∈ l) (hab : R a b) : S a b := by
  induction h with
  | nil => cases ha
  | cons hx _ ih =>
    rcases List.mem_cons.mp ha with rfl | ha'
    · rcases List.mem_cons.mp hb with rfl | hb'
      · exact absurd hab (hasymm _ _ hab)
      · exact (hx _ hb').2
    · rcases List.mem_cons.mp hb with rfl | hb'
      · exact absurd (hx _ ha').1 (hasymm _ _ hab)
      · exact ih ha' hb'

theorem isort_perm {α : Type} (le : α → α → Bool) (l : List α) : (isort le l).Perm l := by
  induction l with
  | nil => exact List.Perm.refl _
  | cons a t ih =>
    exact (ins_perm (ins := insertBy le a) (r := (le · · = true)) rfl (fun _ _ => rfl) _).trans
      (List.Perm.cons a ih)

theorem isort_sorted {α : Type} {le : α → α → Bool}
    (htrans : ∀ a b c, le a b = true → le b c = true → le a c = true)
    (htotal : ∀ a b, (le a b || le b a) = true) (l : List α) :
    (isort le l).Pairwise (fun x y => le x y = true) := by
  induction l with
  | nil => exact List.Pairwise.nil
  | cons a t ih =>
    exact ins_pairwise (ins := insertBy le a) (r := (le · · = true)) rfl (fun _ _ => rfl) _
      (fun _ _ h => h) (fun _ _ _ _ => htrans _ _ _)
      (fun y _ h => (Bool.or_eq_true_iff.mp (htotal a y)).resolve_left h) ih

section Sorting
variable {K : Type} [LT K] [LE K] [DecidableLT K] [DecidableLE K] [IsLinearOrder K] [LawfulOrderLT K]

theorem leKI_iff (a b : K × Nat) : leKI a b = true ↔ a.1 < b.1 ∨ (a.1 = b.1 ∧ a.2 ≤ b.2) := by
  unfold leKI
  simp only [Bool.or_eq_true, Bool.and_eq_true, Bool.not_eq_true', decide_eq_true_eq,
    decide_eq_false_iff_not]
  constructor
  · rintro (h | ⟨h1, h2⟩)
    · exact Or.inl h
    · rcases lt_trichotomy a.1 b.1 with h | h | h
      · exact Or.inl h
      · exact Or.inr ⟨h, h2⟩
      · exact absurd h h1
  · rintro (h | ⟨h1, h2⟩)
    · exact Or.inl h
    · exact Or.inr ⟨h1 ▸ lt_irrefl, h2⟩

theorem leKI_trans (a b c : K × Nat) (h1 : leKI a b = true) (h2 : leKI b c = true) :
    leKI a c = true := by
  rw [leKI_iff]
  rcases (leKI_iff a b).mp h1 with h1 | ⟨e1, h1⟩
  · rcases (leKI_iff b c).mp h2 with h2 | ⟨e2, h2⟩
    · exact Or.inl (lt_trans h1 h2)
    · exact Or.inl (by rw [← e2]; exact h1)
  · rw [e1]
    rcases (leKI_iff b c).mp h2 with h2 | ⟨e2, h2⟩
    · exact Or.inl h2
    · exact Or.inr ⟨e2, Nat.le_trans h1 h2⟩

theorem leKI_total (a b : K × Nat) : (leKI a b || leKI b a) = true := by
  rw [Bool.or_eq_true, leKI_iff, leKI_iff]
  rcases lt_trichotomy a.1 b.1 with h | h | h
  · exact Or.inl (Or.inl h)
  · exact (Nat.le_total a.2 b.2).imp (fun h' => Or.inr ⟨h, h'⟩) (fun h' => Or.inr ⟨h.symm, h'⟩)
  · exact Or.inr (Or.inl h)

theorem lexLt_asymm (a b : K × Nat) (h : LexLt a b) : ¬ LexLt b a := by
  rcases h with h | ⟨e, h⟩
  · rintro (h' | ⟨e', h'⟩)
    · exact not_gt_of_lt h h'
    · exact lt_irrefl (e' ▸ h)
  · rintro (h' | ⟨e', h'⟩)
    · exact lt_irrefl (e ▸ h')
    · omega

theorem insKeys_perm (keys : List K) : (insKeys keys).Perm keys.zipIdx :=
  isort_perm _ _

theorem insKeys_sorted (keys : List K) : (insKeys keys).Pairwise (fun a b => leKI a b = true) :=
  isort_sorted leKI_trans leKI_total _

theorem mem_insKeys {keys : List K} {p : K × Nat} : p ∈ insKeys keys ↔ keys[p.2]? = some p.1 := by
  rw [(insKeys_perm keys).mem_iff]
  exact List.mem_zipIdx_iff_getElem?

theorem insKeys_length (keys : List K) : (insKeys keys).length = keys.length := by
  rw [(insKeys_perm keys).length_eq, List.length_zipIdx]

theorem indices_perm (keys : List K) : (indices keys).Perm (List.range keys.length) := by
  have := (insKeys_perm keys).map Prod.snd
  rwa [List.zipIdx_map_snd, ← List.range_eq_range'] at this

theorem indices_length (keys : List K) : (indices keys).length = keys.length := by
  simp [indices, insKeys_length]

/-- strictly, because the request indices are pairwise different -/
theorem insKeys_lexLt (keys : List K) : (insKeys keys).Pairwise LexLt := by
  have hnd : (insKeys keys).Pairwise (fun a b => a.2 ≠ b.2) :=
    List.pairwise_map.mp ((indices_perm keys).nodup_iff.mpr List.nodup_range)
  refine ((insKeys_sorted keys).and hnd).imp ?_
  rintro a b ⟨hle, hne⟩
  rcases (leKI_iff a b).mp hle with h | ⟨e, h⟩
  · exact Or.inl h
  · exact Or.inr ⟨e, Nat.lt_of_le_of_ne h hne⟩

theorem insKeys_keys_sorted (keys : List K) : ((insKeys keys).map (·.1)).Pairwise (· ≤ ·) := by
  refine List.pairwise_map.mpr ((insKeys_lexLt keys).imp ?_)
  rintro a b (h | ⟨e, _⟩)
  · exact le_of_lt h
  · exact le_of_eq e

theorem insKeys_bisect_sorted (existing keys : List K) :
    ((insKeys keys).map (fun p => bisectLeft existing p.1)).Pairwise (· ≤ ·) :=
  List.pairwise_map.mpr ((List.pairwise_map.mp (insKeys_keys_sorted keys)).imp
    (fun h => bisectLeft_mono existing _ _ h))

theorem order_of_sorted_requests {keys newKeys : List K} (H2 : RankInc keys newKeys) :
    RequestOrder keys newKeys :=
  fun a b qa qb sa sb hqa hqb hsa hsb hlt =>
    pairwise_asymm_mem lexLt_asymm ((insKeys_lexLt keys).and H2) (a := (qa, a)) (b := (qb, b))
      (mem_insKeys.mpr hqa) (mem_insKeys.mpr hqb) hlt sa sb hsa hsb

theorem rankInc_of_order {keys newKeys : List K} (h : RequestOrder keys newKeys) :
    RankInc keys newKeys :=
  (insKeys_lexLt keys).imp_of_mem fun hp hq hlt sp sq hsp hsq =>
    h _ _ _ _ sp sq (mem_insKeys.mp hp) (mem_insKeys.mp hq) hsp hsq hlt

/-- `ungroup` inverts any permutation `idx` of `0 … n-1`: the slot at position `p` goes to index
    `idx[p]`. -/
theorem ungroup_spec (idx : List Nat) (slots : List K) (n : Nat)
    (hp : idx.Perm (List.range n)) (hl : slots.length = n) :
    (ungroup idx slots).length = n ∧
    ∀ (p i : Nat) (s : K), idx[p]? = some i → slots[p]? = some s → (ungroup idx slots)[i]? = some s := by
  have hidx : idx.length = n := by rw [hp.length_eq, List.length_range]
  let L := isort (fun a b : Nat × K => decide (a.1 ≤ b.1)) (idx.zip slots)
  have hperm : L.Perm (idx.zip slots) := isort_perm _ _
  -- the sorted first components are a sorted permutation of `range n`, hence `range n` itself
  have heq : L.map Prod.fst = List.range n := by
    refine List.Perm.eq_of_pairwise (le := (· ≤ ·)) (fun a b _ _ h1 h2 => Nat.le_antisymm h1 h2)
      (List.pairwise_map.mpr ((isort_sorted ?_ ?_ _).imp of_decide_eq_true))
      ((List.pairwise_lt_range (n := n)).imp Nat.le_of_lt) ?_
    · exact fun a b c h1 h2 => decide_eq_true (Nat.le_trans (of_decide_eq_true h1) (of_decide_eq_true h2))
    · intro a b
      simp only [Bool.or_eq_true, decide_eq_true_eq]
      exact Nat.le_total _ _
    · have := hperm.map Prod.fst
      rw [List.map_fst_zip (by omega)] at this
      exact this.trans hp
  refine ⟨?_, fun p i s hi hs => ?_⟩
  · show (L.map _).length = n
    rw [List.length_map, ← List.length_map (f := Prod.fst), heq, List.length_range]
  · obtain ⟨j, hj⟩ := List.mem_iff_getElem?.mp (hperm.mem_iff.mpr
      (List.mem_iff_getElem?.mpr ⟨p, List.getElem?_zip_eq_some (z := (i, s)).mpr ⟨hi, hs⟩⟩))
    have h1 : (L.map Prod.fst)[j]? = some i := by
      rw [List.getElem?_map, hj]
      rfl
    rw [heq] at h1
    obtain ⟨_, hji⟩ := List.getElem?_eq_some_iff.mp h1
    rw [List.getElem_range] at hji
    subst hji
    show (L.map _)[j]? = some s
    rw [List.getElem?_map, hj]
    rfl

theorem indices_getElem? {keys : List K} {p : Nat} {q : K × Nat} (h : (insKeys keys)[p]? = some q) :
    (indices keys)[p]? = some q.2 := by
  unfold indices
  rw [List.getElem?_map, h]
  rfl

theorem mem_of_mem_ungroup {idx : List Nat} {slots : List K} {k : K}
    (hk : k ∈ ungroup idx slots) : k ∈ slots := by
  obtain ⟨pr, hpr, rfl⟩ := List.mem_map.mp hk
  exact (List.of_mem_zip ((isort_perm _ _).mem_iff.mp hpr)).2

theorem ungroup_rank_order (keys slots : List K) (hl : slots.length = keys.length)
    (hinc : slots.Pairwise (· < ·)) : RankInc keys (ungroup (indices keys) slots) := by
  obtain ⟨_, hslot⟩ := ungroup_spec (indices keys) slots keys.length (indices_perm keys) hl
  rw [RankInc, List.pairwise_iff_getElem]
  intro i j hi hj hij sp sq hsp hsq
  rw [insKeys_length, ← hl] at hi hj
  obtain ⟨si, hsi⟩ := exists_getElem? hi
  obtain ⟨sj, hsj⟩ := exists_getElem? hj
  rw [hslot i _ si (indices_getElem? (List.getElem?_eq_getElem _)) hsi] at hsp
  rw [hslot j _ sj (indices_getElem? (List.getElem?_eq_getElem _)) hsj] at hsq
  cases hsp
  cases hsq
  exact pairwise_getElem? hinc i j sp sq hij hsi hsj

end Sorting

section Assembly
variable {K : Type} [LT K] [LE K] [DecidableLT K] [DecidableLE K] [IsLinearOrder K] [LawfulOrderLT K]

theorem applyAdj_length (existing : List K) (adj : List (Nat × K)) :
    (applyAdj existing adj).length = existing.length := by
  unfold applyAdj
  induction adj generalizing existing with
  | nil => rfl
  | cons p t ih => rw [List.foldl_cons, ih, List.length_set]

theorem nodupNat_iff (l : List Nat) : nodupNat l = true ↔ l.Nodup := by
  induction l with
  | nil => simp [nodupNat]
  | cons x xs ih => simp [nodupNat, ih]

theorem placement_of_slot {existing final : List K} (hs : existing.Pairwise (· ≤ ·))
    (hf : final.Pairwise (· ≤ ·)) {q s : K} (hslot : Slot final (bisectLeft existing q) s) :
    ∀ (i : Nat) (x f : K), existing[i]? = some x → final[i]? = some f →
      (x < q → f < s) ∧ (q ≤ x → s < f) := by
  intro i x f hx hfi
  have hg := slot_global hf hslot i f hfi
  constructor
  · intro hxq
    exact hg.1 (Nat.lt_of_not_le fun hle => not_lt_of_ge (bisectLeft_ge existing q hs i x hx hle) hxq)
  · intro hqx
    exact hg.2 (Nat.le_of_not_lt fun hlt => not_lt_of_ge hqx (bisectLeft_lt existing q i x hx hlt))

theorem clauses_of_slots {existing final keys newKeys : List K}
    (hs : existing.Pairwise (· ≤ ·)) (hf : final.Pairwise (· < ·))
    (hlen : newKeys.length = keys.length)
    (H2 : RankInc keys newKeys) (H3 : InSlots existing final keys newKeys) :
    Placement existing final keys newKeys ∧ RequestOrder keys newKeys ∧ (final ++ newKeys).Nodup := by
  have hf' := hf.imp le_of_lt
  have horder := order_of_sorted_requests H2
  refine ⟨fun a i q x f s hq hx hfi hsa =>
      placement_of_slot hs hf' (H3 (q, a) (mem_insKeys.mpr hq) s hsa) i x f hx hfi,
    horder, List.nodup_append.mpr ⟨hf.imp ne_of_lt, ?_, ?_⟩⟩
  · -- two new keys: their requests are comparable one way or the other
    rw [List.nodup_iff_pairwise_ne, List.pairwise_iff_getElem]
    intro i j hi hj hij
    obtain ⟨qi, hqi⟩ := exists_getElem? (l := keys) (i := i) (by omega)
    obtain ⟨qj, hqj⟩ := exists_getElem? (l := keys) (i := j) (by omega)
    have hsi := List.getElem?_eq_getElem hi
    have hsj := List.getElem?_eq_getElem hj
    rcases lt_trichotomy qi qj with h | h | h
    · exact ne_of_lt (horder i j qi qj _ _ hqi hqj hsi hsj (Or.inl h))
    · exact ne_of_lt (horder i j qi qj _ _ hqi hqj hsi hsj (Or.inr ⟨h, hij⟩))
    · exact (ne_of_lt (horder j i qj qi _ _ hqj hqi hsj hsi (Or.inl h))).symm
  · -- an existing row and a new key: the row is before the key's slot or not
    intro x hx y hy
    obtain ⟨i, hi⟩ := List.mem_iff_getElem?.mp hx
    obtain ⟨a, ha⟩ := List.mem_iff_getElem?.mp hy
    have hal := (List.getElem?_eq_some_iff.mp ha).1
    obtain ⟨q, hq⟩ := exists_getElem? (l := keys) (i := a) (by omega)
    have hg := slot_global hf' (H3 (q, a) (mem_insKeys.mpr hq) y ha) i x hi
    by_cases h : i < bisectLeft existing q
    · exact ne_of_lt (hg.1 h)
    · exact (ne_of_lt (hg.2 (Nat.le_of_not_lt h))).symm

/-- the neighbours of the bisection point have old keys `< q` resp. `≥ q` -/
theorem inSlots_of_placement {existing final keys newKeys : List K} (hs : existing.Pairwise (· ≤ ·))
    (hfl : final.length = existing.length) (h : Placement existing final keys newKeys) :
    InSlots existing final keys newKeys := by
  intro p hp s hsp
  have hb := bisectLeft_le_length existing p.1
  have hq := mem_insKeys.mp hp
  refine ⟨by omega, fun x hpos hx => ?_, fun y hy => ?_⟩
  · obtain ⟨e, he⟩ := exists_getElem? (l := existing) (i := bisectLeft existing p.1 - 1) (by omega)
    exact (h p.2 _ p.1 e x s hq he hx hsp).1 (bisectLeft_lt existing p.1 _ e he (by omega))
  · have := (List.getElem?_eq_some_iff.mp hy).1
    obtain ⟨e, he⟩ := exists_getElem? (l := existing) (i := bisectLeft existing p.1) (by omega)
    exact (h p.2 _ p.1 e y s hq he hy hsp).2 (bisectLeft_ge existing p.1 hs _ e he (Nat.le_refl _))

/-- the left side is the tail of `validOutcome` -/
theorem slotChecks_iff {existing final keys newKeys : List K} (hlen : newKeys.length = keys.length) :
    (match (generalizing := false) newKeys with
      | [] => true
      | d :: _ => strictlyInc ((insKeys keys).map (fun p => newKeys.getD p.2 d)) &&
          (insKeys keys).all (fun p => slotOK final (bisectLeft existing p.1) (newKeys.getD p.2 d)))
      = true ↔ RankInc keys newKeys ∧ InSlots existing final keys newKeys := by
  unfold RankInc InSlots
  cases newKeys with
  | nil =>
    have hk : keys = [] := List.length_eq_zero_iff.mp hlen.symm
    subst hk
    exact ⟨fun _ => ⟨List.Pairwise.nil, fun p hp => nomatch hp⟩, fun _ => rfl⟩
  | cons d t =>
    have hget : ∀ p ∈ insKeys keys, (d :: t)[p.2]? = some ((d :: t).getD p.2 d) := fun p hp => by
      have hl := (List.getElem?_eq_some_iff.mp (mem_insKeys.mp hp)).1
      rw [List.getD_eq_getElem?_getD, List.getElem?_eq_getElem (hlen ▸ hl)]
      rfl
    simp only [Bool.and_eq_true, List.all_eq_true, strictlyInc_iff, List.pairwise_map, slotOK_iff]
    constructor
    · rintro ⟨h2, h3⟩
      refine ⟨h2.imp_of_mem fun hp hq h sp sq hsp hsq => ?_, fun p hp s hsp => ?_⟩
      · rw [hget _ hp] at hsp
        rw [hget _ hq] at hsq
        cases hsp
        cases hsq
        exact h
      · rw [hget p hp] at hsp
        cases hsp
        exact h3 p hp
    · rintro ⟨h2, h3⟩
      exact ⟨h2.imp_of_mem fun hp hq h => h _ _ (hget _ hp) (hget _ hq),
        fun p hp => h3 p hp _ (hget p hp)⟩

end Assembly

/-! The plain path of `prepare_inserts` (no `_adjust_range`, no `_adjust_all`) -/

section Plain
variable {K : Type} [LT K] [LE K] [DecidableLT K] [DecidableLE K] [IsLinearOrder K] [LawfulOrderLT K]

theorem insertRight_append (xs : List K) (x : K) (h : ∀ y ∈ xs, ¬ x < y) :
    insertRight xs x = xs ++ [x] := by
  induction xs with
  | nil => rfl
  | cons y ys ih =>
    simp only [insertRight]
    rw [if_neg (h y List.mem_cons_self), ih (fun z hz => h z (List.mem_cons_of_mem _ hz))]
    rfl

theorem insertMany_append (xs vs : List K) (hv : vs.Pairwise (· ≤ ·))
    (h : ∀ y ∈ xs, ∀ v ∈ vs, ¬ v < y) : insertMany xs vs = xs ++ vs := by
  unfold insertMany
  induction vs generalizing xs with
  | nil => exact (List.append_nil xs).symm
  | cons v t ih =>
    rw [List.pairwise_cons] at hv
    rw [List.foldl_cons, insertRight_append xs v (fun y hy => h y hy v List.mem_cons_self),
      ih (xs ++ [v]) hv.2, List.append_assoc, List.singleton_append]
    intro y hy v' hv'
    rcases List.mem_append.mp hy with hy | hy
    · exact h y hy v' (List.mem_cons_of_mem _ hv')
    · rw [List.mem_singleton.mp hy]
      exact not_lt_of_ge (hv.1 v' hv')

theorem irange_append (xs ks : List K) (b e : K) (hx : ∀ y ∈ xs, y < b)
    (hk : ∀ k ∈ ks, b ≤ k ∧ k ≤ e) : irange (xs ++ ks) b e = ks := by
  unfold irange
  have h1 : xs.filter (fun v => decide (b ≤ v) && decide (v ≤ e)) = [] :=
    List.filter_eq_nil_iff.mpr fun y hy hy' => by
      simp only [Bool.and_eq_true, decide_eq_true_eq] at hy'
      exact not_le_of_gt (hx y hy) hy'.1
  have h2 : ks.filter (fun v => decide (b ≤ v) && decide (v ≤ e)) = ks :=
    List.filter_eq_self.mpr fun k hk' => by
      simp only [Bool.and_eq_true, decide_eq_true_eq]
      exact hk k hk'
  rw [List.filter_append, h1, h2]
  rfl

theorem pairwise_lt_of_allDistinct (l : List K) (hs : l.Pairwise (· ≤ ·)) (h : allDistinct l = true) :
    l.Pairwise (· < ·) := by
  -- neighbours are `≤` and different, which is the test `strictlyInc` makes
  refine (strictlyInc_iff l).mp ?_
  induction l with
  | nil => rfl
  | cons a t ih =>
    cases t with
    | nil => rfl
    | cons b t' =>
      simp only [allDistinct, strictlyInc, Bool.and_eq_true, decide_eq_true_eq] at h ⊢
      rw [List.pairwise_cons] at hs
      exact ⟨lt_of_le_of_ne (hs.1 b List.mem_cons_self) ((kne_iff a b).mp h.1), ih hs.2 h.2⟩

/-- for `begin = end` the chain tested by `is_valid_range` is constant -/
theorem validRange_ne {xs : List K} {b e : K} (h : isValidRange b (irange xs b e) e = true) :
    b ≠ e := by
  rintro rfl
  have hmem : ∀ m ∈ b :: (irange xs b b ++ [b]), m = b := by
    intro m hm
    rcases List.mem_cons.mp hm with rfl | hm
    · rfl
    rcases List.mem_append.mp hm with hm | hm
    · have := (List.mem_filter.mp hm).2
      simp only [Bool.and_eq_true, decide_eq_true_eq] at this
      exact le_antisymm this.2 this.1
    · exact List.mem_singleton.mp hm
  have hstrict := pairwise_lt_of_allDistinct _ (List.pairwise_of_forall_mem_list
    fun a ha c hc => le_of_eq ((hmem a ha).trans (hmem c hc).symm)) h
  exact lt_irrefl ((List.pairwise_cons.mp hstrict).1 b (List.mem_append_right _ List.mem_cons_self))

theorem except_map_ok {ε α β : Type} {x : Except ε α} {f : α → β} {y : β}
    (h : x.map f = .ok y) : ∃ a, x = .ok a ∧ y = f a := by
  cases x with
  | error e => cases h
  | ok a => exact ⟨a, rfl, (Except.ok.inj h).symm⟩

variable (F : FloatLike K)

theorem adjGetKey_nil {w : Work K} (h : w.adj = []) {i : Nat} {k : K} :
    adjGetKey F w i = .ok k ↔ w.orig[i]? = some k := by
  unfold adjGetKey
  rw [h]
  -- on an empty list the binary search returns index 0, which holds no adjustment
  cases w.orig[i]? <;> simp [bsearchIdx, pure, Except.pure, throw, throwThe, MonadExceptOf.throw]

/-- `begin`, `end` are the neighbours of slot `idx` (`0.0` / `begin + count + 1` at the two ends) -/
theorem beginEnd_of_adj_nil {w : Work K} (hadj : w.adj = []) {idx count : Nat} {b e : K}
    (hb : beginKey F w idx = .ok b) (he : endKey F w idx count b = .ok e) :
    (idx = 0 → b = F.zero) ∧ (0 < idx → w.orig[idx - 1]? = some b) ∧
    (idx < w.orig.length → w.orig[idx]? = some e) ∧
    (¬ idx < w.orig.length → e = F.endAfter b count) := by
  unfold beginKey at hb
  unfold endKey at he
  refine ⟨fun h0 => ?_, fun h0 => ?_, fun h0 => ?_, fun h0 => ?_⟩
  · rw [if_neg (by omega)] at hb
    exact (Except.ok.inj hb).symm
  · rw [if_pos h0] at hb
    exact (adjGetKey_nil F hadj).mp hb
  · rw [if_pos h0] at he
    exact (adjGetKey_nil F hadj).mp he
  · rw [if_neg h0] at he
    exact (Except.ok.inj he).symm

/-- The three normal returns of `prep_inserts_at_index`: renumbered, relabelled, or (the plain path)
    the `get_range` keys inserted, the range check passed and nothing else touched. -/
theorem prepAt_ok {w w' : Work K} {idx count : Nat} (h : prepAt F w idx count = .ok w') :
    (w'.relabels = w.relabels ∧ w'.renumbers = w.renumbers + 1) ∨
    (w'.relabels = w.relabels + 1 ∧ w'.renumbers = w.renumbers) ∨
    ∃ b e, beginKey F w idx = .ok b ∧ endKey F w idx count b = .ok e ∧
      invalidEnds F b e = false ∧
      isValidRange b (irange (insertMany w.ins (F.getRange b e count)) b e) e = true ∧
      w' = { w with ins := insertMany w.ins (F.getRange b e count) } := by
  unfold prepAt at h
  by_cases hc : count = 0
  · rw [if_pos hc] at h
    cases h
  rw [if_neg hc] at h
  cases hb : beginKey F w idx with
  | error err =>
    rw [hb] at h
    cases h
  | ok b =>
    rw [hb] at h
    dsimp only at h
    cases he : endKey F w idx count b with
    | error err =>
      rw [he] at h
      cases h
    | ok e =>
      rw [he] at h
      dsimp only at h
      cases hends : invalidEnds F b e with
      | true =>
        rw [hends, if_pos rfl] at h
        obtain ⟨a, _, rfl⟩ := except_map_ok h
        exact Or.inl ⟨rfl, rfl⟩
      | false =>
        rw [hends, if_neg Bool.false_ne_true] at h
        by_cases hvalid : isValidRange b (irange (insertMany w.ins (F.getRange b e count)) b e) e = true
        · rw [if_pos hvalid] at h
          cases h
          exact Or.inr (Or.inr ⟨b, e, rfl, he, hends, hvalid, rfl⟩)
        · rw [if_neg hvalid] at h
          obtain ⟨a, _, rfl⟩ := except_map_ok h
          exact Or.inr (Or.inl ⟨rfl, rfl⟩)

/-- the `p`-th insertion so far sits in slot `tags[p]` of the existing rows -/
structure InsInv (existing : List K) (tags : List Nat) (ins : List K) : Prop where
  len : tags.length = ins.length
  inc : ins.Pairwise (· < ·)
  slot : ∀ tk ∈ tags.zip ins, Slot existing tk.1 tk.2
  fin : ∀ k ∈ ins, F.isInf k = false

/-- no `_adjust_range` / `_adjust_all` step has run -/
def Untouched (w : Work K) : Prop := w.relabels = 0 ∧ w.renumbers = 0

structure PlainInv (existing : List K) (w : Work K) (tags : List Nat) : Prop where
  orig : w.orig = existing
  adj : w.adj = []
  ins : InsInv F existing tags w.ins

/-- One plain step, on lists only (no `Work`, no `Except`): `hbe` says `b`, `e` are the neighbours of
    slot `idx`. -/
theorem plain_step (L : Laws F) {existing ins : List K} {tags : List Nat} {idx count : Nat} {b e : K}
    (hs : existing.Pairwise (· ≤ ·)) (hinv : InsInv F existing tags ins)
    (htags : ∀ t ∈ tags, t < idx) (hidx : idx ≤ existing.length)
    (hbe : (idx = 0 → b = F.zero) ∧ (0 < idx → existing[idx - 1]? = some b) ∧
      (idx < existing.length → existing[idx]? = some e) ∧
      (¬ idx < existing.length → e = F.endAfter b count))
    (hends : invalidEnds F b e = false)
    (hvalid : isValidRange b (irange (insertMany ins (F.getRange b e count)) b e) e = true) :
    InsInv F existing (tags ++ List.replicate count idx) (insertMany ins (F.getRange b e count)) := by
  obtain ⟨hlen, hinc, hslot, hfin⟩ := hinv
  obtain ⟨hb0, hb1, he1, he2⟩ := hbe
  have hends' : (¬ b < F.zero ∧ ¬ e ≤ F.zero) ∧ F.isInf (pyMax b e) = false := by
    unfold invalidEnds at hends
    simpa only [Bool.or_eq_false_iff, decide_eq_false_iff_not] using hends
  have hle : b ≤ e := by
    by_cases hi : idx < existing.length
    · by_cases hi0 : 0 < idx
      · exact pairwise_le_getElem? hs (idx - 1) idx b e (by omega) (hb1 hi0) (he1 hi)
      · rw [hb0 (by omega)]
        exact le_of_lt (not_le.mp hends'.1.2)
    · rw [he2 hi]
      exact L.endAfter_ge b count
  have hblt : b < e := lt_of_le_of_ne hle (validRange_ne hvalid)
  -- earlier insertions are below `b`: each lies in a slot before `idx`, hence below `existing[idx-1]`
  have hlow : ∀ y ∈ ins, y < b := by
    intro y hy
    obtain ⟨p, hp⟩ := List.mem_iff_getElem?.mp hy
    have hpl := (List.getElem?_eq_some_iff.mp hp).1
    obtain ⟨t, ht⟩ := exists_getElem? (l := tags) (i := p) (by omega)
    have hsl := hslot (t, y) (List.mem_iff_getElem?.mpr ⟨p, List.getElem?_zip_eq_some.mpr ⟨ht, hp⟩⟩)
    have htlt := htags t (List.mem_of_getElem? ht)
    exact (slot_global hs hsl (idx - 1) b (hb1 (by omega))).2 (by omega)
  have hks := L.range_bounds b e count hblt
  have hmono := L.range_mono b e count
  rw [insertMany_append _ _ hmono fun y hy v hv =>
    not_lt_of_ge (le_of_lt (lt_of_lt_of_le (hlow y hy) (hks v hv).1))] at hvalid ⊢
  rw [irange_append _ _ b e hlow (fun k hk => ⟨(hks k hk).1, le_of_lt (hks k hk).2⟩)] at hvalid
  -- the chain begin, keys…, end is weakly increasing, hence (range check) strictly
  have hchain : (b :: F.getRange b e count ++ [e]).Pairwise (· ≤ ·) := by
    rw [List.cons_append, List.pairwise_cons, List.pairwise_append]
    refine ⟨fun c hc => ?_, hmono, List.pairwise_singleton _ _, fun a ha c hc => ?_⟩
    · rcases List.mem_append.mp hc with hc | hc
      · exact (hks c hc).1
      · rw [List.mem_singleton.mp hc]
        exact hle
    · rw [List.mem_singleton.mp hc]
      exact le_of_lt (hks a ha).2
  have hstrict := pairwise_lt_of_allDistinct _ hchain hvalid
  rw [List.cons_append, List.pairwise_cons, List.pairwise_append] at hstrict
  obtain ⟨hbk, hkk, _, _⟩ := hstrict
  have hbk' : ∀ k ∈ F.getRange b e count, b < k := fun k hk => hbk k (List.mem_append_left _ hk)
  have hfe : F.isInf e = false := by
    have := hends'.2
    rwa [pyMax, if_pos hblt] at this
  have hfb : F.isInf b = false :=
    L.isInf_convex F.zero b e (not_lt.mp hends'.1.1) hle L.zero_fin hfe
  refine ⟨?_, List.pairwise_append.mpr ⟨hinc, hkk, fun y hy k hk => lt_trans (hlow y hy) (hbk' k hk)⟩,
    ?_, ?_⟩
  · rw [List.length_append, List.length_append, List.length_replicate, hlen, L.range_length]
  · rw [List.zip_append hlen]
    refine List.forall_mem_append.mpr ⟨hslot, ?_⟩
    rintro ⟨t, k⟩ h1
    obtain ⟨ht, hk⟩ := List.of_mem_zip h1
    rw [(List.mem_replicate.mp ht).2]
    refine ⟨hidx, fun x hpos hx => ?_, fun y hy => ?_⟩
    · rw [hb1 hpos] at hx
      cases hx
      exact hbk' k hk
    · rw [he1 (List.getElem?_eq_some_iff.mp hy).1] at hy
      cases hy
      exact (hks k hk).2
  · exact List.forall_mem_append.mpr ⟨hfin, fun k hk =>
      L.isInf_convex b k e (hks k hk).1 (le_of_lt (hks k hk).2) hfb hfe⟩

/-- The invariant is carried forward under the hypothesis that the counters are still zero: a step that
    leaves them zero was a plain step from a state where they were zero. -/
theorem prepAt_plain (L : Laws F) {existing : List K} (hs : existing.Pairwise (· ≤ ·))
    {w w' : Work K} {tags : List Nat} {idx count : Nat}
    (hinv : Untouched w → PlainInv F existing w tags) (htags : ∀ t ∈ tags, t < idx)
    (hidx : idx ≤ existing.length)
    (h : prepAt F w idx count = .ok w') (h0 : Untouched w') :
    PlainInv F existing w' (tags ++ List.replicate count idx) := by
  rcases prepAt_ok F h with hcnt | hcnt | ⟨b, e, hb, he, hends, hvalid, rfl⟩
  · exact absurd h0.2 (by omega)
  · exact absurd h0.1 (by omega)
  · obtain ⟨horig, hadj, hins⟩ := hinv h0
    exact ⟨horig, hadj,
      plain_step F L hs hins htags hidx (horig ▸ beginEnd_of_adj_nil F hadj hb he) hends hvalid⟩

theorem foldlM_plain (L : Laws F) {existing : List K} (hs : existing.Pairwise (· ≤ ·))
    (gs : List (Nat × Nat)) {w w' : Work K} {tags : List Nat}
    (hinv : Untouched w → PlainInv F existing w tags)
    (hgs : (gs.map (·.1)).Pairwise (· < ·))
    (htags : ∀ t ∈ tags, ∀ g ∈ gs, t < g.1)
    (hg : ∀ g ∈ gs, g.1 ≤ existing.length)
    (h : gs.foldlM (fun w g => prepAt F w g.1 g.2) w = .ok w') (h0 : Untouched w') :
    PlainInv F existing w' (tags ++ gs.flatMap (fun g => List.replicate g.2 g.1)) := by
  induction gs generalizing w tags with
  | nil =>
    cases h
    rw [List.flatMap_nil, List.append_nil]
    exact hinv h0
  | cons g t ih =>
    rw [List.foldlM_cons] at h
    cases h1 : prepAt F w g.1 g.2 with
    | error e =>
      rw [h1] at h
      cases h
    | ok w1 =>
      rw [h1] at h
      rw [List.map_cons, List.pairwise_cons] at hgs
      rw [List.flatMap_cons, ← List.append_assoc]
      refine ih (prepAt_plain F L hs hinv (fun t' ht' => htags t' ht' g List.mem_cons_self)
        (hg g List.mem_cons_self) h1) hgs.2 (fun t' ht' g' hg' => ?_)
        (fun g' hg' => hg g' (List.mem_cons_of_mem _ hg')) h
      have hlt := hgs.1 g'.1 (List.mem_map_of_mem hg')
      rcases List.mem_append.mp ht' with h2 | h2
      · exact Nat.lt_trans (htags t' h2 g List.mem_cons_self) hlt
      · rw [(List.mem_replicate.mp h2).2]
        exact hlt

end Plain

end Grist.Relabel
