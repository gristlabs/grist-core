/-
Recalc: small documents for the examples of C18 / C05 / C06: two `sumProg` documents, and `cexProg`,
which satisfies `Respects` and `Strict` yet leaves a circ-marked cell that is NOT a fixpoint of its
formula (`Respects` does not fix the ORDER of reads).
-/
import GristProofs.RecalcAcyclic
namespace Grist.Recalc

/-- 4 cells: `0 = $1`, `1 = $0` (a 2-cycle), `2 = $3 + 1`, `3` data -/
def cycDeps : Nat → List Nat
  | 0 => [1]
  | 1 => [0]
  | 2 => [3]
  | _ => []
def cycProg : Prog := sumProg (fun c => decide (c < 3)) cycDeps (fun c => if c = 2 then 1 else 0)
def cycSt : State := { σ := fun c => if c = 3 then .num 5 else .num 0, dirty := [0, 1, 2] }

theorem cycProg_respects : cycProg.Respects := sumProg_respects _ _ _
theorem cycProg_strict : cycProg.Strict := sumProg_strict _ _ _
theorem cycSt_wf : WFState cycProg 4 cycSt :=
  ⟨by decide, by decide, by decide⟩
theorem cycSt_inv : Inv cycProg 4 cycSt := Inv.of_all_dirty (by decide)

/-- 4 cells, a diamond: `0` data, `1 = $0 + 1`, `2 = $0 + 2`, `3 = $1 + $2` -/
def diaDeps : Nat → List Nat
  | 1 => [0]
  | 2 => [0]
  | 3 => [1, 2]
  | _ => []
def diaProg : Prog := sumProg (fun c => decide (0 < c ∧ c < 4)) diaDeps (fun c => if c = 3 then 0 else c)
def diaSt : State := { σ := fun c => if c = 0 then .num 10 else .num 0, dirty := [1, 2, 3] }

theorem diaProg_respects : diaProg.Respects := sumProg_respects _ _ _
theorem diaSt_wf : WFState diaProg 4 diaSt := ⟨by decide, by decide, by decide⟩
theorem diaSt_inv : Inv diaProg 4 diaSt := Inv.of_all_dirty (by decide)
theorem diaProg_ranked : Ranked diaProg 4 id := by
  intro c hc hf d hd
  have : ∀ c, c < 4 → ∀ d ∈ diaDeps c, d < c := by decide
  exact this c hc d hd

/-- cells: `0` reads `2`, and `1` too when `σ 2 = 0` (listed first); `1 = $0`; `2 = $3`; `3` data -/
def cexProg : Prog where
  formula := fun c => decide (c < 3)
  deps := fun c => match c with | 0 => [1, 2] | 1 => [0] | 2 => [3] | _ => []
  reads := fun c σ => match c with
    | 0 => if σ 2 = .num 0 then [1, 2] else [2]
    | 1 => [0]
    | 2 => [3]
    | _ => []
  f := fun c σ => match c with
    | 0 => if σ 2 = .num 0 then σ 1 else if σ 2 = .circ then .circ else .num 7
    | 1 => σ 0
    | 2 => σ 3
    | _ => .num 0

theorem cexProg_reads_zero (σ : Nat → V) :
    cexProg.reads 0 σ = if σ 2 = .num 0 then [1, 2] else [2] := rfl

theorem cexProg_f_zero (σ : Nat → V) :
    cexProg.f 0 σ = if σ 2 = .num 0 then σ 1 else if σ 2 = .circ then .circ else .num 7 := rfl

theorem cexProg_respects : cexProg.Respects := by
  constructor
  · intro c σ d hd
    match c with
    | 0 =>
      rw [cexProg_reads_zero] at hd
      split at hd
      · exact hd
      · exact List.mem_cons_of_mem _ hd
    | 1 => exact hd
    | 2 => exact hd
    | _ + 3 => cases hd
  · intro c σ σ' h
    match c with
    | 0 =>
      -- cell 2 is read in any case, and decides whether cell 1 is read too
      rw [cexProg_reads_zero] at h
      rw [cexProg_reads_zero, cexProg_reads_zero, cexProg_f_zero, cexProg_f_zero]
      by_cases h0 : σ 2 = .num 0
      · rw [if_pos h0] at h
        rw [← h 2 (by decide)]
        simp only [if_pos h0, true_and]
        exact (h 1 (by decide)).symm
      · rw [if_neg h0] at h
        rw [← h 2 (List.mem_singleton_self 2)]
        simp only [if_neg h0, and_self]
    | 1 => exact ⟨rfl, (h 0 (List.mem_singleton_self 0)).symm⟩
    | 2 => exact ⟨rfl, (h 3 (List.mem_singleton_self 3)).symm⟩
    | _ + 3 => exact ⟨rfl, rfl⟩

theorem cexProg_strict : cexProg.Strict := by
  intro c σ ⟨d, hd, hc⟩
  match c with
  | 0 =>
    rw [cexProg_reads_zero] at hd
    rw [cexProg_f_zero]
    by_cases h0 : σ 2 = .num 0
    · rw [if_pos h0] at hd ⊢
      rcases List.mem_cons.mp hd with rfl | hd
      · exact hc
      · rw [List.mem_singleton.mp hd, h0] at hc
        cases hc
    · rw [if_neg h0] at hd ⊢
      rw [List.mem_singleton.mp hd] at hc
      rw [if_pos hc]
  | 1 =>
    rw [List.mem_singleton.mp hd] at hc
    exact hc
  | 2 =>
    rw [List.mem_singleton.mp hd] at hc
    exact hc
  | _ + 3 => cases hd

def cexSt : State := { σ := fun c => if c = 3 then .num 5 else .num 0, dirty := [0, 1, 2] }

end Grist.Recalc
