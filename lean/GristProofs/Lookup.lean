/-
Two-way map and lookup index of C13.  Defines `Rel`, `Lawful`, `TwoWayMap.WF`, `Good`, `CacheRel`, `inSet`,
`LawfulMapping`.  Main facts: `LawfulSlot.lawful` (a bin whose operations rewrite one slot of the dict
is `Lawful`), `TwoWayMap.run_wf`, `ix_insert_ok` / `ix_remove`, `lawful_simpleMapping`.
-/
import GristModel.Lookup
import GristProofs.Basics
namespace Grist.Lookup

section dict
variable {κ ν : Type} [DecidableEq κ]

theorem dget_ddel (k k' : κ) (d : Dict κ ν) :
    dget k' (ddel k d) = if k' = k then none else dget k' d := by
  induction d with
  | nil => simp [ddel, dget]
  | cons p t ih =>
    obtain ⟨a, v⟩ := p
    by_cases h : a = k
    · subst h
      simp only [ddel, if_true, ih, dget]
      by_cases h2 : k' = a
      · simp [h2]
      · have : ¬ a = k' := fun e => h2 e.symm
        simp [h2, this]
    · simp only [ddel, h, if_false, dget, ih]
      by_cases h2 : a = k'
      · have : ¬ k' = k := fun e => h (h2.trans e)
        simp [h2, this]
      · simp [h2]

theorem dget_dset (k k' : κ) (v : ν) (d : Dict κ ν) :
    dget k' (dset k v d) = if k' = k then some v else dget k' d := by
  simp only [dset, dget, dget_ddel]
  by_cases h : k = k'
  · simp [h]
  · have : ¬ k' = k := fun e => h e.symm
    simp [h, this]

theorem dget_nil (k : κ) : dget k ([] : Dict κ ν) = none := rfl

theorem dget_of_isEmpty {d : Dict κ ν} (h : d.isEmpty = true) (k : κ) : dget k d = none := by
  cases d with
  | nil => rfl
  | cons _ _ => simp at h

theorem ddel_eq_filter (k : κ) (d : Dict κ ν) : ddel k d = d.filter (·.1 ≠ k) := by
  induction d with
  | nil => rfl
  | cons p t ih => by_cases e : p.1 = k <;> simp [ddel, e, ih]

theorem ddel_ddel (k : κ) (d : Dict κ ν) : ddel k (ddel k d) = ddel k d := by
  rw [ddel_eq_filter, ddel_eq_filter, List.filter_filter]
  simp

theorem keys_ddel (k : κ) (d : Dict κ ν) : (ddel k d).map (·.1) = (d.map (·.1)).filter (· ≠ k) := by
  rw [ddel_eq_filter, List.filter_map]
  rfl

theorem nodup_keys_ddel (k : κ) {d : Dict κ ν} (h : (d.map (·.1)).Nodup) :
    ((ddel k d).map (·.1)).Nodup :=
  keys_ddel k d ▸ h.filter _

theorem nodup_keys_dset (k : κ) (v : ν) {d : Dict κ ν} (h : (d.map (·.1)).Nodup) :
    ((dset k v d).map (·.1)).Nodup :=
  List.nodup_cons.mpr ⟨by simp [keys_ddel], nodup_keys_ddel k h⟩

end dict

/-- `x` is among the values stored under `k` -/
def Rel {κ γ σ : Type} [DecidableEq κ] (B : BinOps κ γ σ) (d : Dict κ σ) (k : κ) (x : γ) : Prop :=
  ∃ s, dget k d = some s ∧ x ∈ B.items s

/-- What `TwoWayMap` needs from a bin type.  `wf` is the bin's own invariant on a mapping,
    `hk` / `hv` say which keys / values are hashable. -/
structure Lawful {κ γ σ : Type} [DecidableEq κ] (B : BinOps κ γ σ) (hk : κ → Bool) (hv : γ → Bool)
    (wf : Dict κ σ → Prop) : Prop where
  wf_nil : wf []
  key_hashable : ∀ {d k x}, wf d → Rel B d k x → hk k = true
  add_spec : ∀ {d k v rem add d'}, wf d → B.addItem d k v = .ok (rem, add, d') →
    wf d' ∧ hk k = true ∧
    (∀ k' x, Rel B d' k' x ↔ ((k' = k ∧ x = v) ∨ (Rel B d k' x ∧ ¬ (k' = k ∧ rem = some x)))) ∧
    (∀ x, rem = some x → Rel B d k x ∧ x ≠ v)
  add_undo : ∀ {d k v rem add d'}, wf d → B.addItem d k v = .ok (rem, add, d') →
    ∃ d'', B.undoAdd d' k rem add = .ok d'' ∧ wf d'' ∧ ∀ k' x, Rel B d'' k' x ↔ Rel B d k' x
  rem_spec : ∀ {d k v d'}, wf d → B.removeItem d k v = .ok d' →
    wf d' ∧ hk k = true ∧ ∀ k' x, Rel B d' k' x ↔ (Rel B d k' x ∧ ¬ (k' = k ∧ x = v))
  rem_total : ∀ {d k v}, hk k = true → hv v = true → ∃ d', B.removeItem d k v = .ok d'
  remKey_spec : ∀ {d k xs d'}, wf d → B.removeKey d k = .ok (xs, d') →
    wf d' ∧ (∀ x, x ∈ xs ↔ Rel B d k x) ∧ ∀ k' x, Rel B d' k' x ↔ (Rel B d k' x ∧ k' ≠ k)

section slot
variable {κ γ σ : Type} [DecidableEq κ]

/-- `d'` is `d` with the slot of `k` set to `o` -/
def SlotUpd (d : Dict κ σ) (k : κ) (o : Option σ) (d' : Dict κ σ) : Prop :=
  ∀ k', dget k' d' = if k' = k then o else dget k' d

theorem SlotUpd.refl (d : Dict κ σ) (k : κ) : SlotUpd d k (dget k d) d := by
  intro k'
  split
  next h => rw [h]
  next => rfl

theorem SlotUpd.dset {d d1 : Dict κ σ} {k : κ} {o : Option σ} (h : SlotUpd d k o d1) (s : σ) :
    SlotUpd d k (some s) (dset k s d1) := by
  intro k'
  rw [dget_dset, h k']
  split <;> rfl

theorem SlotUpd.ddel {d d1 : Dict κ σ} {k : κ} {o : Option σ} (h : SlotUpd d k o d1) :
    SlotUpd d k none (ddel k d1) := by
  intro k'
  rw [dget_ddel, h k']
  split <;> rfl

def InSlot (B : BinOps κ γ σ) (o : Option σ) (x : γ) : Prop := ∃ s, o = some s ∧ x ∈ B.items s

omit [DecidableEq κ] in
@[simp] theorem inSlot_none (B : BinOps κ γ σ) (x : γ) : InSlot B none x ↔ False := by simp [InSlot]

omit [DecidableEq κ] in
@[simp] theorem inSlot_some (B : BinOps κ γ σ) (s : σ) (x : γ) :
    InSlot B (some s) x ↔ x ∈ B.items s := by simp [InSlot]

def wfP (P : κ → σ → Prop) (d : Dict κ σ) : Prop := ∀ k s, dget k d = some s → P k s

variable {B : BinOps κ γ σ} {P : κ → σ → Prop} {d d' : Dict κ σ} {k : κ} {o : Option σ}

theorem wfP_upd (hw : wfP P d) (hu : SlotUpd d k o d') (hp : ∀ s, o = some s → P k s) : wfP P d' := by
  intro k' s hs
  rw [hu k'] at hs
  split at hs
  · subst k'
    exact hp s hs
  · exact hw k' s hs

theorem rel_upd (hu : SlotUpd d k o d') {Q : γ → Prop} (hs : ∀ x, InSlot B o x ↔ Q x) (k' : κ) (x : γ) :
    Rel B d' k' x ↔ if k' = k then Q x else Rel B d k' x := by
  unfold Rel
  rw [hu k']
  split
  · exact hs x
  · exact Iff.rfl

/-- The bin contract at the slot `dget k d`, the only one an operation rewrites; `add` also says what
    the `except:` block of `insert` restores. -/
structure LawfulSlot (B : BinOps κ γ σ) (hk : κ → Bool) (hv : γ → Bool) (P : κ → σ → Prop) : Prop where
  key_hashable : ∀ {k s}, P k s → hk k = true
  add : ∀ {d k v rem add d'}, wfP P d → B.addItem d k v = .ok (rem, add, d') →
    hk k = true ∧ (∀ x, rem = some x → InSlot B (dget k d) x ∧ x ≠ v) ∧
    (∃ o, SlotUpd d k o d' ∧ (∀ s, o = some s → P k s) ∧
      ∀ x, InSlot B o x ↔ (x = v ∨ (InSlot B (dget k d) x ∧ ¬ rem = some x))) ∧
    ∃ d'' o, B.undoAdd d' k rem add = .ok d'' ∧ SlotUpd d k o d'' ∧ (∀ s, o = some s → P k s) ∧
      ∀ x, InSlot B o x ↔ InSlot B (dget k d) x
  rem : ∀ {d k v d'}, wfP P d → B.removeItem d k v = .ok d' →
    hk k = true ∧ ∃ o, SlotUpd d k o d' ∧ (∀ s, o = some s → P k s) ∧
      ∀ x, InSlot B o x ↔ (InSlot B (dget k d) x ∧ x ≠ v)
  rem_total : ∀ {d k v}, hk k = true → hv v = true → ∃ d', B.removeItem d k v = .ok d'
  remKey : ∀ {d k xs d'}, wfP P d → B.removeKey d k = .ok (xs, d') →
    SlotUpd d k none d' ∧ ∀ x, x ∈ xs ↔ InSlot B (dget k d) x

theorem LawfulSlot.lawful {hk : κ → Bool} {hv : γ → Bool} (L : LawfulSlot B hk hv P) :
    Lawful B hk hv (wfP P) where
  wf_nil := fun k s h => by simp [dget] at h
  key_hashable := fun hw ⟨s, hs, _⟩ => L.key_hashable (hw _ s hs)
  add_spec := by
    intro d k v rem add d' hw h
    obtain ⟨hkk, hr, ⟨o, hu, hp, hs⟩, _⟩ := L.add hw h
    refine ⟨wfP_upd hw hu hp, hkk, fun k' x => ?_, hr⟩
    rw [rel_upd hu hs]
    by_cases e : k' = k
    · subst e
      simp [Rel, InSlot]
    · simp [e]
  add_undo := by
    intro d k v rem add d' hw h
    obtain ⟨_, _, _, d'', o, hun, hu, hp, hs⟩ := L.add hw h
    refine ⟨d'', hun, wfP_upd hw hu hp, fun k' x => ?_⟩
    rw [rel_upd hu hs]
    split
    · subst k'
      exact Iff.rfl
    · exact Iff.rfl
  rem_spec := by
    intro d k v d' hw h
    obtain ⟨hkk, o, hu, hp, hs⟩ := L.rem hw h
    refine ⟨wfP_upd hw hu hp, hkk, fun k' x => ?_⟩
    rw [rel_upd hu hs]
    by_cases e : k' = k
    · subst e
      simp [Rel, InSlot]
    · simp [e]
  rem_total := L.rem_total
  remKey_spec := by
    intro d k xs d' hw h
    obtain ⟨hu, hx⟩ := L.remKey hw h
    refine ⟨wfP_upd hw hu (fun s hs => by cases hs), hx, fun k' x => ?_⟩
    rw [rel_upd hu (inSlot_none B)]
    by_cases e : k' = k <;> simp [e]

end slot

section single
variable {κ γ : Type} [DecidableEq κ] [DecidableEq γ] (hk : κ → Bool)

/-- invariant of the single-value bins: stored keys are hashable -/
def wfSingle (d : Dict κ γ) : Prop := ∀ k s, dget k d = some s → hk k = true

theorem rel_single (d : Dict κ γ) (k : κ) (x : γ) :
    Rel (singleOps (γ := γ) hk) d k x ↔ dget k d = some x := by
  simp [Rel, singleOps]

@[simp] theorem single_items (s : γ) : (singleOps (κ := κ) hk).items s = [s] := rfl

@[simp] theorem strict_items (s : γ) : (strictOps (κ := κ) hk).items s = [s] := rfl

theorem single_slot (hv : γ → Bool) :
    LawfulSlot (singleOps (γ := γ) hk) hk hv (fun k _ => hk k = true) where
  key_hashable := fun h => h
  add := by
    intro d k v rem add d' hw h
    simp only [singleOps] at h
    split at h
    next hkk =>
      refine ⟨hkk, ?_⟩
      -- per case: what was displaced; the slot after the add; the dict and slot after the undo
      split at h
      next hg =>
        cases h
        refine ⟨by simp, ⟨_, (SlotUpd.refl d k).dset v, fun _ _ => hkk, by simp [hg]⟩,
          _, _, ?_, ((SlotUpd.refl d k).dset v).ddel, fun _ _ => hkk, by simp [hg]⟩
        simp [BinOps.undoAdd, singleOps, hkk, dget_dset, bind, Except.bind, pure, Except.pure]
      next stored hg =>
        split at h
        next es =>
          cases h
          refine ⟨by simp, ⟨_, (SlotUpd.refl d k).dset v, fun _ _ => hkk, by simp [hg, es]⟩,
            _, _, ?_, (SlotUpd.refl d k).dset v, fun _ _ => hkk, by simp [hg, es]⟩
          simp [BinOps.undoAdd, bind, Except.bind, pure, Except.pure]
        next es =>
          cases h
          refine ⟨by simp [hg, es], ⟨_, (SlotUpd.refl d k).dset v, fun _ _ => hkk, by simp [hg, eq_comm]⟩,
            _, _, ?_, (((SlotUpd.refl d k).dset v).ddel).dset stored, fun _ _ => hkk, by simp [hg]⟩
          simp [BinOps.undoAdd, singleOps, hkk, dget_dset, dget_ddel, bind, Except.bind, Except.map]
    next => cases h
  rem := by
    intro d k v d' hw h
    simp only [singleOps] at h
    split at h
    next hkk =>
      refine ⟨hkk, ?_⟩
      split at h
      next hg =>
        cases h
        exact ⟨_, SlotUpd.refl d k, fun _ _ => hkk, by simp [hg]⟩
      next stored hg =>
        split at h
        next es =>
          cases h
          exact ⟨_, (SlotUpd.refl d k).ddel, fun _ _ => hkk, by simp [hg, es]⟩
        next es =>
          cases h
          refine ⟨_, SlotUpd.refl d k, fun _ _ => hkk, fun x => ?_⟩
          simp only [hg, inSlot_some, single_items, List.mem_singleton]
          exact ⟨fun e => ⟨e, by rw [e]; exact es⟩, fun e => e.1⟩
    next => cases h
  rem_total := by
    intro d k v hkk _
    simp only [singleOps, hkk, if_true]
    split
    · exact ⟨_, rfl⟩
    · split <;> exact ⟨_, rfl⟩
  remKey := by
    intro d k xs d' hw h
    simp only [singleOps] at h
    split at h
    next he =>
      cases h
      have hg := dget_of_isEmpty he k
      exact ⟨hg ▸ SlotUpd.refl d k, by simp [hg]⟩
    next =>
      split at h
      next =>
        split at h
        next hg =>
          cases h
          exact ⟨hg ▸ SlotUpd.refl d k, by simp [hg]⟩
        next stored hg =>
          cases h
          exact ⟨(SlotUpd.refl d k).ddel, by simp [hg, eq_comm]⟩
      next => cases h

theorem lawful_single (hv : γ → Bool) :
    Lawful (singleOps (γ := γ) hk) hk hv (wfSingle hk) := (single_slot hk hv).lawful

/-- "strict" adds like "single", except that an equal stored value is left in place -/
theorem strict_add {d d' : Dict κ γ} {k : κ} {v : γ} {rem add : Option γ}
    (h : (strictOps hk).addItem d k v = .ok (rem, add, d')) :
    rem = none ∧ ((singleOps hk).addItem d k v = .ok (none, add, d') ∨
      (hk k = true ∧ dget k d = some v ∧ add = none ∧ d' = d)) := by
  simp only [strictOps, singleOps] at h ⊢
  split at h
  next hkk =>
    rw [if_pos hkk]
    split at h
    next =>
      cases h
      exact ⟨rfl, Or.inl rfl⟩
    next stored hg =>
      split at h
      next es =>
        cases h
        exact ⟨rfl, Or.inr ⟨hkk, es ▸ hg, rfl, rfl⟩⟩
      next => cases h
  next => cases h

theorem strict_slot (hv : γ → Bool) :
    LawfulSlot (strictOps (γ := γ) hk) hk hv (fun k _ => hk k = true) where
  key_hashable := fun h => h
  rem := (single_slot hk hv).rem
  rem_total := (single_slot hk hv).rem_total
  remKey := (single_slot hk hv).remKey
  add := by
    intro d k v rem add d' hw h
    obtain ⟨rfl, h | ⟨hkk, hg, rfl, rfl⟩⟩ := strict_add hk h
    · exact (single_slot hk hv).add hw h
    · exact ⟨hkk, by simp, ⟨_, SlotUpd.refl d' k, fun _ _ => hkk, by simp [hg]⟩,
        _, _, rfl, SlotUpd.refl d' k, fun _ _ => hkk, fun _ => Iff.rfl⟩

theorem lawful_strict (hv : γ → Bool) :
    Lawful (strictOps (γ := γ) hk) hk hv (wfSingle hk) := (strict_slot hk hv).lawful

end single

section container
variable {κ γ σ : Type} [DecidableEq κ] [DecidableEq γ]

/-- what `register_container` demands of the three functions -/
structure LawfulC (C : Container γ σ) : Prop where
  items_make : ∀ v, C.items (C.make v) = [v]
  add_none : ∀ s v, C.add s v = none ↔ v ∈ C.items s
  add_some : ∀ s v c, C.add s v = some c → C.items c = C.items s ++ [v]
  items_remove : ∀ s v, C.items (C.remove s v) = (C.items s).erase v

/-- invariant of a container bin: hashable keys, containers without duplicates and never empty
    (`if not stored: del mapping[key]`) -/
def wfC (C : Container γ σ) (hk : κ → Bool) (d : Dict κ σ) : Prop :=
  ∀ k s, dget k d = some s → hk k = true ∧ (C.items s).Nodup ∧ C.items s ≠ []

variable (C : Container γ σ) (hk : κ → Bool) (hv : γ → Bool)

theorem erase_append_self {l : List γ} {v : γ} (h : v ∉ l) : (l ++ [v]).erase v = l := by
  rw [List.erase_append_right _ h]
  simp

omit [DecidableEq γ] in
@[simp] theorem container_items : (containerOps C hk hv).items = C.items := rfl

theorem slot_some {P : σ → Prop} {c : σ} (h : P c) : ∀ s, some c = some s → P s :=
  fun _ hs => Option.some.inj hs ▸ h

theorem container_slot (LC : LawfulC C) : LawfulSlot (containerOps C hk hv) hk hv
    (fun k s => hk k = true ∧ (C.items s).Nodup ∧ C.items s ≠ []) where
  key_hashable := fun h => h.1
  add := by
    intro d k v rem add d' hw h
    simp only [containerOps] at h
    split at h
    next hkk =>
      refine ⟨hkk, ?_⟩
      split at h
      next hg =>
        split at h
        next => cases h
        next hh =>
          cases h
          have hh' : ¬ (C.hashesValue = true ∧ hv v = false) := by simpa using hh
          refine ⟨by simp, ⟨_, (SlotUpd.refl d k).dset (C.make v),
            slot_some ⟨hkk, by simp [LC.items_make], by simp [LC.items_make]⟩,
            by simp [hg, LC.items_make]⟩,
            _, _, ?_, ((SlotUpd.refl d k).dset (C.make v)).ddel, by simp, by simp [hg]⟩
          simp [BinOps.undoAdd, containerOps, hkk, dget_dset, hh', LC.items_remove, LC.items_make,
            bind, Except.bind, pure, Except.pure]
      next stored hg =>
        split at h
        next => cases h
        next hh =>
          have hh' : ¬ (C.hashesValue = true ∧ hv v = false) := by simpa using hh
          obtain ⟨_, hnd, hne⟩ := hw k stored hg
          split at h
          next c ha =>
            cases h
            have hnot : v ∉ C.items stored := fun hm => by
              rw [(LC.add_none stored v).mpr hm] at ha
              cases ha
            have hi := LC.add_some stored v c ha
            have hrem : C.items (C.remove c v) = C.items stored := by
              rw [LC.items_remove, hi, erase_append_self hnot]
            refine ⟨by simp, ⟨_, (SlotUpd.refl d k).dset c,
              slot_some ⟨hkk, hi ▸ nodup_snoc hnd hnot, by simp [hi]⟩, by simp [hg, hi, or_comm]⟩,
              _, _, ?_, ((SlotUpd.refl d k).dset c).dset (C.remove c v),
              slot_some ⟨hkk, hrem ▸ hnd, hrem ▸ hne⟩, by simp [hg, hrem]⟩
            simp [BinOps.undoAdd, containerOps, hkk, dget_dset, hh', hrem, hne, bind, Except.bind, pure,
              Except.pure]
          next ha =>
            cases h
            have hm := (LC.add_none stored v).mp ha
            refine ⟨by simp, ⟨_, hg ▸ SlotUpd.refl d k, slot_some ⟨hkk, hnd, hne⟩, fun x => ?_⟩,
              _, _, rfl, SlotUpd.refl d k, fun s hs => hw k s hs, fun _ => Iff.rfl⟩
            simp only [hg, inSlot_some, container_items]
            exact ⟨fun h => Or.inr ⟨h, by simp⟩, fun h => h.elim (fun e => e ▸ hm) (·.1)⟩
    next => cases h
  rem := by
    intro d k v d' hw h
    simp only [containerOps] at h
    split at h
    next hkk =>
      refine ⟨hkk, ?_⟩
      split at h
      next hg =>
        cases h
        exact ⟨_, SlotUpd.refl d k, fun s hs => hw k s hs, by simp [hg]⟩
      next stored hg =>
        obtain ⟨_, hnd, hne⟩ := hw k stored hg
        have hmem : ∀ x, x ∈ C.items (C.remove stored v) ↔ (x ∈ C.items stored ∧ x ≠ v) := by
          intro x
          rw [LC.items_remove, hnd.mem_erase_iff]
          exact and_comm
        split at h
        next => cases h
        next =>
          split at h
          next he =>
            cases h
            have hnil : C.items (C.remove stored v) = [] := List.isEmpty_iff.mp he
            exact ⟨_, (SlotUpd.refl d k).ddel, by simp, by simp [hg, ← hmem, hnil]⟩
          next he =>
            cases h
            refine ⟨_, (SlotUpd.refl d k).dset (C.remove stored v), slot_some ⟨hkk, ?_, ?_⟩,
              by simp [hg, hmem]⟩
            · rw [LC.items_remove]
              exact hnd.erase v
            · intro hn
              rw [hn] at he
              simp at he
    next => cases h
  rem_total := by
    intro d k v hkk hvv
    simp only [containerOps, hkk, if_true, hvv, Bool.not_true, Bool.and_false, Bool.false_eq_true, if_false]
    split
    · exact ⟨_, rfl⟩
    · split <;> exact ⟨_, rfl⟩
  remKey := by
    intro d k xs d' hw h
    simp only [containerOps] at h
    split at h
    next he =>
      cases h
      have hg := dget_of_isEmpty he k
      exact ⟨hg ▸ SlotUpd.refl d k, by simp [hg]⟩
    next =>
      split at h
      next =>
        split at h
        next hg =>
          cases h
          exact ⟨hg ▸ SlotUpd.refl d k, by simp [hg]⟩
        next stored hg =>
          cases h
          exact ⟨(SlotUpd.refl d k).ddel, by simp [hg]⟩
      next => cases h

omit [DecidableEq γ] in
theorem container_add_total (d : Dict κ σ) {k : κ} {v : γ} (hkk : hk k = true) (hvv : hv v = true) :
    ∃ add d', (containerOps C hk hv).addItem d k v = .ok (none, add, d') := by
  simp only [containerOps, hkk, hvv, if_true, Bool.not_true, Bool.and_false, Bool.false_eq_true, if_false]
  cases dget k d with
  | none => exact ⟨_, _, rfl⟩
  | some s =>
    simp only
    cases C.add s v <;> exact ⟨_, _, rfl⟩

theorem lawful_container (LC : LawfulC C) :
    Lawful (containerOps C hk hv) hk hv (wfC C hk) := (container_slot C hk hv LC).lawful

theorem lawfulC_set : LawfulC (setC (γ := γ)) where
  items_make := fun _ => rfl
  add_none := by intro s v; simp [setC]
  add_some := by
    intro s v c h
    simp only [setC] at h
    by_cases hm : v ∈ s <;> simp [hm] at h
    subst h
    rfl
  items_remove := fun _ _ => rfl

theorem lawfulC_list : LawfulC (listC (γ := γ)) where
  items_make := fun _ => rfl
  add_none := by intro s v; simp [listC]
  add_some := by
    intro s v c h
    simp only [listC] at h
    by_cases hm : v ∈ s <;> simp [hm] at h
    subst h
    rfl
  items_remove := fun _ _ => rfl

theorem lawfulC_lookupSet : LawfulC (lookupSetC (γ := γ)) where
  items_make := fun _ => rfl
  add_none := by intro s v; simp [lookupSetC]
  add_some := by
    intro s v c h
    simp only [lookupSetC] at h
    by_cases hm : v ∈ s.elems <;> simp [hm] at h
    subst h
    rfl
  items_remove := by
    intro s v
    simp only [lookupSetC]
    by_cases hm : v ∈ s.elems
    · simp [hm]
    · simp [hm, List.erase_of_not_mem hm]

end container

section twm
variable {α β σL σR : Type} [DecidableEq α] [DecidableEq β]
variable {L : BinOps β α σL} {R : BinOps α β σR} {hα : α → Bool} {hβ : β → Bool}
variable {wfL : Dict β σL → Prop} {wfR : Dict α σR → Prop}

/-- the invariant: both bins well-formed, `_fwd` and `_bwd` mutually inverse -/
structure TwoWayMap.WF (L : BinOps β α σL) (R : BinOps α β σR) (wfL : Dict β σL → Prop)
    (wfR : Dict α σR → Prop) (m : TwoWayMap α β σL σR) : Prop where
  wfF : wfR m.fwd
  wfB : wfL m.bwd
  inv : ∀ l r, Rel R m.fwd l r ↔ Rel L m.bwd r l

theorem TwoWayMap.wf_empty (LL : Lawful L hβ hα wfL) (LR : Lawful R hα hβ wfR) :
    TwoWayMap.WF L R wfL wfR ({} : TwoWayMap α β σL σR) :=
  ⟨LR.wf_nil, LL.wf_nil, by intro l r; simp [Rel, dget]⟩

theorem TwoWayMap.insert_err (LR : Lawful R hα hβ wfR)
    {m : TwoWayMap α β σL σR} (hm : m.WF L R wfL wfR) {left : α} {right : β}
    {rr ra : Option β} {fwd1 : Dict α σR} {e : Err}
    (h1 : R.addItem m.fwd left right = .ok (rr, ra, fwd1))
    (h2 : L.addItem m.bwd right left = .error e) :
    ∃ fwd2, m.insert L R left right = ({ m with fwd := fwd2 }, some e) ∧
      TwoWayMap.WF L R wfL wfR { m with fwd := fwd2 } ∧ ∀ l r, Rel R fwd2 l r ↔ Rel R m.fwd l r := by
  obtain ⟨fwd2, hu, wf2, rel2⟩ := LR.add_undo hm.wfF h1
  refine ⟨fwd2, ?_, ⟨wf2, hm.wfB, fun l r => (rel2 l r).trans (hm.inv l r)⟩, rel2⟩
  unfold TwoWayMap.insert
  simp only [h1, h2, hu]

/-- `if removed is not _NIL: bin.remove_item(mapping, removed, other)` -/
theorem removeIfSome_spec {κ γ σ : Type} [DecidableEq κ] {B : BinOps κ γ σ} {hk : κ → Bool}
    {hv : γ → Bool} {wf : Dict κ σ → Prop} (LB : Lawful B hk hv wf) {d : Dict κ σ} (hw : wf d)
    (removed : Option κ) {other : γ} (hr : ∀ x, removed = some x → hk x = true)
    (ho : hv other = true) :
    ∃ d', B.removeIfSome d removed other = .ok d' ∧ wf d' ∧
      ∀ k y, Rel B d' k y ↔ (Rel B d k y ∧ ¬ (removed = some k ∧ y = other)) := by
  cases removed with
  | none => exact ⟨d, rfl, hw, by intro k y; simp⟩
  | some x =>
    obtain ⟨d', hd'⟩ := LB.rem_total (d := d) (k := x) (v := other) (hr x rfl) ho
    obtain ⟨w, _, rl⟩ := LB.rem_spec hw hd'
    refine ⟨d', hd', w, fun k y => ?_⟩
    rw [rl k y, Option.some.injEq]
    exact and_congr_right fun _ => not_congr (and_congr_left fun _ => eq_comm)

theorem TwoWayMap.insert_ok (LL : Lawful L hβ hα wfL) (LR : Lawful R hα hβ wfR)
    {m : TwoWayMap α β σL σR} (hm : m.WF L R wfL wfR) {left : α} {right : β}
    {rr ra : Option β} {fwd1 : Dict α σR} {lr la : Option α} {bwd1 : Dict β σL}
    (h1 : R.addItem m.fwd left right = .ok (rr, ra, fwd1))
    (h2 : L.addItem m.bwd right left = .ok (lr, la, bwd1)) :
    ∃ fwd2 bwd2, m.insert L R left right = ({ fwd := fwd2, bwd := bwd2 }, none) ∧
      TwoWayMap.WF L R wfL wfR { fwd := fwd2, bwd := bwd2 } ∧
      L.removeIfSome bwd1 rr left = .ok bwd2 ∧
      ∀ l r, Rel R fwd2 l r ↔
        (((l = left ∧ r = right) ∨ (Rel R m.fwd l r ∧ ¬ (l = left ∧ rr = some r))) ∧
          ¬ (lr = some l ∧ r = right)) := by
  obtain ⟨wf1, hl, rel1, rem1⟩ := LR.add_spec hm.wfF h1
  obtain ⟨wfb1, hr, relb1, remb1⟩ := LL.add_spec hm.wfB h2
  obtain ⟨bwd2, e1, wfb2, relb2⟩ := removeIfSome_spec LL wfb1 rr
    (fun x hx => LL.key_hashable hm.wfB ((hm.inv left x).mp (rem1 x hx).1)) hl
  obtain ⟨fwd2, e2, wff2, relf2⟩ := removeIfSome_spec LR wf1 lr
    (fun y hy => LR.key_hashable hm.wfF ((hm.inv y right).mpr (remb1 y hy).1)) hr
  have hrel : ∀ l r, Rel R fwd2 l r ↔
      (((l = left ∧ r = right) ∨ (Rel R m.fwd l r ∧ ¬ (l = left ∧ rr = some r))) ∧
        ¬ (lr = some l ∧ r = right)) := by
    intro l r
    rw [relf2 l r, rel1 l r]
  refine ⟨fwd2, bwd2, ?_, ⟨wff2, wfb2, ?_⟩, e1, hrel⟩
  · unfold TwoWayMap.insert
    simp only [h1, h2, e1, e2]
  · intro l r
    rw [hrel l r, relb2 r l, relb1 r l]
    have hi := hm.inv l r
    have hrr : ∀ x, rr = some x → x ≠ right := fun x hx => (rem1 x hx).2
    have hlr : ∀ y, lr = some y → y ≠ left := fun y hy => (remb1 y hy).2
    constructor
    · rintro ⟨h | ⟨h, hn⟩, hn2⟩
      · refine ⟨Or.inl ⟨h.2, h.1⟩, ?_⟩
        rintro ⟨e1, _⟩
        exact hrr r e1 h.2
      · refine ⟨Or.inr ⟨hi.mp h, fun ⟨e1, e2⟩ => hn2 ⟨e2, e1⟩⟩, fun ⟨e1, e2⟩ => hn ⟨e2, e1⟩⟩
    · rintro ⟨h | ⟨h, hn⟩, hn2⟩
      · refine ⟨Or.inl ⟨h.2, h.1⟩, ?_⟩
        rintro ⟨e1, _⟩
        exact hlr l e1 h.2
      · refine ⟨Or.inr ⟨hi.mpr h, fun ⟨e1, e2⟩ => hn2 ⟨e2, e1⟩⟩, fun ⟨e1, e2⟩ => hn ⟨e2, e1⟩⟩

theorem TwoWayMap.insert_wf (LL : Lawful L hβ hα wfL) (LR : Lawful R hα hβ wfR)
    {m : TwoWayMap α β σL σR} (hm : m.WF L R wfL wfR) (left : α) (right : β) :
    (m.insert L R left right).1.WF L R wfL wfR := by
  cases h1 : R.addItem m.fwd left right with
  | error e => unfold TwoWayMap.insert; simp only [h1]; exact hm
  | ok r1 =>
    obtain ⟨rr, ra, fwd1⟩ := r1
    cases h2 : L.addItem m.bwd right left with
    | error e =>
      obtain ⟨fwd2, he, hw, _⟩ := TwoWayMap.insert_err LR hm h1 h2
      rw [he]
      exact hw
    | ok r2 =>
      obtain ⟨lr, la, bwd1⟩ := r2
      obtain ⟨fwd2, bwd2, he, hw, _⟩ := TwoWayMap.insert_ok LL LR hm h1 h2
      rw [he]
      exact hw

theorem TwoWayMap.remove_ok (LL : Lawful L hβ hα wfL) (LR : Lawful R hα hβ wfR)
    {m : TwoWayMap α β σL σR} (hm : m.WF L R wfL wfR) {left : α} {right : β}
    {fwd1 : Dict α σR} {bwd1 : Dict β σL}
    (h1 : R.removeItem m.fwd left right = .ok fwd1) (h2 : L.removeItem m.bwd right left = .ok bwd1) :
    m.remove L R left right = ({ fwd := fwd1, bwd := bwd1 }, none) ∧
      TwoWayMap.WF L R wfL wfR { fwd := fwd1, bwd := bwd1 } ∧
      ∀ l r, Rel R fwd1 l r ↔ (Rel R m.fwd l r ∧ ¬ (l = left ∧ r = right)) := by
  obtain ⟨wf1, hl, rel1⟩ := LR.rem_spec hm.wfF h1
  obtain ⟨wfb1, hr, relb1⟩ := LL.rem_spec hm.wfB h2
  refine ⟨by unfold TwoWayMap.remove; simp only [h1, h2], ⟨wf1, wfb1, ?_⟩, rel1⟩
  intro l r
  rw [rel1 l r, relb1 r l, hm.inv l r]
  constructor
  · rintro ⟨h, hn⟩; exact ⟨h, fun ⟨e1, e2⟩ => hn ⟨e2, e1⟩⟩
  · rintro ⟨h, hn⟩; exact ⟨h, fun ⟨e1, e2⟩ => hn ⟨e2, e1⟩⟩

theorem TwoWayMap.remove_wf (LL : Lawful L hβ hα wfL) (LR : Lawful R hα hβ wfR)
    {m : TwoWayMap α β σL σR} (hm : m.WF L R wfL wfR) (left : α) (right : β) :
    (m.remove L R left right).1.WF L R wfL wfR := by
  unfold TwoWayMap.remove
  cases h1 : R.removeItem m.fwd left right with
  | error e => exact hm
  | ok fwd1 =>
    obtain ⟨wf1, hl, rel1⟩ := LR.rem_spec hm.wfF h1
    simp only
    cases h2 : L.removeItem m.bwd right left with
    | error e =>
      simp only
      -- the left bin raised: `right` is unhashable, so it was never stored and the pair was not
      -- in `_fwd` either: the first removal changed nothing
      have hnr : ¬ Rel R m.fwd left right := by
        intro hr
        have hb := LL.key_hashable hm.wfB ((hm.inv left right).mp hr)
        obtain ⟨d', hd'⟩ := LL.rem_total (d := m.bwd) (k := right) (v := left) hb hl
        rw [hd'] at h2
        injection h2
      refine ⟨wf1, hm.wfB, ?_⟩
      intro l r
      rw [rel1 l r, ← hm.inv l r]
      constructor
      · exact fun h => h.1
      · intro h
        refine ⟨h, ?_⟩
        rintro ⟨rfl, rfl⟩
        exact hnr h
    | ok bwd1 => exact (TwoWayMap.remove_ok LL LR hm h1 h2).2.1

/-- the loop `for x in removed: bin.remove_item(mapping, x, other)` -/
theorem removeItems_spec {κ γ σ : Type} [DecidableEq κ] {B : BinOps κ γ σ} {hk : κ → Bool}
    {hv : γ → Bool} {wf : Dict κ σ → Prop} (LB : Lawful B hk hv wf) (other : γ)
    (hvo : hv other = true) :
    ∀ (xs : List κ) (d : Dict κ σ), wf d → (∀ x ∈ xs, hk x = true) →
      ∃ d', removeItems B other xs d = (d', none) ∧ wf d' ∧
        ∀ k y, Rel B d' k y ↔ (Rel B d k y ∧ ¬ (k ∈ xs ∧ y = other)) := by
  intro xs
  induction xs with
  | nil => intro d hw _; exact ⟨d, rfl, hw, by intro k y; simp⟩
  | cons x xs ih =>
    intro d hw hh
    obtain ⟨d1, hd1⟩ := LB.rem_total (d := d) (k := x) (v := other) (hh x (by simp)) hvo
    obtain ⟨w1, _, rl1⟩ := LB.rem_spec hw hd1
    obtain ⟨d', hd', w', rl'⟩ := ih d1 w1 (fun y hy => hh y (by simp [hy]))
    refine ⟨d', by simp [removeItems, hd1, hd'], w', ?_⟩
    intro k y
    rw [rl' k y, rl1 k y]
    constructor
    · rintro ⟨⟨h, hn1⟩, hn2⟩
      refine ⟨h, ?_⟩
      rintro ⟨hk', rfl⟩
      rcases List.mem_cons.mp hk' with e | e
      · exact hn1 ⟨e, rfl⟩
      · exact hn2 ⟨e, rfl⟩
    · rintro ⟨h, hn⟩
      exact ⟨⟨h, fun ⟨e1, e2⟩ => hn ⟨by simp [e1], e2⟩⟩, fun ⟨e1, e2⟩ => hn ⟨by simp [e1], e2⟩⟩

theorem TwoWayMap.removeLeft_wf (LL : Lawful L hβ hα wfL) (LR : Lawful R hα hβ wfR)
    {m : TwoWayMap α β σL σR} (hm : m.WF L R wfL wfR) (left : α) :
    (m.removeLeft L R left).1.WF L R wfL wfR := by
  unfold TwoWayMap.removeLeft
  cases h1 : R.removeKey m.fwd left with
  | error e => exact hm
  | ok r1 =>
    obtain ⟨xs, fwd1⟩ := r1
    obtain ⟨wf1, hxs, rel1⟩ := LR.remKey_spec hm.wfF h1
    simp only
    by_cases hnil : xs = []
    · subst hnil
      simp only [removeItems]
      refine ⟨wf1, hm.wfB, ?_⟩
      intro l r
      rw [rel1 l r, ← hm.inv l r]
      constructor
      · exact fun h => h.1
      · intro h
        refine ⟨h, ?_⟩
        rintro rfl
        have := (hxs r).mpr h
        simp at this
    · obtain ⟨x0, hx0⟩ := List.exists_mem_of_ne_nil xs hnil
      have hl : hα left = true := LR.key_hashable hm.wfF ((hxs x0).mp hx0)
      have hh : ∀ x ∈ xs, hβ x = true := fun x hx =>
        LL.key_hashable hm.wfB ((hm.inv left x).mp ((hxs x).mp hx))
      obtain ⟨bwd1, hb1, wb1, relb1⟩ := removeItems_spec LL left hl xs m.bwd hm.wfB hh
      rw [hb1]
      refine ⟨wf1, wb1, ?_⟩
      intro l r
      rw [rel1 l r, relb1 r l, ← hm.inv l r]
      constructor
      · rintro ⟨h, hn⟩; exact ⟨h, fun ⟨_, e⟩ => hn e⟩
      · rintro ⟨h, hn⟩
        refine ⟨h, ?_⟩
        rintro rfl
        exact hn ⟨(hxs r).mpr h, rfl⟩

def TwoWayMap.swap (m : TwoWayMap α β σL σR) : TwoWayMap β α σR σL := { fwd := m.bwd, bwd := m.fwd }

theorem TwoWayMap.WF.swap {m : TwoWayMap α β σL σR} (hm : m.WF L R wfL wfR) :
    m.swap.WF R L wfR wfL :=
  ⟨hm.wfB, hm.wfF, fun r l => (hm.inv l r).symm⟩

omit [DecidableEq α] [DecidableEq β] in
theorem TwoWayMap.removeRight_eq_swap (m : TwoWayMap α β σL σR) (right : β) :
    (m.removeRight L R right).1 = (m.swap.removeLeft R L right).1.swap := by
  unfold TwoWayMap.removeRight TwoWayMap.removeLeft TwoWayMap.swap
  cases L.removeKey m.bwd right <;> rfl

theorem TwoWayMap.removeRight_wf (LL : Lawful L hβ hα wfL) (LR : Lawful R hα hβ wfR)
    {m : TwoWayMap α β σL σR} (hm : m.WF L R wfL wfR) (right : β) :
    (m.removeRight L R right).1.WF L R wfL wfR := by
  rw [TwoWayMap.removeRight_eq_swap]
  exact (TwoWayMap.removeLeft_wf LR LL hm.swap right).swap

theorem TwoWayMap.apply_wf (LL : Lawful L hβ hα wfL) (LR : Lawful R hα hβ wfR)
    {m : TwoWayMap α β σL σR} (hm : m.WF L R wfL wfR) (op : Op α β) :
    (m.apply L R op).1.WF L R wfL wfR := by
  cases op with
  | insert l r => exact TwoWayMap.insert_wf LL LR hm l r
  | remove l r => exact TwoWayMap.remove_wf LL LR hm l r
  | removeLeft l => exact TwoWayMap.removeLeft_wf LL LR hm l
  | removeRight r => exact TwoWayMap.removeRight_wf LL LR hm r
  | clear => exact TwoWayMap.wf_empty LL LR

theorem TwoWayMap.run_wf (LL : Lawful L hβ hα wfL) (LR : Lawful R hα hβ wfR) :
    ∀ (ops : List (Op α β)) {m : TwoWayMap α β σL σR}, m.WF L R wfL wfR →
      (m.run L R ops).WF L R wfL wfR := by
  intro ops
  induction ops with
  | nil => intro m hm; exact hm
  | cons op ops ih => intro m hm; exact ih (TwoWayMap.apply_wf LL LR hm op)

end twm

/-! ### the lookup index: `TwoWayMap(left=LookupSet, right=...)` -/
section index

def wfLeft : Dict LKey (LSet Nat) → Prop := wfC lookupSetC LKey.hashable

theorem lawful_left : Lawful leftOps LKey.hashable rowHashable wfLeft :=
  lawful_container lookupSetC LKey.hashable rowHashable lawfulC_lookupSet

theorem lawful_simpleRight : Lawful simpleRight rowHashable LKey.hashable (wfSingle rowHashable) :=
  lawful_single rowHashable LKey.hashable

theorem lawful_containsRight :
    Lawful containsRight rowHashable LKey.hashable (wfC setC rowHashable) :=
  lawful_container setC rowHashable LKey.hashable lawfulC_set

/-- How an operation may change the LookupSets: every key's set is either untouched (same elements,
    same cache) or has an empty `sorted_versions` afterwards. -/
def CacheRel (d d' : Dict LKey (LSet Nat)) : Prop :=
  ∀ K, dget K d' = dget K d ∨ ∀ S, dget K d' = some S → S.sorted = []

theorem CacheRel.refl (d : Dict LKey (LSet Nat)) : CacheRel d d := fun _ => Or.inl rfl

theorem CacheRel.trans {a b c : Dict LKey (LSet Nat)} (h1 : CacheRel a b) (h2 : CacheRel b c) :
    CacheRel a c := by
  intro K
  rcases h2 K with e | e
  · rcases h1 K with f | f
    · exact Or.inl (e.trans f)
    · right
      intro S hS
      rw [e] at hS
      exact f S hS
  · exact Or.inr e

theorem CacheRel.dset {d : Dict LKey (LSet Nat)} (key : LKey) {S : LSet Nat}
    (h : S.sorted = [] ∨ dget key d = some S) : CacheRel d (dset key S d) := by
  intro K
  rw [dget_dset]
  by_cases e : K = key
  · rcases h with h | h
    · right
      intro S' hS
      simp [e] at hS
      rw [← hS]
      exact h
    · left
      simp [e, h]
  · left
    simp [e]

theorem CacheRel.ddel (d : Dict LKey (LSet Nat)) (key : LKey) : CacheRel d (ddel key d) := by
  intro K
  rw [dget_ddel]
  by_cases e : K = key
  · right
    intro S hS
    simp [e] at hS
  · left
    simp [e]

theorem left_add_cache {d d' : Dict LKey (LSet Nat)} {key : LKey} {row : Nat} {rem la : Option Nat}
    (h : leftOps.addItem d key row = .ok (rem, la, d')) : CacheRel d d' := by
  simp only [leftOps, containerOps, lookupSetC, rowHashable] at h
  split at h
  next =>
    split at h
    next =>
      cases h
      exact CacheRel.dset key (Or.inl rfl)
    next stored hg =>
      simp only [Bool.not_true, Bool.and_false, Bool.false_eq_true, if_false] at h
      split at h
      next c hc =>
        cases h
        split at hc
        next => cases hc
        next =>
          cases hc
          exact CacheRel.dset key (Or.inl rfl)
      next =>
        cases h
        exact CacheRel.refl d
  next => cases h

theorem left_add_unhashable (d : Dict LKey (LSet Nat)) {key : LKey} (row : Nat)
    (hk : key.hashable = false) : leftOps.addItem d key row = .error .typeError := by
  simp [leftOps, containerOps, hk]

theorem left_remove_cache {d d' : Dict LKey (LSet Nat)} {key : LKey} {row : Nat}
    (h : leftOps.removeItem d key row = .ok d') : CacheRel d d' := by
  simp only [leftOps, containerOps, lookupSetC, rowHashable] at h
  by_cases hk : key.hashable = true
  · simp only [hk, if_true] at h
    cases hg : dget key d with
    | none => simp [hg] at h; subst h; exact CacheRel.refl d
    | some stored =>
      simp only [hg, Bool.not_true, Bool.and_false, Bool.false_eq_true, if_false] at h
      by_cases hm : row ∈ stored.elems <;> simp only [hm, if_true, if_false] at h <;>
        split at h <;> injection h with h <;> subst h
      · exact CacheRel.ddel d key
      · exact CacheRel.dset key (Or.inl rfl)
      · exact CacheRel.ddel d key
      · exact CacheRel.dset key (Or.inr hg)
  · simp [hk] at h

theorem left_removeIfSome_cache {d d' : Dict LKey (LSet Nat)} {rr : Option LKey} {row : Nat}
    (h : leftOps.removeIfSome d rr row = .ok d') : CacheRel d d' := by
  cases rr with
  | none => simp [BinOps.removeIfSome] at h; subst h; exact CacheRel.refl d
  | some x => exact left_remove_cache h

variable {σR : Type} {R : BinOps Nat LKey σR} {wfR : Dict Nat σR → Prop}

abbrev Good (R : BinOps Nat LKey σR) (wfR : Dict Nat σR → Prop) (m : Index σR) : Prop :=
  TwoWayMap.WF leftOps R wfLeft wfR m

theorem good_empty (LR : Lawful R rowHashable LKey.hashable wfR) : Good R wfR ({} : Index σR) :=
  TwoWayMap.wf_empty lawful_left LR

theorem Good.key_hashable {m : Index σR}
    (hm : Good R wfR m) {row : Nat} {key : LKey} (h : Rel R m.fwd row key) : key.hashable = true :=
  lawful_left.key_hashable hm.wfB ((hm.inv row key).mp h)

theorem ix_insert_ok (LR : Lawful R rowHashable LKey.hashable wfR) {m : Index σR}
    (hm : Good R wfR m) {row : Nat} {key : LKey} (hk : key.hashable = true)
    {rr ra : Option LKey} {fwd1 : Dict Nat σR}
    (h1 : R.addItem m.fwd row key = .ok (rr, ra, fwd1)) :
    ∃ m', m.insert leftOps R row key = (m', none) ∧ Good R wfR m' ∧ CacheRel m.bwd m'.bwd ∧
      ∀ l r, Rel R m'.fwd l r ↔
        ((l = row ∧ r = key) ∨ (Rel R m.fwd l r ∧ ¬ (l = row ∧ rr = some r))) := by
  obtain ⟨la, bwd1, h2⟩ := container_add_total lookupSetC LKey.hashable rowHashable m.bwd (v := row) hk rfl
  obtain ⟨fwd2, bwd2, he, hw, hrem, hrel⟩ := TwoWayMap.insert_ok lawful_left LR hm h1 h2
  refine ⟨_, he, hw, (left_add_cache h2).trans (left_removeIfSome_cache hrem), ?_⟩
  intro l r
  rw [hrel l r]
  -- `left_add_total` gives a literal `none`
  simp

theorem ix_insert_err (LR : Lawful R rowHashable LKey.hashable wfR) {m : Index σR}
    (hm : Good R wfR m) {row : Nat} {key : LKey} (hk : key.hashable = false)
    {rr ra : Option LKey} {fwd1 : Dict Nat σR}
    (h1 : R.addItem m.fwd row key = .ok (rr, ra, fwd1)) :
    ∃ m', m.insert leftOps R row key = (m', some .typeError) ∧ Good R wfR m' ∧ m'.bwd = m.bwd ∧
      ∀ l r, Rel R m'.fwd l r ↔ Rel R m.fwd l r := by
  obtain ⟨fwd2, he, hw, hrel⟩ :=
    TwoWayMap.insert_err LR hm h1 (left_add_unhashable m.bwd row hk)
  exact ⟨_, he, hw, rfl, hrel⟩

theorem ix_remove (LR : Lawful R rowHashable LKey.hashable wfR) {m : Index σR}
    (hm : Good R wfR m) (row : Nat) {key : LKey} (hk : key.hashable = true) :
    ∃ m', m.remove leftOps R row key = (m', none) ∧ Good R wfR m' ∧ CacheRel m.bwd m'.bwd ∧
      ∀ l r, Rel R m'.fwd l r ↔ (Rel R m.fwd l r ∧ ¬ (l = row ∧ r = key)) := by
  obtain ⟨fwd1, h1⟩ := LR.rem_total (d := m.fwd) (k := row) (v := key) rfl hk
  obtain ⟨bwd1, h2⟩ := lawful_left.rem_total (d := m.bwd) (k := key) (v := row) hk rfl
  obtain ⟨he, hw, hrel⟩ := TwoWayMap.remove_ok lawful_left LR hm h1 h2
  exact ⟨_, he, hw, left_remove_cache h2, hrel⟩

/-- `for old_key in keys: self._row_key_map.remove(row_id, old_key)` -/
theorem removeAll_spec (LR : Lawful R rowHashable LKey.hashable wfR) (row : Nat) :
    ∀ (ks : List LKey) {m : Index σR}, Good R wfR m → (∀ k ∈ ks, k.hashable = true) →
      Good R wfR (removeAll R m row ks) ∧ CacheRel m.bwd (removeAll R m row ks).bwd ∧
      ∀ l r, Rel R (removeAll R m row ks).fwd l r ↔ (Rel R m.fwd l r ∧ ¬ (l = row ∧ r ∈ ks)) := by
  intro ks
  induction ks with
  | nil => intro m hm _; exact ⟨hm, CacheRel.refl _, by intro l r; simp [removeAll]⟩
  | cons k ks ih =>
    intro m hm hh
    obtain ⟨m1, he, hw, hc, hrel⟩ := ix_remove LR hm row (hh k (by simp))
    obtain ⟨g, c, rl⟩ := ih hw (fun x hx => hh x (by simp [hx]))
    simp only [removeAll, he]
    refine ⟨g, hc.trans c, ?_⟩
    intro l r
    rw [rl l r, hrel l r]
    constructor
    · rintro ⟨⟨h, n1⟩, n2⟩
      refine ⟨h, ?_⟩
      rintro ⟨e1, e2⟩
      rcases List.mem_cons.mp e2 with e | e
      · exact n1 ⟨e1, e⟩
      · exact n2 ⟨e1, e⟩
    · rintro ⟨h, n⟩
      exact ⟨⟨h, fun ⟨e1, e2⟩ => n ⟨e1, by simp [e2]⟩⟩, fun ⟨e1, e2⟩ => n ⟨e1, by simp [e2]⟩⟩

end index

section simple

abbrev GoodS (m : Index LKey) : Prop := Good simpleRight (wfSingle rowHashable) m

theorem rel_simpleRight (d : Dict Nat LKey) (k : Nat) (x : LKey) :
    Rel simpleRight d k x ↔ dget k d = some x := rel_single rowHashable d k x

theorem simple_add_total (d : Dict Nat LKey) (row : Nat) (key : LKey) :
    ∃ rr ra d', simpleRight.addItem d row key = .ok (rr, ra, d') := by
  simp only [simpleRight, singleOps, rowHashable, if_true]
  cases dget row d with
  | none => exact ⟨_, _, _, rfl⟩
  | some stored => by_cases e : stored = key <;> simp [e]

/-- the key a row is to be stored under: its key tuple when that is hashable -/
def simpleTarget (cells : List Cell) : Option LKey :=
  if (simpleNewKey cells).hashable then some (simpleNewKey cells) else none

theorem simpleUpdate_spec {m : Index LKey} (hm : GoodS m) (row : Nat) (cells : List Cell) :
    GoodS (simpleUpdate m row cells).1 ∧ CacheRel m.bwd (simpleUpdate m row cells).1.bwd ∧
    ∀ r', dget r' (simpleUpdate m row cells).1.fwd =
      if r' = row then simpleTarget cells else dget r' m.fwd := by
  unfold simpleUpdate
  by_cases hsame : dget row m.fwd = some (simpleNewKey cells)
  · -- `new_key == old_key`
    simp only [hsame, if_true]
    refine ⟨hm, CacheRel.refl _, ?_⟩
    intro r'
    by_cases e : r' = row
    · subst e
      have hh := Good.key_hashable hm ((rel_simpleRight _ _ _).mpr hsame)
      simp [simpleTarget, hh, hsame]
    · simp [e]
  · simp only [hsame, if_false]
    obtain ⟨rr, ra, fwd1, h1⟩ := simple_add_total m.fwd row (simpleNewKey cells)
    by_cases hk : (simpleNewKey cells).hashable = true
    · obtain ⟨m1, he, hw, hc, hrel⟩ := ix_insert_ok lawful_simpleRight hm hk h1
      rw [he]
      refine ⟨hw, hc, ?_⟩
      intro r'
      by_cases e : r' = row
      · subst e
        simp only [if_true, simpleTarget, hk]
        exact (rel_simpleRight _ _ _).mp ((hrel r' _).mpr (Or.inl ⟨rfl, rfl⟩))
      · simp only [e, if_false]
        apply Option.ext
        intro x
        rw [← rel_simpleRight, ← rel_simpleRight, hrel r' x]
        simp [e]
    · -- unhashable new key: TypeError, rollback, then removal from under the old key
      have hk' : (simpleNewKey cells).hashable = false := by simpa using hk
      obtain ⟨m1, he, hw, hb, hrel⟩ := ix_insert_err lawful_simpleRight hm hk' h1
      rw [he]
      have hfwd : ∀ r', dget r' m1.fwd = dget r' m.fwd := by
        intro r'
        apply Option.ext
        intro x
        rw [← rel_simpleRight, ← rel_simpleRight, hrel r' x]
      cases hold : dget row m.fwd with
      | none =>
        simp only
        refine ⟨hw, by rw [hb]; exact CacheRel.refl _, ?_⟩
        intro r'
        by_cases e : r' = row
        · subst e
          simp [simpleTarget, hk', hfwd, hold]
        · simp [e, hfwd]
      | some oldKey =>
        simp only
        have hok : oldKey.hashable = true :=
          Good.key_hashable hm ((rel_simpleRight _ _ _).mpr hold)
        obtain ⟨m2, he2, hw2, hc2, hrel2⟩ := ix_remove lawful_simpleRight hw row hok
        rw [he2]
        refine ⟨hw2, by rw [← hb]; exact hc2, ?_⟩
        intro r'
        by_cases e : r' = row
        · subst e
          simp only [if_true, simpleTarget, hk', Bool.false_eq_true, if_false]
          cases hg : dget r' m2.fwd with
          | none => rfl
          | some x =>
            have := (hrel2 r' x).mp ((rel_simpleRight _ _ _).mpr hg)
            have hx : dget r' m1.fwd = some x := (rel_simpleRight _ _ _).mp this.1
            rw [hfwd, hold] at hx
            injection hx with hx
            exact absurd ⟨rfl, hx.symm⟩ this.2
        · simp only [e, if_false]
          rw [← hfwd r']
          apply Option.ext
          intro x
          rw [← rel_simpleRight, ← rel_simpleRight, hrel2 r' x]
          simp [e]

end simple

/-- row `r` is in the LookupSet stored under key `K` -/
def inSet {σR : Type} (m : Index σR) (K : LKey) (r : Nat) : Prop := Rel leftOps m.bwd K r

theorem inSet_iff {σR : Type} (m : Index σR) (K : LKey) (r : Nat) :
    inSet m K r ↔ ∃ S, dget K m.bwd = some S ∧ r ∈ S.elems := Iff.rfl

section mapping
variable {σR : Type} {R : BinOps Nat LKey σR} {wfR : Dict Nat σR → Prop}

theorem inSet_of_fwd {m m' : Index σR} (hm : Good R wfR m) (g : Good R wfR m') {row : Nat}
    {Q : LKey → Prop}
    (f : ∀ l r, Rel R m'.fwd l r ↔ if l = row then Q r else Rel R m.fwd l r) (K : LKey) (r : Nat) :
    inSet m' K r ↔ if r = row then Q K else inSet m K r := by
  unfold inSet
  rw [← g.inv r K, f r K, hm.inv r K]

/-- `remove_row_id` -/
theorem removeRow_spec (LR : Lawful R rowHashable LKey.hashable wfR) {m : Index σR}
    (hm : Good R wfR m) (row : Nat) {ks : List LKey} (hks : ∀ K, K ∈ ks ↔ Rel R m.fwd row K) :
    Good R wfR (removeAll R m row ks) ∧ CacheRel m.bwd (removeAll R m row ks).bwd ∧
    ∀ K r, inSet (removeAll R m row ks) K r ↔ (r ≠ row ∧ inSet m K r) := by
  obtain ⟨g, c, rl⟩ := removeAll_spec LR row ks hm
    (fun k hk => Good.key_hashable hm ((hks k).mp hk))
  refine ⟨g, c, fun K r => ?_⟩
  unfold inSet
  rw [← g.inv r K, rl r K, ← hm.inv r K]
  constructor
  · rintro ⟨h, n⟩
    refine ⟨?_, h⟩
    rintro rfl
    exact n ⟨rfl, (hks K).mpr h⟩
  · rintro ⟨n, h⟩; exact ⟨h, fun ⟨e, _⟩ => n e⟩

end mapping

/-- What LookupMapColumn needs from its mapping.  `keyOf cells K` = "a row with these key cells
    belongs under key K". -/
structure LawfulMapping {σR : Type} (M : Mapping σR) (wfR : Dict Nat σR → Prop)
    (keyOf : List Cell → LKey → Prop) : Prop where
  right_lawful : Lawful M.right rowHashable LKey.hashable wfR
  update_spec : ∀ {m : Index σR} (row : Nat) (cells : List Cell), Good M.right wfR m →
    Good M.right wfR (M.update m row cells).1 ∧ CacheRel m.bwd (M.update m row cells).1.bwd ∧
    ∀ K r, inSet (M.update m row cells).1 K r ↔ (if r = row then keyOf cells K else inSet m K r)
  remove_spec : ∀ {m : Index σR} (row : Nat), Good M.right wfR m →
    Good M.right wfR (M.removeRowId m row).1 ∧ CacheRel m.bwd (M.removeRowId m row).1.bwd ∧
    ∀ K r, inSet (M.removeRowId m row).1 K r ↔ (r ≠ row ∧ inSet m K r)
  newKeys_spec : ∀ {cells : List Cell} {ks : List LKey}, M.newKeys cells = .ok ks →
    ∀ K, K ∈ ks ↔ keyOf cells K
  newKeys_err : ∀ {cells : List Cell} {e : Err}, M.newKeys cells = .error e → ∀ K, ¬ keyOf cells K

/-- SimpleLookupMapping: the row is under its (normalised) key tuple, if that is hashable -/
def simpleKeyOf (cells : List Cell) (K : LKey) : Prop := simpleTarget cells = some K

theorem lawful_simpleMapping : LawfulMapping simpleMapping (wfSingle rowHashable) simpleKeyOf where
  right_lawful := lawful_simpleRight
  update_spec := by
    intro m row cells hm
    obtain ⟨g, c, f⟩ := simpleUpdate_spec hm row cells
    refine ⟨g, c, inSet_of_fwd hm g fun l r => ?_⟩
    show Rel simpleRight _ l r ↔ if l = row then _ else Rel simpleRight _ l r
    rw [rel_simpleRight, f l, rel_simpleRight]
    split <;> exact Iff.rfl
  remove_spec := fun row hm =>
    removeRow_spec lawful_simpleRight hm row fun K => by
      rw [rel_simpleRight]
      exact Option.mem_toList
  newKeys_spec := by
    intro cells ks h K
    simp only [simpleMapping] at h
    by_cases hk : (simpleNewKey cells).hashable = true
    · simp only [hk, if_true] at h
      injection h with h
      subst h
      simp [simpleKeyOf, simpleTarget, hk]
      exact eq_comm
    · simp [hk] at h
  newKeys_err := by
    intro cells e h K
    simp only [simpleMapping] at h
    by_cases hk : (simpleNewKey cells).hashable = true
    · simp [hk] at h
    · simp [simpleKeyOf, simpleTarget, hk]

end Grist.Lookup
