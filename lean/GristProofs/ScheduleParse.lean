/-
The error class of the parser of GristModel/Schedule.lean (C35).  If every numeric field of the string
is at most 10^7 (`SmallNumbers`), the offset of a slot stays within `seenBound`, no `timedelta`
overflows, and every rejection is a recogniser's `ValueError`.  `SmallNumbers` is decidable, so for a
given string the hypothesis is discharged by evaluation.
-/
import GristModel.Schedule
namespace Grist.Schedule

/-- bound on the numeric fields of a schedule string under which no timedelta can overflow -/
def numBound : Int := 10000000

/-- every numeric field the recognisers extract from the slot parts is at most `numBound` -/
def SmallParts (unit : TUnit) (parts : List (List Char)) : Prop :=
  ∀ part ∈ parts, ∀ items, classifyPart unit part = .ok items →
    ∀ it ∈ items, -numBound ≤ it.1 ∧ it.1 ≤ numBound

/-- the numeric fields of a schedule string, as the recognisers see them, are all small -/
def SmallNumbers (spec : List Char) : Prop :=
  ∀ a b, splitColon spec = some (a, b) → ∀ n unit, parseInterval (strip a) = .ok (n, unit) →
    (n : Int) ≤ numBound ∧ ∀ slot ∈ splitOn ',' b, SmallParts unit (words slot)

/-- A statement about the value of a successful result is decided by looking at the result. -/
@[reducible] def decideOk {ε α : Type} (x : Except ε α) (Q : α → Prop) [∀ a, Decidable (Q a)] :
    Decidable (∀ a, x = .ok a → Q a) :=
  match x with
  | .ok a => decidable_of_iff (Q a) ⟨fun h _ e => Except.ok.inj e ▸ h, fun h => h a rfl⟩
  | .error _ => isTrue nofun

@[reducible] def decideSome {α : Type} (x : Option α) (Q : α → Prop) [∀ a, Decidable (Q a)] :
    Decidable (∀ a, x = some a → Q a) :=
  match x with
  | some a => decidable_of_iff (Q a) ⟨fun h _ e => Option.some.inj e ▸ h, fun h => h a rfl⟩
  | none => isTrue nofun

attribute [local instance] decideOk decideSome

instance (unit : TUnit) (parts : List (List Char)) : Decidable (SmallParts unit parts) := by
  unfold SmallParts
  infer_instance

/-- `SmallNumbers`, the hypothesis of `parse_error_value_partial`, can be evaluated for a given string. -/
instance (spec : List Char) : Decidable (SmallNumbers spec) :=
  decidable_of_iff (∀ p, splitColon spec = some p → ∀ q, parseInterval (strip p.1) = .ok q →
      (q.1 : Int) ≤ numBound ∧ ∀ slot ∈ splitOn ',' p.2, SmallParts q.2 (words slot))
    ⟨fun h a b e n u e' => h (a, b) e (n, u) e', fun h p e q e' => h p.1 p.2 e q.1 q.2 e'⟩

def unitBound (u : TUnit) : Int := numBound * u.us

/-- total of the per-unit bounds of the units already used in a slot -/
def seenBound (seen : List TUnit) : Int :=
  (if TUnit.weeks ∈ seen then unitBound .weeks else 0) +
  (if TUnit.days ∈ seen then unitBound .days else 0) +
  (if TUnit.hours ∈ seen then unitBound .hours else 0) +
  (if TUnit.minutes ∈ seen then unitBound .minutes else 0) +
  (if TUnit.seconds ∈ seen then unitBound .seconds else 0)

theorem ite_bounds (c : Prop) [Decidable c] (x : Int) (hx : 0 ≤ x) :
    0 ≤ (if c then x else 0) ∧ (if c then x else 0) ≤ x := by
  split <;> omega

theorem seenBound_le (seen : List TUnit) : 0 ≤ seenBound seen ∧ seenBound seen ≤ 6948610000000000000 := by
  have h1 := ite_bounds (TUnit.weeks ∈ seen) (unitBound .weeks) (by decide)
  have h2 := ite_bounds (TUnit.days ∈ seen) (unitBound .days) (by decide)
  have h3 := ite_bounds (TUnit.hours ∈ seen) (unitBound .hours) (by decide)
  have h4 := ite_bounds (TUnit.minutes ∈ seen) (unitBound .minutes) (by decide)
  have h5 := ite_bounds (TUnit.seconds ∈ seen) (unitBound .seconds) (by decide)
  have e1 : unitBound .weeks = 6048000000000000000 := by decide
  have e2 : unitBound .days = 864000000000000000 := by decide
  have e3 : unitBound .hours = 36000000000000000 := by decide
  have e4 : unitBound .minutes = 600000000000000 := by decide
  have e5 : unitBound .seconds = 10000000000000 := by decide
  unfold seenBound
  omega

theorem seenBound_cons (seen : List TUnit) (u : TUnit) (h : u ∉ seen) :
    seenBound (u :: seen) = seenBound seen + unitBound u := by
  cases u <;> simp [seenBound, h, unitBound, TUnit.us]
  all_goals omega

theorem tdOk_of_small (t : Int) (h : -20000000000000000000 ≤ t ∧ t ≤ 20000000000000000000) : tdOk t = true := by
  unfold tdOk usDay
  simp only [Bool.and_eq_true, decide_eq_true_eq]
  omega

theorem addInterval_ok (δ : Delta) (n : Int) (u : TUnit) (hu : u ≠ .years ∧ u ≠ .months)
    (h1 : tdOk (n * u.us) = true) (h2 : tdOk (δ.us + n * u.us) = true) :
    δ.addInterval n u = .ok { δ with us := δ.us + n * u.us } := by
  obtain ⟨hy, hm⟩ := hu
  cases u
  · exact absurd rfl hy
  · exact absurd rfl hm
  all_goals simp only [Delta.addInterval, h1, h2, Bool.not_true, Bool.false_eq_true, if_false]

theorem unit_us_range (u : TUnit) : 0 ≤ u.us ∧ unitBound u ≤ 6048000000000000000 := by
  cases u <;> decide

theorem mul_us_bound (n : Int) (u : TUnit) (hn : -numBound ≤ n ∧ n ≤ numBound) :
    -(unitBound u) ≤ n * u.us ∧ n * u.us ≤ unitBound u := by
  have h0 := (unit_us_range u).1
  have h1 := Int.mul_le_mul_of_nonneg_right hn.2 h0
  have h2 := Int.mul_le_mul_of_nonneg_right hn.1 h0
  rw [Int.neg_mul] at h2
  exact ⟨h2, h1⟩

theorem addInterval_small (δ : Delta) (n : Int) (u : TUnit)
    (hn : -numBound ≤ n ∧ n ≤ numBound)
    (hδ : -6948610000000000000 ≤ δ.us ∧ δ.us ≤ 6948610000000000000) :
    ∃ δ', δ.addInterval n u = .ok δ' ∧ δ'.us = δ.us + n * u.us := by
  have hb := mul_us_bound n u hn
  have hr := (unit_us_range u).2
  by_cases hu : u ≠ .years ∧ u ≠ .months
  · exact ⟨_, addInterval_ok δ n u hu (tdOk_of_small _ (by omega)) (tdOk_of_small _ (by omega)), rfl⟩
  · cases u
    case years => exact ⟨_, rfl, by simp [TUnit.us]⟩
    case months => exact ⟨_, rfl, by simp [TUnit.us]⟩
    all_goals exact absurd ⟨by decide, by decide⟩ hu
/-- the accumulated timedelta stays inside the per-unit bounds; the only possible error is the
    duplicate-unit ValueError -/
theorem addItems_small : ∀ (items : List (Int × TUnit)) (δ : Delta) (seen : List TUnit),
    (∀ it ∈ items, -numBound ≤ it.1 ∧ it.1 ≤ numBound) →
    (-(seenBound seen) ≤ δ.us ∧ δ.us ≤ seenBound seen) →
    (∀ e, addItems items (δ, seen) = .error e → e = .value) ∧
    (∀ δ' seen', addItems items (δ, seen) = .ok (δ', seen') →
      -(seenBound seen') ≤ δ'.us ∧ δ'.us ≤ seenBound seen') := by
  intro items
  induction items with
  | nil =>
    intro δ seen _ hinv
    constructor
    · intro e h
      simp [addItems] at h
    · intro δ' seen' h
      simp only [addItems, Except.ok.injEq, Prod.mk.injEq] at h
      rw [← h.1, ← h.2]
      exact hinv
  | cons it rest ih =>
    intro δ seen hsmall hinv
    obtain ⟨n, u⟩ := it
    have hn := hsmall (n, u) (by simp)
    have hrest : ∀ it ∈ rest, -numBound ≤ it.1 ∧ it.1 ≤ numBound :=
      fun it h => hsmall it (by simp [h])
    have hsb := seenBound_le seen
    obtain ⟨δ', hδ', hus⟩ := addInterval_small δ n u hn (by omega)
    simp only [addItems, hδ']
    by_cases hc : seen.contains u = true
    · simp only [hc, if_true]
      exact ⟨fun e h => by cases h; rfl, fun _ _ h => by cases h⟩
    · have hc' : seen.contains u = false := by simpa using hc
      simp only [hc', Bool.false_eq_true, if_false]
      refine ih δ' (u :: seen) hrest ?_
      rw [seenBound_cons seen u (by simpa using hc'), hus]
      have := mul_us_bound n u hn
      omega

theorem slotItems_error (m : SlotMatch) (e : Err) (h : slotItems m = .error e) : e = .value := by
  cases m <;> simp only [slotItems] at h
  all_goals first
    | cases h
    | (split at h <;> first | (cases h; done) | (cases h; rfl))

theorem classifyPart_error (unit : TUnit) (part : List Char) (e : Err)
    (h : classifyPart unit part = .error e) : e = .value := by
  unfold classifyPart at h
  split at h
  · cases h
    rfl
  · split at h
    · exact slotItems_error _ _ h
    · cases h
      rfl

theorem parseParts_small (unit : TUnit) : ∀ (parts : List (List Char)) (δ : Delta)
    (seen : List TUnit), SmallParts unit parts →
    (-(seenBound seen) ≤ δ.us ∧ δ.us ≤ seenBound seen) →
    ∀ e, parseParts unit parts (δ, seen) = .error e → e = .value := by
  intro parts
  induction parts with
  | nil =>
    intro δ seen _ _ e h
    simp [parseParts] at h
  | cons part rest ih =>
    intro δ seen hsmall hinv e h
    simp only [parseParts] at h
    cases hc : classifyPart unit part with
    | error e' =>
      rw [hc] at h
      cases h
      exact classifyPart_error _ _ _ hc
    | ok items =>
      rw [hc] at h
      simp only at h
      have hit := hsmall part (by simp) items hc
      obtain ⟨herr, hok⟩ := addItems_small items δ seen hit hinv
      cases ha : addItems items (δ, seen) with
      | error e' =>
        rw [ha] at h
        cases h
        exact herr _ ha
      | ok st' =>
        rw [ha] at h
        obtain ⟨δ', seen'⟩ := st'
        exact ih δ' seen' (fun p hp => hsmall p (by simp [hp])) (hok δ' seen' ha) e h

theorem parseSlot_small (unit : TUnit) (slot : List Char) (hs : SmallParts unit (words slot))
    (e : Err) (h : parseSlot unit slot = .error e) : e = .value := by
  unfold parseSlot at h
  split at h
  · cases h
    rfl
  · exact parseParts_small unit _ _ _ hs (by simp [seenBound]) e h

theorem parseSlots_small (unit : TUnit) : ∀ (slots : List (List Char)),
    (∀ slot ∈ slots, SmallParts unit (words slot)) →
    ∀ e, parseSlots unit slots = .error e → e = .value := by
  intro slots
  induction slots with
  | nil =>
    intro _ e h
    simp [parseSlots] at h
  | cons s rest ih =>
    intro hs e h
    simp only [parseSlots] at h
    cases h1 : parseSlot unit s with
    | error e' =>
      rw [h1] at h
      cases h
      exact parseSlot_small unit s (hs s (by simp)) _ h1
    | ok d =>
      rw [h1] at h
      cases h2 : parseSlots unit rest with
      | error e' =>
        rw [h2] at h
        cases h
        exact ih (fun x hx => hs x (by simp [hx])) _ h2
      | ok ds =>
        rw [h2] at h
        cases h

theorem parseInterval_error (s : List Char) (e : Err) (h : parseInterval s = .error e) :
    e = .value := by
  unfold parseInterval at h
  simp only at h
  repeat' split at h
  all_goals first | (cases h; done) | (cases h; rfl)

end Grist.Schedule
