/-
The closed C38 theorems compare generated data, which is `String` literals.  In the kernel every
operation on a literal (`++`, `=`, `length`, `toList`) first builds its UTF-8 byte array and works
on that: 2,000 to 19,000 heartbeats per character.  What is free is the kernel's own reading of a
literal, `"ab" ≡ String.ofList ['a', 'b']`.  So the data is READ as character lists (`All₂`, solved by
unification: the elaborator writes the lists, the kernel confirms each by that rule), the checks are
evaluated on character lists (`bodyC`, `ifaceC`, `defaultsAgreeC`), and `text_of_read` / `agree_of_read` /
`defaultsAgree_of_read` carry the result back to the model's `renderLines`, `agree` and `defaultsAgree`.
-/
import GristModel.SchemaGen
namespace Grist.SchemaGen

abbrev Chars := List Char

/-- table name, and per column its id and a type -/
abbrev SchemaC := List (Chars × List (Chars × Chars))

/-! ### reading -/

/-- Element-wise relation.  A goal `All₂ R as ?bs` with `as` concrete is solved, and `?bs` assigned, by
`repeat first | with_reducible constructor | constructor`.  `with_reducible` first, for the string goals
`IsLit "…" ?l`: there the literal meets `String.ofList ?l` as such; at default transparency the unifier
unfolds `String.ofList` and finds `?l` through the UTF-8 encoding, at twice the cost. -/
inductive All₂ {α β : Type} (R : α → β → Prop) : List α → List β → Prop
  | nil : All₂ R [] []
  | cons {a : α} {b : β} {as : List α} {bs : List β} : R a b → All₂ R as bs → All₂ R (a :: as) (b :: bs)

theorem All₂.map_eq {α β γ : Type} {R : α → β → Prop} {f : α → γ} {g : β → γ}
    (hR : ∀ a b, R a b → f a = g b) : ∀ {as : List α} {bs : List β}, All₂ R as bs → as.map f = bs.map g
  | _, _, .nil => rfl
  | _, _, .cons h t => by rw [List.map_cons, List.map_cons, hR _ _ h, map_eq hR t]

inductive IsLit : String → Chars → Prop
  | mk {l : Chars} : IsLit (.ofList l) l

inductive EntryIs : TsEntry → Chars × Chars → Prop
  | mk {a b : String} {i t : Chars} : IsLit a i → IsLit b t → EntryIs ⟨a, b⟩ (i, t)

inductive TableIs : TsTable → Chars × List (Chars × Chars) → Prop
  | mk {s : String} {n : Chars} {es : List TsEntry} {E : List (Chars × Chars)} :
    IsLit s n → All₂ EntryIs es E → TableIs ⟨s, es⟩ (n, E)

theorem lits_eq {ss : List String} {L : List Chars} (h : All₂ IsLit ss L) : ss = L.map .ofList :=
  (List.map_id ss).symm.trans (h.map_eq fun _ _ ⟨⟩ => rfl)

/-- what is known of a table that was read: any function of its name and entries can be computed
from the characters -/
theorem tables_map {γ : Type} (f : String → List (String × String) → γ) {ts : List TsTable} {S : SchemaC}
    (h : All₂ TableIs ts S) :
    ts.map (fun t => f t.tableId (t.entries.map fun e => (e.id, e.ty))) =
      S.map fun T => f (.ofList T.1) (T.2.map fun e => (.ofList e.1, .ofList e.2)) :=
  h.map_eq fun _ _ ⟨⟨⟩, he⟩ => congrArg (f _) (he.map_eq fun _ _ ⟨⟨⟩, ⟨⟩⟩ => rfl)

/-! ### the model on character lists -/

theorem pureType_ofList (t : Chars) : pureType (.ofList t) = .ofList (t.takeWhile (· != ':')) := by
  rw [pureType, String.toList_ofList]

def tsTypeOfC (t : Chars) : Chars :=
  ((tsTypes.map fun p => (p.1.toList, p.2.toList)).lookup (t.takeWhile (· != ':'))).getD "CellValue".toList

theorem lookup_toList (k : Chars) : ∀ tbl : List (String × String),
    (tbl.map fun p => (p.1.toList, p.2.toList)).lookup k = (tbl.lookup (.ofList k)).map String.toList
  | [] => rfl
  | (a, b) :: tbl => by
    have : (k == a.toList) = (String.ofList k == a) := by
      rw [Bool.eq_iff_iff, beq_iff_eq, beq_iff_eq, ← String.toList_inj, String.toList_ofList]
    simp only [List.map_cons, List.lookup_cons, this, lookup_toList k tbl]
    cases String.ofList k == a <;> rfl

theorem tsTypeOf_ofList (t : Chars) : tsTypeOf (.ofList t) = .ofList (tsTypeOfC t) := by
  rw [tsTypeOf, tsTypeOfC, pureType_ofList, lookup_toList]
  cases tsTypes.lookup _ <;> simp [String.ofList_toList]

theorem ljust20_ofList (i : Chars) :
    ljust20 (.ofList i) = .ofList (i ++ List.replicate (20 - i.length) ' ') := by
  rw [ljust20, String.length_ofList, String.ofList_append]

/-- `expectedIface` of a schema whose `expectedSchema` reads as `S` -/
def ifaceC (S : SchemaC) : SchemaC := S.map fun T => (T.1, T.2.map fun e => (e.1, tsTypeOfC e.2))

/-- `renderLines` from its 13th line on (after `export const schema = {` and the blank line).  The
appends are nested to the right so that evaluation passes each character once. -/
def bodyC (S : SchemaC) : List Chars :=
  (S.flatMap fun T =>
    ("  \"".toList ++ (T.1 ++ "\": {".toList)) ::
    (T.2.map fun e => "    ".toList ++ (e.1 ++ (List.replicate (20 - e.1.length) ' ' ++
      (": \"".toList ++ (e.2 ++ "\",".toList))))) ++
    ["  },".toList, []]) ++
  [ "};".toList, [], "export interface SchemaTypes {".toList, [] ] ++
  (S.flatMap fun T =>
    ("  \"".toList ++ (T.1 ++ "\": {".toList)) ::
    (T.2.map fun e => "    ".toList ++ (e.1 ++ (": ".toList ++ (tsTypeOfC e.2 ++ ";".toList)))) ++
    ["  };".toList, []]) ++
  [ "}".toList ]

theorem flatMap_read {f : String → List (String × String) → List String} {ts : List TsTable} {S : SchemaC}
    (h : All₂ TableIs ts S) :
    ts.flatMap (fun t => f t.tableId (t.entries.map fun e => (e.id, e.ty))) =
      S.flatMap fun T => f (.ofList T.1) (T.2.map fun e => (.ofList e.1, .ofList e.2)) := by
  rw [List.flatMap_def, tables_map f h, ← List.flatMap_def]

theorem renderLines_drop {p : PySchema} {S : SchemaC} (h : All₂ TableIs (expectedSchema p) S) :
    (renderLines p).drop 12 = (bodyC S).map .ofList := by
  have h1 := flatMap_read (f := fun n es => ["  \"" ++ n ++ "\": {"] ++
    (es.map fun e => "    " ++ ljust20 e.1 ++ ": \"" ++ e.2 ++ "\",") ++ ["  },", ""]) h
  have h2 := flatMap_read (f := fun n es => ["  \"" ++ n ++ "\": {"] ++
    (es.map fun e => "    " ++ e.1 ++ ": " ++ tsTypeOf e.2 ++ ";") ++ ["  };", ""]) h
  simp only [expectedSchema, List.flatMap_map, List.map_map, Function.comp_def] at h1 h2
  rw [renderLines, h1, h2]
  simp only [List.cons_append, List.nil_append, List.drop_succ_cons, List.drop_zero, List.append_assoc]
  simp only [bodyC, List.map_append, List.map_cons, List.map_nil, List.map_flatMap, List.map_map,
    Function.comp_def, String.ofList_append, String.ofList_toList, ljust20_ofList, tsTypeOf_ofList,
    String.append_assoc, List.cons_append, List.nil_append, List.append_assoc, String.ofList_nil]

/-! ### back to the model -/

theorem text_of_read {p : PySchema} {lines : List String} {S : SchemaC} {L : List Chars}
    (hS : All₂ TableIs (expectedSchema p) S) (hL : All₂ IsLit (lines.drop 12) L)
    (hdr : (renderLines p).take 12 = lines.take 12) (h : bodyC S ++ [[]] = L) :
    renderLines p ++ [""] = lines := by
  have := lits_eq hL
  rw [← h, List.map_append, ← renderLines_drop hS] at this
  rw [← List.take_append_drop 12 lines, this, ← hdr, ← List.append_assoc, List.take_append_drop]
  rfl

theorem agree_of_read {p : PySchema} {t : TsSchema} {S I : SchemaC}
    (hv : p.version = t.version) (hs : expectedSchema p = t.schema)
    (hS : All₂ TableIs t.schema S) (hI : All₂ TableIs t.iface I) (h : ifaceC S = I) :
    agree p t = true := by
  have e : expectedIface p = (expectedSchema p).map fun t =>
      ⟨t.tableId, t.entries.map fun e => ⟨e.id, tsTypeOf e.ty⟩⟩ := by
    simp [expectedIface, expectedSchema, Function.comp_def]
  have h1 := tables_map (fun n es => TsTable.mk n (es.map fun e => ⟨e.1, tsTypeOf e.2⟩)) hS
  have h2 := tables_map (fun n es => TsTable.mk n (es.map fun e => ⟨e.1, e.2⟩)) hI
  simp only [List.map_map, Function.comp_def, List.map_id'] at h1 h2
  simp [agree, hv, hs, e, h1, h2, ← h, ifaceC, tsTypeOf_ofList, Function.comp_def]

/-! ### the default tables -/

inductive DefaultIs : String × DefVal → Chars × DefVal → Prop
  | mk {s : String} {k : Chars} {v : DefVal} : IsLit s k → DefaultIs (s, v) (k, v)

theorem lookup_ofList (k : Chars) : ∀ T : List (Chars × DefVal),
    (T.map fun q => (String.ofList q.1, q.2)).lookup (.ofList k) = T.lookup k
  | [] => rfl
  | (a, v) :: T => by
    have : (String.ofList k == String.ofList a) = (k == a) := by
      rw [Bool.eq_iff_iff, beq_iff_eq, beq_iff_eq, String.ofList_inj]
    simp only [List.map_cons, List.lookup_cons, this, lookup_ofList k T]

/-- `defaultsAgree` on tables and probes read as characters -/
def defaultsAgreeC (P T : List (Chars × DefVal)) (X : List Chars) : Bool :=
  (P.map (·.1) ++ T.map (·.1) ++ X).all fun ty =>
    let k := ty.takeWhile (· != ':')
    decide ((match T.lookup k with | some v => some v | none => T.lookup ['A', 'n', 'y']) =
      some ((P.lookup k).getD .null))

theorem defaultsAgree_of_read {py ts : DefaultTable} {extra : List String} {P T : List (Chars × DefVal)}
    {X : List Chars} (hP : All₂ DefaultIs py P) (hT : All₂ DefaultIs ts T) (hX : All₂ IsLit extra X)
    (h : defaultsAgreeC P T X = true) : defaultsAgree py ts extra = true := by
  have eP : py = P.map fun q => (String.ofList q.1, q.2) :=
    (List.map_id py).symm.trans (hP.map_eq fun _ _ ⟨⟨⟩⟩ => rfl)
  have eT : ts = T.map fun q => (String.ofList q.1, q.2) :=
    (List.map_id ts).symm.trans (hT.map_eq fun _ _ ⟨⟨⟩⟩ => rfl)
  have eL : py.map (·.1) ++ ts.map (·.1) ++ extra = (P.map (·.1) ++ T.map (·.1) ++ X).map .ofList := by
    simp only [eP, eT, lits_eq hX, List.map_append, List.map_map, Function.comp_def]
  rw [defaultsAgree, eL, List.all_map]
  refine Eq.trans (congrArg _ (funext fun ty => ?_)) h
  rw [Function.comp_apply, tsDefault, pyDefault, eP, eT, pureType_ofList, lookup_ofList, lookup_ofList,
    lookup_ofList]
  rfl

end Grist.SchemaGen
