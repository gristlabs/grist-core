/-
The document model, for the undo and the engine proofs: `colSet` is idempotent, `Same` is an equivalence,
lookup by id in tables and columns, sorted row lists, `writeCols` in closed form (`Table.written`),
and `docAction` does not depend on the action summary.
-/
import GristModel.DocSpec
import GristProofs.Basics
namespace Grist.Doc

/-! the three converting arms of `colSet` (Bool, Ref, numeric columns) -/

def csBool (v : Val) : Val :=
  match v with
  | .int 1 => .bool true
  | .int 0 => .bool false
  | .flt "1.0" => .bool true
  | .flt "0.0" => .bool false
  | .flt "-0.0" => .bool false
  | v => v

def csRef (v : Val) : Val :=
  match v with
  | .flt s => match posIntegralFloat? s with | some k => .int k | none => v
  | v => v

def csNum (v : Val) : Val :=
  match v with
  | .int i => .flt (toString i ++ ".0")
  | v => v

theorem colSet_cases (t : String) : (∀ v, colSet t v = csBool v) ∨ (∀ v, colSet t v = csRef v) ∨
    (∀ v, colSet t v = csNum v) ∨ (∀ v, colSet t v = v) := by
  unfold colSet
  generalize pureType t = p
  split
  · exact .inl fun v => rfl
  · exact .inr (.inl fun v => rfl)
  · by_cases h : isNumericLike t = true
    · exact .inr (.inr (.inl fun v => by simp [h]; rfl))
    · exact .inr (.inr (.inr fun v => by simp [h]))

theorem csBool_or (v : Val) : csBool v = v ∨ ∃ b, csBool v = .bool b := by
  unfold csBool
  split <;> simp

theorem csBool_idem (v : Val) : csBool (csBool v) = csBool v := by
  rcases csBool_or v with h | ⟨b, h⟩
  · rw [h, h]
  · rw [h]
    rfl
  
theorem csRef_idem (v : Val) : csRef (csRef v) = csRef v := by
  cases v <;> try rfl
  rename_i s
  simp only [csRef]
  cases h : posIntegralFloat? s with
  | none => simp [h]
  | some k => simp

theorem csNum_idem (v : Val) : csNum (csNum v) = csNum v := by
  cases v <;> rfl

theorem colSet_idem (t : String) (v : Val) : colSet t (colSet t v) = colSet t v := by
  rcases colSet_cases t with h | h | h | h <;> simp only [h]
  · exact csBool_idem v
  · exact csRef_idem v
  · exact csNum_idem v

/-- the default of a numeric-like type is never an `int`, the only values such a column converts -/
theorem colSet_typeDefault (t : String) : colSet t (typeDefault t) = typeDefault t := by
  unfold colSet typeDefault isNumericLike
  generalize pureType t = p
  split
  · rfl
  · rfl
  · split <;> simp

theorem colSet_of_not_num (t : String) {v : Val} (hi : ∀ i, v ≠ .int i) (hf : ∀ s, v ≠ .flt s) :
    colSet t v = v := by
  cases v with
  | int i => exact absurd rfl (hi i)
  | flt s => exact absurd rfl (hf s)
  | _ => rcases colSet_cases t with h | h | h | h <;> rw [h] <;> rfl

theorem colSet_str (t s : String) : colSet t (.str s) = .str s :=
  colSet_of_not_num t (fun _ => Val.noConfusion) (fun _ => Val.noConfusion)

theorem colSet_bool (t : String) (b : Bool) : colSet t (.bool b) = .bool b :=
  colSet_of_not_num t (fun _ => Val.noConfusion) (fun _ => Val.noConfusion)

theorem colSet_null (t : String) : colSet t .null = .null :=
  colSet_of_not_num t (fun _ => Val.noConfusion) (fun _ => Val.noConfusion)

def ORel {α β : Type} (R : α → β → Prop) : Option α → Option β → Prop
  | none, none => True
  | some a, some b => R a b
  | _, _ => False

@[simp] theorem ORel_none_none {α β : Type} (R : α → β → Prop) : ORel R none none = True := rfl
@[simp] theorem ORel_some_some {α β : Type} (R : α → β → Prop) (a : α) (b : β) :
    ORel R (some a) (some b) = R a b := rfl
@[simp] theorem ORel_none_some {α β : Type} (R : α → β → Prop) (b : β) :
    ORel R none (some b) = False := rfl
@[simp] theorem ORel_some_none {α β : Type} (R : α → β → Prop) (a : α) :
    ORel R (some a) none = False := rfl

theorem ORel.left_some {α β : Type} {R : α → β → Prop} {a : α} {y : Option β}
    (h : ORel R (some a) y) : ∃ b, y = some b ∧ R a b := by
  cases y with
  | none => simp at h
  | some b => exact ⟨b, rfl, h⟩

theorem ORel.right_some {α β : Type} {R : α → β → Prop} {x : Option α} {b : β}
    (h : ORel R x (some b)) : ∃ a, x = some a ∧ R a b := by
  cases x with
  | none => simp at h
  | some a => exact ⟨a, rfl, h⟩

theorem ORel.left_none {α β : Type} {R : α → β → Prop} {y : Option β}
    (h : ORel R none y) : y = none := by
  cases y with
  | none => rfl
  | some b => simp at h

theorem ORel.right_none {α β : Type} {R : α → β → Prop} {x : Option α}
    (h : ORel R x none) : x = none := by
  cases x with
  | none => rfl
  | some b => simp at h

theorem ORel.mono {α β : Type} {R S : α → β → Prop} {x : Option α} {y : Option β}
    (h : ORel R x y) (hRS : ∀ a b, R a b → S a b) : ORel S x y := by
  cases x <;> cases y <;> simp_all

theorem ORel.refl' {α : Type} {R : α → α → Prop} (x : Option α) (h : ∀ a, x = some a → R a a) :
    ORel R x x := by
  cases x <;> simp_all

theorem ORel.symm' {α β : Type} {R : α → β → Prop} {S : β → α → Prop} {x : Option α} {y : Option β}
    (h : ORel R x y) (hRS : ∀ a b, R a b → S b a) : ORel S y x := by
  cases x <;> cases y <;> simp_all

theorem ORel.trans' {α β γ : Type} {R : α → β → Prop} {S : β → γ → Prop} {T : α → γ → Prop}
    {x : Option α} {y : Option β} {z : Option γ}
    (h1 : ORel R x y) (h2 : ORel S y z) (hT : ∀ a b c, R a b → S b c → T a c) : ORel T x z := by
  cases x with
  | none =>
    rw [h1.left_none] at h2
    rw [h2.left_none]
    trivial
  | some a =>
    obtain ⟨b, rfl, hab⟩ := h1.left_some
    obtain ⟨c, rfl, hbc⟩ := h2.left_some
    exact hT a b c hab hbc

theorem ORel.or {α β : Type} {R : α → β → Prop} {a a' : Option α} {b b' : Option β}
    (h : ORel R a b) (h' : ORel R a' b') : ORel R (a.or a') (b.or b') := by
  cases a <;> cases b <;> simp_all

theorem ORel.ite {α β : Type} {R : α → β → Prop} {a : Option α} {b : Option β} (p : Prop)
    [Decidable p] (h : ORel R a b) : ORel R (if p then none else a) (if p then none else b) := by
  by_cases hp : p <;> simp [hp, h]

theorem ORel.ite_some {α β : Type} {R : α → β → Prop} {a : α} {b : β} (p : Prop)
    [Decidable p] (h : R a b) : ORel R (if p then some a else none) (if p then some b else none) := by
  by_cases hp : p <;> simp [hp, h]

theorem tableSame_iff (a b : Table) : Table.Same a b ↔
    a.rows = b.rows ∧ ∀ c, ORel (Col.SameOn a.rows) (a.findCol? c) (b.findCol? c) := by
  refine and_congr_right fun _ => forall_congr' fun c => ?_
  cases a.findCol? c <;> cases b.findCol? c <;> rfl

theorem same_iff (a b : Doc) : Same a b ↔
    ∀ t, ORel Table.Same (findTable? a t) (findTable? b t) := by
  refine forall_congr' fun t => ?_
  cases findTable? a t <;> cases findTable? b t <;> rfl

theorem Col.SameOn.refl (rows : List Nat) (a : Col) : Col.SameOn rows a a := ⟨rfl, fun _ _ => rfl⟩
theorem Col.SameOn.symm {rows : List Nat} {a b : Col} (h : Col.SameOn rows a b) :
    Col.SameOn rows b a := ⟨h.1.symm, fun r hr => (h.2 r hr).symm⟩
theorem Col.SameOn.trans {rows : List Nat} {a b c : Col} (h1 : Col.SameOn rows a b)
    (h2 : Col.SameOn rows b c) : Col.SameOn rows a c :=
  ⟨h1.1.trans h2.1, fun r hr => (h1.2 r hr).trans (h2.2 r hr)⟩

theorem Table.Same.refl (a : Table) : Table.Same a a := by
  rw [tableSame_iff]
  exact ⟨rfl, fun c => ORel.refl' _ (fun x _ => Col.SameOn.refl _ x)⟩

theorem Table.Same.symm {a b : Table} (h : Table.Same a b) : Table.Same b a := by
  rw [tableSame_iff] at h ⊢
  refine ⟨h.1.symm, fun c => ?_⟩
  rw [← h.1]
  exact (h.2 c).symm' (fun _ _ => Col.SameOn.symm)

theorem Table.Same.trans {a b c : Table} (h1 : Table.Same a b) (h2 : Table.Same b c) :
    Table.Same a c := by
  rw [tableSame_iff] at h1 h2 ⊢
  refine ⟨h1.1.trans h2.1, fun k => ?_⟩
  have h2' := h2.2 k
  rw [← h1.1] at h2'
  exact (h1.2 k).trans' h2' (fun _ _ _ => Col.SameOn.trans)

theorem Same.refl (a : Doc) : Same a a := by
  rw [same_iff]
  exact fun t => ORel.refl' _ (fun x _ => Table.Same.refl x)

theorem Same.symm {a b : Doc} (h : Same a b) : Same b a := by
  rw [same_iff] at h ⊢
  exact fun t => (h t).symm' (fun _ _ => Table.Same.symm)

theorem Same.trans {a b c : Doc} (h1 : Same a b) (h2 : Same b c) : Same a c := by
  rw [same_iff] at h1 h2 ⊢
  exact fun t => (h1 t).trans' (h2 t) (fun _ _ _ => Table.Same.trans)


section FindKey
variable {α κ : Type} [DecidableEq κ] (key : α → κ)

theorem find_key_some {l : List α} {k : κ} {x : α}
    (h : l.find? (fun x => key x == k) = some x) : key x = k ∧ x ∈ l := by
  have h1 := List.find?_some h
  have h2 := List.mem_of_find?_eq_some h
  exact ⟨by simpa using h1, h2⟩

theorem find_key_none {l : List α} {k : κ} :
    l.find? (fun x => key x == k) = none ↔ ∀ x ∈ l, key x ≠ k := by
  simp [List.find?_eq_none]

theorem find_key_of_mem_nodup {l : List α} {x : α} (hnd : (l.map key).Nodup) (hx : x ∈ l) :
    l.find? (fun y => key y == key x) = some x := by
  cases h : l.find? (fun y => key y == key x) with
  | none => exact absurd rfl ((find_key_none key).1 h x hx)
  | some y =>
    obtain ⟨hk, hy⟩ := find_key_some key h
    rw [eq_of_map_eq key hnd hy hx hk]

theorem find_key_map {l : List α} {k : κ} (f : α → α) (hf : ∀ x, key (f x) = key x) :
    (l.map f).find? (fun x => key x == k) = (l.find? (fun x => key x == k)).map f := by
  rw [List.find?_map]
  congr 1
  congr 1
  funext x
  simp [hf]

theorem find_key_filter_ne {l : List α} {k k' : κ} :
    (l.filter (fun x => key x != k')).find? (fun x => key x == k) =
      if k = k' then none else l.find? (fun x => key x == k) := by
  rw [List.find?_filter]
  by_cases h : k = k'
  · subst h
    simp only [↓reduceIte]
    rw [List.find?_eq_none]
    intro x _
    by_cases hx : key x = k <;> simp [hx]
  · simp only [h, ↓reduceIte]
    congr 1
    funext x
    by_cases hx : key x = k
    · have : ¬ k = k' := h
      simp [hx, this]
    · simp [hx]

theorem find_key_append_single {l : List α} {k : κ} {y : α} :
    (l ++ [y]).find? (fun x => key x == k) =
      (l.find? (fun x => key x == k)).or (if key y = k then some y else none) := by
  rw [List.find?_append]
  congr 1
  by_cases h : key y = k <;> simp [h]

theorem map_key_replace {l : List α} {k : κ} {y : α} (hy : key y = k) :
    (l.map (fun x => if key x == k then y else x)).map key = l.map key := by
  rw [List.map_map]
  apply List.map_congr_left
  intro x _
  by_cases h : key x = k <;> simp [h, hy]

theorem find_key_replace {l : List α} {k k' : κ} {y : α} (hy : key y = k) :
    (l.map (fun x => if key x == k then y else x)).find? (fun x => key x == k') =
      (l.find? (fun x => key x == k')).map (fun x => if key x == k then y else x) :=
  find_key_map key _ (fun x => by by_cases h : key x = k <;> simp [h, hy])

theorem find_key_replace_self {l : List α} {k : κ} {x0 y : α} (hy : key y = k)
    (hf : l.find? (fun x => key x == k) = some x0) :
    (l.map (fun x => if key x == k then y else x)).find? (fun x => key x == k) = some y := by
  rw [find_key_replace key hy, hf]
  simp [(find_key_some key hf).1]

theorem find_key_replace_ne {l : List α} {k k' : κ} {y : α} (hy : key y = k) (hne : k' ≠ k) :
    (l.map (fun x => if key x == k then y else x)).find? (fun x => key x == k') =
      l.find? (fun x => key x == k') := by
  rw [find_key_replace key hy]
  cases h : l.find? (fun x => key x == k') with
  | none => rfl
  | some x => simp [(find_key_some key h).1, hne]

theorem map_replace_replace {l : List α} {k : κ} {y z : α} (hy : key y = k) :
    (l.map (fun x => if key x == k then y else x)).map (fun x => if key x == k then z else x) =
      l.map (fun x => if key x == k then z else x) := by
  rw [List.map_map]
  apply List.map_congr_left
  intro x _
  by_cases h : key x = k <;> simp [h, hy]

theorem filter_ne_eq_self {l : List α} {k : κ}
    (h : ∀ x ∈ l, key x ≠ k) : l.filter (fun x => key x != k) = l := by
  rw [List.filter_eq_self]
  intro x hx
  simpa using h x hx

theorem filter_ne_append_single {l : List α} {y : α} {k : κ}
    (hy : key y = k) : (l ++ [y]).filter (fun x => key x != k) = l.filter (fun x => key x != k) := by
  simp [List.filter_append, hy]

theorem filter_ne_filter_ne {l : List α} {k k' : κ}
    (h : ∀ x ∈ l, key x ≠ k → key x ≠ k') :
    (l.filter (fun x => key x != k)).filter (fun x => key x != k') = l.filter (fun x => key x != k) :=
  filter_ne_eq_self key (fun x hx => h x (List.mem_filter.1 hx).1
    (by simpa using (List.mem_filter.1 hx).2))

omit [DecidableEq κ] in
theorem nodup_map_append_single {l : List α} {x : α}
    (h : (l.map key).Nodup) (hx : ∀ y ∈ l, key y ≠ key x) : ((l ++ [x]).map key).Nodup := by
  rw [List.map_append]
  refine nodup_snoc h fun hm => ?_
  obtain ⟨y, hy, e⟩ := List.mem_map.1 hm
  exact hx y hy e

end FindKey

theorem findTable?_some {d : Doc} {t : String} {tb : Table} (h : findTable? d t = some tb) :
    tb.id = t ∧ tb ∈ d := find_key_some Table.id h

theorem findTable?_none {d : Doc} {t : String} :
    findTable? d t = none ↔ ∀ tb ∈ d, tb.id ≠ t := find_key_none Table.id

theorem findTable?_of_mem {d : Doc} {tb : Table} (hnd : (d.map (·.id)).Nodup) (h : tb ∈ d) :
    findTable? d tb.id = some tb := find_key_of_mem_nodup Table.id hnd h

theorem hasTable_eq_false {d : Doc} {t : String} : hasTable d t = false ↔ findTable? d t = none := by
  simp [hasTable]

theorem findTable?_replaceTable {d : Doc} {t t' : String} {tb : Table} (hid : tb.id = t) :
    findTable? (replaceTable d t tb) t' =
      (findTable? d t').map (fun x => if x.id == t then tb else x) :=
  find_key_replace Table.id hid

theorem findTable?_replaceTable_self {d : Doc} {t : String} {tb0 tb : Table} (hid : tb.id = t)
    (hf : findTable? d t = some tb0) : findTable? (replaceTable d t tb) t = some tb :=
  find_key_replace_self Table.id hid hf

theorem findTable?_replaceTable_ne {d : Doc} {t t' : String} {tb : Table} (hid : tb.id = t)
    (hne : t' ≠ t) : findTable? (replaceTable d t tb) t' = findTable? d t' :=
  find_key_replace_ne Table.id hid hne

theorem replaceTable_replaceTable {d : Doc} {t : String} {tb1 tb2 : Table} (hid : tb1.id = t) :
    replaceTable (replaceTable d t tb1) t tb2 = replaceTable d t tb2 :=
  map_replace_replace Table.id hid

theorem replaceTable_self {d : Doc} {t : String} {tb : Table} (hnd : (d.map (·.id)).Nodup)
    (hf : findTable? d t = some tb) : replaceTable d t tb = d := by
  unfold replaceTable
  conv =>
    rhs
    rw [← List.map_id d]
  apply List.map_congr_left
  intro x hx
  by_cases h : x.id = t
  · have := findTable?_of_mem hnd hx
    rw [h, hf] at this
    simp only [h, beq_self_eq_true, ↓reduceIte, id_eq]
    exact (Option.some.inj this)
  · simp [h]

theorem map_id_replaceTable {d : Doc} {t : String} {tb : Table} (hid : tb.id = t) :
    (replaceTable d t tb).map (·.id) = d.map (·.id) := map_key_replace Table.id hid

theorem mem_replaceTable {d : Doc} {t : String} {tb x : Table} (h : x ∈ replaceTable d t tb) :
    x = tb ∨ x ∈ d := by
  unfold replaceTable at h
  obtain ⟨y, hy, rfl⟩ := List.mem_map.1 h
  by_cases h : y.id = t <;> simp [h, hy]

theorem findTable?_filter_ne {d : Doc} {t t' : String} :
    findTable? (d.filter (fun x => x.id != t)) t' = if t' = t then none else findTable? d t' :=
  find_key_filter_ne Table.id

theorem findTable?_append_single {d : Doc} {t' : String} {tb : Table} :
    findTable? (d ++ [tb]) t' = (findTable? d t').or (if tb.id = t' then some tb else none) :=
  find_key_append_single Table.id

theorem findCol?_some {tb : Table} {c : String} {col : Col} (h : tb.findCol? c = some col) :
    col.id = c ∧ col ∈ tb.cols := find_key_some Col.id h

theorem findCol?_none {tb : Table} {c : String} :
    tb.findCol? c = none ↔ ∀ col ∈ tb.cols, col.id ≠ c := find_key_none Col.id

theorem findCol?_of_mem {tb : Table} {col : Col} (hnd : (tb.cols.map (·.id)).Nodup)
    (h : col ∈ tb.cols) : tb.findCol? col.id = some col := find_key_of_mem_nodup Col.id hnd h

theorem hasCol_eq_false {tb : Table} {c : String} : tb.hasCol c = false ↔ tb.findCol? c = none := by
  simp only [Table.hasCol, Option.isSome_eq_false_iff, Option.isNone_iff_eq_none]

theorem hasCol_eq_true {tb : Table} {c : String} :
    tb.hasCol c = true ↔ ∃ col, tb.findCol? c = some col := by
  simp only [Table.hasCol, Option.isSome_iff_exists]

theorem hasCol_eq_contains (tb : Table) (c : String) :
    tb.hasCol c = (tb.cols.map (·.id)).contains c := by
  -- as propositions both Booleans say that some column has id `c`
  rw [Bool.eq_iff_iff]
  simp [Table.hasCol, Table.findCol?, List.find?_isSome]

theorem hasCol_of_map_id_eq {tb tb' : Table} (h : tb'.cols.map (·.id) = tb.cols.map (·.id))
    (c : String) : tb'.hasCol c = tb.hasCol c := by
  rw [hasCol_eq_contains, hasCol_eq_contains, h]

theorem hasCol_of_mem {tb : Table} {x : Col} (hx : x ∈ tb.cols) : tb.hasCol x.id = true := by
  rw [hasCol_eq_contains]
  simp only [List.contains_iff_mem]
  exact List.mem_map_of_mem hx

theorem findCol?_map {tb : Table} {c : String} (F : Col → Col) (hF : ∀ x, (F x).id = x.id)
    (tid : String) (rows : List Nat) :
    Table.findCol? { id := tid, cols := tb.cols.map F, rows := rows } c = (tb.findCol? c).map F :=
  find_key_map Col.id F hF

theorem findCol?_filter_ne {tb : Table} {c c' : String} (tid : String) (rows : List Nat) :
    Table.findCol? { id := tid, cols := tb.cols.filter (fun x => x.id != c), rows := rows } c' =
      if c' = c then none else tb.findCol? c' :=
  find_key_filter_ne Col.id

theorem findCol?_append_single {l : List Col} {c' : String} {col : Col} (tid : String)
    (rows : List Nat) :
    Table.findCol? { id := tid, cols := l ++ [col], rows := rows } c' =
      (l.find? (fun x => x.id == c')).or (if col.id = c' then some col else none) :=
  find_key_append_single Col.id

theorem findCol?_replaceCol_self {tb : Table} {c : String} {col0 col : Col} (hid : col.id = c)
    (hf : tb.findCol? c = some col0) : (tb.replaceCol c col).findCol? c = some col :=
  find_key_replace_self Col.id hid hf

theorem findCol?_replaceCol_ne {tb : Table} {c c' : String} {col : Col} (hid : col.id = c)
    (hne : c' ≠ c) : (tb.replaceCol c col).findCol? c' = tb.findCol? c' :=
  find_key_replace_ne Col.id hid hne

theorem replaceCol_replaceCol {tb : Table} {c : String} {c1 c2 : Col} (hid : c1.id = c) :
    (tb.replaceCol c c1).replaceCol c c2 = tb.replaceCol c c2 :=
  congrArg (fun cs => { tb with cols := cs }) (map_replace_replace Col.id hid)

theorem mem_insertRow {a r : Nat} {l : List Nat} : a ∈ insertRow r l ↔ a = r ∨ a ∈ l := by
  induction l with
  | nil => simp [insertRow]
  | cons x xs ih =>
    simp only [insertRow]
    split
    · simp
    · split
      · rename_i h
        rw [beq_iff_eq] at h
        subst h
        simp
      · simp only [List.mem_cons, ih]
        constructor
        · rintro (h | h | h) <;> simp [h]
        · rintro (h | h | h) <;> simp [h]

theorem pairwise_insertRow {r : Nat} {l : List Nat} (h : l.Pairwise (· < ·)) :
    (insertRow r l).Pairwise (· < ·) := by
  induction l with
  | nil => simp [insertRow]
  | cons x xs ih =>
    rw [List.pairwise_cons] at h
    simp only [insertRow]
    split
    · rename_i hlt
      rw [List.pairwise_cons]
      refine ⟨?_, List.pairwise_cons.2 h⟩
      intro a ha
      rcases List.mem_cons.1 ha with rfl | ha
      · exact hlt
      · exact Nat.lt_trans hlt (h.1 a ha)
    · split
      · exact List.pairwise_cons.2 h
      · rename_i h1 h2
        rw [beq_iff_eq] at h2
        rw [List.pairwise_cons]
        refine ⟨?_, ih h.2⟩
        intro a ha
        rcases mem_insertRow.1 ha with rfl | ha
        · omega
        · exact h.1 a ha

theorem mem_insertRows {a : Nat} {rs l : List Nat} : a ∈ insertRows rs l ↔ a ∈ rs ∨ a ∈ l := by
  unfold insertRows
  induction rs generalizing l with
  | nil => simp
  | cons r rs ih =>
    simp only [List.foldl_cons, ih, mem_insertRow, List.mem_cons]
    constructor
    · rintro (h | h | h) <;> simp [h]
    · rintro ((h | h) | h) <;> simp [h]

theorem pairwise_insertRows {rs l : List Nat} (h : l.Pairwise (· < ·)) :
    (insertRows rs l).Pairwise (· < ·) := by
  unfold insertRows
  induction rs generalizing l with
  | nil => simpa
  | cons r rs ih => exact ih (pairwise_insertRow h)

theorem sorted_ext {l1 l2 : List Nat} (h1 : l1.Pairwise (· < ·)) (h2 : l2.Pairwise (· < ·))
    (h : ∀ a, a ∈ l1 ↔ a ∈ l2) : l1 = l2 :=
  ((List.perm_ext_iff_of_nodup (h1.imp Nat.ne_of_lt) (h2.imp Nat.ne_of_lt)).2 h).eq_of_pairwise
    (fun _ _ _ _ hab hba => absurd hab (Nat.lt_asymm hba)) h1 h2

theorem insertRows_nil_of_sorted {l : List Nat} (h : l.Pairwise (· < ·)) : insertRows l [] = l :=
  sorted_ext (pairwise_insertRows List.Pairwise.nil) h (fun a => by simp [mem_insertRows])

theorem filter_ne_zero_of_pos {l : List Nat} (h : ∀ r ∈ l, 0 < r) : l.filter (· != 0) = l := by
  rw [List.filter_eq_self]
  intro a ha
  have := h a ha
  simp only [bne_iff_ne, ne_eq]
  omega


theorem setCells_not_mem (ty : String) {r : Nat} : ∀ (rows : List Nat) (vals : List Val)
    (f : Nat → Val), r ∉ rows → setCells ty f rows vals r = f r := by
  intro rows
  induction rows with
  | nil =>
    intro vals f _
    simp [setCells]
  | cons x xs ih =>
    intro vals f h
    cases vals with
    | nil => simp [setCells]
    | cons v vs =>
      simp only [setCells]
      rw [ih vs _ (fun h' => h (List.mem_cons_of_mem _ h'))]
      have : r ≠ x := fun h' => h (by simp [h'])
      simp [setCell, this]

theorem setCells_congr_at (ty : String) {r : Nat} : ∀ (rows : List Nat) (vals : List Val)
    (f g : Nat → Val), f r = g r → setCells ty f rows vals r = setCells ty g rows vals r := by
  intro rows
  induction rows with
  | nil =>
    intro vals f g h
    simpa [setCells]
  | cons x xs ih =>
    intro vals f g h
    cases vals with
    | nil => simpa [setCells]
    | cons v vs =>
      simp only [setCells]
      apply ih
      simp [setCell, h]

theorem setCells_map (ty : String) (g : Nat → Val) {r : Nat} : ∀ (rows : List Nat)
    (f : Nat → Val), r ∈ rows → setCells ty f rows (rows.map g) r = colSet ty (g r) := by
  intro rows
  induction rows with
  | nil =>
    intro f h
    simp at h
  | cons x xs ih =>
    intro f h
    simp only [List.map_cons, setCells]
    by_cases hx : r ∈ xs
    · exact ih _ hx
    · have : r = x := by simpa [hx] using h
      subst this
      rw [setCells_not_mem ty xs _ _ hx]
      simp [setCell]

theorem setCells_pred (ty : String) (P : Val → Prop) (hP : ∀ v, P (colSet ty v)) :
    ∀ (rows : List Nat) (vals : List Val) (f : Nat → Val), (∀ r, P (f r)) →
      ∀ r, P (setCells ty f rows vals r) := by
  intro rows
  induction rows with
  | nil =>
    intro vals f h r
    simpa [setCells] using h r
  | cons x xs ih =>
    intro vals f h r
    cases vals with
    | nil => simpa [setCells] using h r
    | cons v vs =>
      simp only [setCells]
      apply ih
      intro k
      by_cases hk : k = x <;> simp [setCell, hk, hP, h]

/-- the cells of column `c` (of type `ty`) after `writeCols _ rows cols` -/
def writeCells (ty : String) (rows : List Nat) (c : String) :
    List (String × List Val) → (Nat → Val) → (Nat → Val)
  | [], f => f
  | (c', vals) :: rest, f =>
    writeCells ty rows c rest (if c' = c then setCells ty f rows vals else f)

def Col.written (rows : List Nat) (cols : List (String × List Val)) (col : Col) : Col :=
  { col with cells := writeCells col.info.type rows col.id cols col.cells }

def Table.written (tb : Table) (rows : List Nat) (cols : List (String × List Val)) : Table :=
  { tb with cols := tb.cols.map (Col.written rows cols) }

@[simp] theorem Col.written_id (rows : List Nat) (cols : List (String × List Val)) (col : Col) :
    (col.written rows cols).id = col.id := rfl
@[simp] theorem Col.written_info (rows : List Nat) (cols : List (String × List Val)) (col : Col) :
    (col.written rows cols).info = col.info := rfl
@[simp] theorem Table.written_id (tb : Table) (rows : List Nat) (cols : List (String × List Val)) :
    (tb.written rows cols).id = tb.id := rfl
@[simp] theorem Table.written_rows (tb : Table) (rows : List Nat) (cols : List (String × List Val)) :
    (tb.written rows cols).rows = tb.rows := rfl
@[simp] theorem Table.written_nil (tb : Table) (rows : List Nat) : tb.written rows [] = tb := by
  cases tb with
  | mk id cols rws =>
    simp only [Table.written, Table.mk.injEq, true_and, and_true]
    conv =>
      rhs
      rw [← List.map_id cols]
    apply List.map_congr_left
    intro x _
    rfl

theorem Table.written_map_id (tb : Table) (rows : List Nat) (cols : List (String × List Val)) :
    (tb.written rows cols).cols.map (·.id) = tb.cols.map (·.id) := by
  simp [Table.written, List.map_map, Function.comp_def]

theorem Table.findCol?_written (tb : Table) (rows : List Nat) (cols : List (String × List Val))
    (c : String) : (tb.written rows cols).findCol? c = (tb.findCol? c).map (Col.written rows cols) :=
  find_key_map Col.id _ (fun _ => rfl)

theorem Table.hasCol_written (tb : Table) (rows : List Nat) (cols : List (String × List Val))
    (c : String) : (tb.written rows cols).hasCol c = tb.hasCol c := by
  simp [Table.hasCol, Table.findCol?_written]

theorem Table.written_replaceCol {tb : Table} (hnd : (tb.cols.map (·.id)).Nodup) {c : String}
    {col : Col} (hc : tb.findCol? c = some col) (rows : List Nat) (vals : List Val)
    (rest : List (String × List Val)) :
    (tb.replaceCol c { col with cells := setCells col.info.type col.cells rows vals }).written rows rest =
      tb.written rows ((c, vals) :: rest) := by
  simp only [Table.written, Table.replaceCol, List.map_map]
  congr 1
  apply List.map_congr_left
  intro x hx
  by_cases hxc : x.id = c
  · have hxcol : col = x := Option.some.inj (hc.symm.trans (hxc ▸ findCol?_of_mem hnd hx))
    subst hxcol
    simp [hxc, Col.written, writeCells]
  · simp [hxc, Col.written, writeCells, Ne.symm hxc]

theorem writeCols_ok_iff {cols : List (String × List Val)} {tb tb' : Table} {rows : List Nat}
    (hnd : (tb.cols.map (·.id)).Nodup) :
    writeCols tb rows cols = .ok tb' ↔
      (∀ cv ∈ cols, tb.hasCol cv.1 = true) ∧ tb' = tb.written rows cols := by
  induction cols generalizing tb with
  | nil =>
    simp only [writeCols, Except.ok.injEq, List.not_mem_nil, false_imp_iff, implies_true, true_and,
      Table.written_nil]
    exact eq_comm
  | cons cv rest ih =>
    obtain ⟨c, vals⟩ := cv
    simp only [writeCols, List.forall_mem_cons]
    cases hc : tb.findCol? c with
    | none => simp [hasCol_eq_false.2 hc]
    | some col =>
      have hids : (tb.replaceCol c { col with cells := setCells col.info.type col.cells rows vals }).cols.map
          (·.id) = tb.cols.map (·.id) := map_key_replace Col.id (findCol?_some hc).1
      rw [ih (hids ▸ hnd), Table.written_replaceCol hnd hc]
      simp only [hasCol_eq_true.2 ⟨col, hc⟩, true_and, hasCol_of_map_id_eq hids]

theorem writeCols_eq_written (cols : List (String × List Val)) (tb : Table) (rows : List Nat)
    (hnd : (tb.cols.map (·.id)).Nodup) (hall : ∀ cv ∈ cols, tb.hasCol cv.1 = true) :
    writeCols tb rows cols = .ok (tb.written rows cols) := (writeCols_ok_iff hnd).2 ⟨hall, rfl⟩

theorem writeCells_not_mem (ty : String) (rows : List Nat) (c : String) {r : Nat} (hr : r ∉ rows) :
    ∀ (cols : List (String × List Val)) (f : Nat → Val), writeCells ty rows c cols f r = f r := by
  intro cols
  induction cols with
  | nil =>
    intro f
    rfl
  | cons cv rest ih =>
    intro f
    obtain ⟨c', vals⟩ := cv
    simp only [writeCells]
    rw [ih]
    split
    · exact setCells_not_mem ty rows vals f hr
    · rfl

theorem writeCells_no_key (ty : String) (rows : List Nat) (c : String) :
    ∀ (cols : List (String × List Val)) (f : Nat → Val), (∀ cv ∈ cols, cv.1 ≠ c) →
      writeCells ty rows c cols f = f := by
  intro cols
  induction cols with
  | nil =>
    intro f _
    rfl
  | cons cv rest ih =>
    intro f h
    obtain ⟨c', vals⟩ := cv
    have : ¬ c' = c := h (c', vals) (by simp)
    simp only [writeCells, this, ↓reduceIte]
    exact ih f (fun cv hcv => h cv (List.mem_cons_of_mem _ hcv))

theorem writeCells_congr_at (ty : String) (rows : List Nat) (c : String) {r : Nat} :
    ∀ (cols : List (String × List Val)) (f g : Nat → Val), f r = g r →
      writeCells ty rows c cols f r = writeCells ty rows c cols g r := by
  intro cols
  induction cols with
  | nil =>
    intro f g h
    exact h
  | cons cv rest ih =>
    intro f g h
    obtain ⟨c', vals⟩ := cv
    simp only [writeCells]
    apply ih
    split
    · exact setCells_congr_at ty rows vals f g h
    · exact h

theorem writeCells_pred (ty : String) (rows : List Nat) (c : String) (P : Val → Prop)
    (hP : ∀ v, P (colSet ty v)) :
    ∀ (cols : List (String × List Val)) (f : Nat → Val), (∀ r, P (f r)) →
      ∀ r, P (writeCells ty rows c cols f r) := by
  intro cols
  induction cols with
  | nil =>
    intro f h
    exact h
  | cons cv rest ih =>
    intro f h
    obtain ⟨c', vals⟩ := cv
    simp only [writeCells]
    apply ih
    split
    · exact setCells_pred ty P hP rows vals f h
    · exact h

theorem writeCells_const (ty : String) (rows : List Nat) (c : String) (g : Nat → Val) {r : Nat}
    (hr : r ∈ rows) :
    ∀ (cols : List (String × List Val)) (f : Nat → Val),
      (∀ cv ∈ cols, cv.1 = c → cv.2 = rows.map g) →
      ((∃ cv ∈ cols, cv.1 = c) ∨ f r = colSet ty (g r)) →
      writeCells ty rows c cols f r = colSet ty (g r) := by
  intro cols
  induction cols with
  | nil =>
    intro f _ h
    rcases h with ⟨cv, hcv, _⟩ | h
    · simp at hcv
    · exact h
  | cons cv rest ih =>
    intro f hall h
    obtain ⟨c', vals⟩ := cv
    simp only [writeCells]
    apply ih _ (fun cv hcv => hall cv (List.mem_cons_of_mem _ hcv))
    by_cases hc : c' = c
    · right
      have : vals = rows.map g := hall (c', vals) (by simp) hc
      simp only [hc, ↓reduceIte, this]
      exact setCells_map ty g rows f hr
    · simp only [hc, ↓reduceIte]
      rcases h with ⟨cv, hcv, hcvc⟩ | h
      · left
        rcases List.mem_cons.1 hcv with rfl | hm
        · exact absurd hcvc hc
        · exact ⟨cv, hm, hcvc⟩
      · right
        exact h

theorem applyAll_append {d : Doc} {l1 l2 : List DocAction} {x : Doc}
    (h : applyAll d l1 = .ok x) : applyAll d (l1 ++ l2) = applyAll x l2 := by
  induction l1 generalizing d with
  | nil =>
    cases h
    rfl
  | cons a rest ih =>
    simp only [applyAll, List.cons_append] at h ⊢
    split at h
    · cases h
    · exact ih h

/-- in every branch the summary reaches only the `summary` field of the result (`f` chooses what to
    observe of document and undo list) -/
theorem docAction_indep_summary {β : Type} (f : Doc → List DocAction → β) (d : Doc)
    (s s' : Summary) (a : DocAction) :
    (docAction d s a).map (fun r => f r.doc r.undo) =
      (docAction d s' a).map (fun r => f r.doc r.undo) := by
  cases a <;> dsimp only [docAction] <;> (repeat' split) <;> rfl

end Grist.Doc
