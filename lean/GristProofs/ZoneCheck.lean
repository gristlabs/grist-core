/-
C34: a checker for `ZoneWF` that the kernel evaluates quickly, used by the generated obligations of
lean/Generated/Zones*.lean (one per distinct bundled zone record).

`zoneWFb` compares `Int`s, and `Int` order and arithmetic reach the kernel's accelerated `Nat`
operations only after several unfoldings each.  `checkWF` moves every instant by `uK` and every offset
by `oK` into `Nat` once (`shift`, one constructor match) and then uses `Nat.ble`, `+`, `*` on literals
only; each inequality of `wfGo` is rearranged so that both sides are sums (the shifts cancel).
-/
import GristModel.Zone
namespace Grist.Zone

/-- `x + K` as a natural number; meaningful when `-K ≤ x`, which `inRange K x` tests. -/
def shift (K : Nat) : Int → Nat
  | .ofNat n => K + n
  | .negSucc n => K - (n + 1)

def inRange (K : Nat) : Int → Bool
  | .ofNat _ => true
  | .negSucc n => Nat.ble (n + 1) K

theorem shift_eq {K : Nat} {x : Int} (h : inRange K x = true) : (shift K x : Int) = x + K := by
  cases x with
  | ofNat n => simp only [shift, Int.ofNat_eq_natCast]; omega
  | negSucc n =>
    have := Nat.le_of_ble_eq_true h
    simp only [shift]
    omega

/-- The shifts `uK` (instants) and `oK` (offsets): bundled instants are below 2^53 ms in absolute
    value, offsets below 10^6 s; a record outside them fails the check (it is never assumed inside). -/
def uK : Nat := 1000000000000000000
def oK : Nat := 1000000000

/-- The four inequalities of one `wfGo` step on shifted values. -/
def stepOK (u0 u1 o0 o1 o2 : Nat) : Bool :=
  Nat.ble (u0 + 1) u1 && Nat.ble (u0 + o1 * 1000 + 1) (u1 + o0 * 1000)
    && Nat.ble (u0 + o2 * 1000) (u1 + o0 * 1000) && Nat.ble (u0 + o1 * 1000) (u1 + o2 * 1000)

/-- `wfGo (u0 :: us) (o0 :: o1 :: os)` with `u0 o0 o1` already shifted. -/
def checkGo : Nat → Nat → Nat → List Int → List Int → Bool
  | _, _, _, [], [] => true
  | u0, o0, o1, u1 :: us, o2 :: os =>
    inRange uK u1 && inRange oK o2 && stepOK u0 (shift uK u1) o0 o1 (shift oK o2)
      && checkGo (shift uK u1) o1 (shift oK o2) us os
  | _, _, _, _, _ => false

def checkWF (z : Zone) : Bool :=
  match z.untils, z.offsets with
  | [], [_] => true
  | u0 :: us, o0 :: o1 :: os =>
    inRange uK u0 && inRange oK o0 && inRange oK o1
      && checkGo (shift uK u0) (shift oK o0) (shift oK o1) us os
  | _, _ => false

theorem stepOK_sound {u0 u1 o0 o1 o2 : Int} (hu0 : inRange uK u0 = true) (hu1 : inRange uK u1 = true)
    (ho0 : inRange oK o0 = true) (ho1 : inRange oK o1 = true) (ho2 : inRange oK o2 = true)
    (h : stepOK (shift uK u0) (shift uK u1) (shift oK o0) (shift oK o1) (shift oK o2) = true) :
    u0 < u1 ∧ u0 - o0 * 1000 < u1 - o1 * 1000 ∧ u0 - o0 * 1000 ≤ u1 - o2 * 1000 ∧
      u0 - o2 * 1000 ≤ u1 - o1 * 1000 := by
  simp only [stepOK, Bool.and_eq_true] at h
  obtain ⟨⟨⟨h1, h2⟩, h3⟩, h4⟩ := h
  have h1 := Nat.le_of_ble_eq_true h1
  have h2 := Nat.le_of_ble_eq_true h2
  have h3 := Nat.le_of_ble_eq_true h3
  have h4 := Nat.le_of_ble_eq_true h4
  have e0 := shift_eq hu0
  have e1 := shift_eq hu1
  have f0 := shift_eq ho0
  have f1 := shift_eq ho1
  have f2 := shift_eq ho2
  omega

theorem checkGo_sound : ∀ (us os : List Int) (u0 o0 o1 : Int), inRange uK u0 = true →
    inRange oK o0 = true → inRange oK o1 = true →
    checkGo (shift uK u0) (shift oK o0) (shift oK o1) us os = true →
    wfGo (u0 :: us) (o0 :: o1 :: os) = true
  | [], [], _, _, _, _, _, _, _ => rfl
  | [], _ :: _, _, _, _, _, _, _, h => by simp [checkGo] at h
  | _ :: _, [], _, _, _, _, _, _, h => by simp [checkGo] at h
  | u1 :: us, o2 :: os, u0, o0, o1, hu0, ho0, ho1, h => by
    simp only [checkGo, Bool.and_eq_true] at h
    obtain ⟨⟨⟨hu1, ho2⟩, hs⟩, hr⟩ := h
    obtain ⟨a, b, c, d⟩ := stepOK_sound hu0 hu1 ho0 ho1 ho2 hs
    simp only [wfGo, Bool.and_eq_true, decide_eq_true_eq]
    exact ⟨⟨⟨⟨a, b⟩, c⟩, d⟩, checkGo_sound us os u1 o1 o2 hu1 ho1 ho2 hr⟩

theorem zoneWFb_of_check {z : Zone} (h : checkWF z = true) : zoneWFb z = true := by
  obtain ⟨us, os⟩ := z
  simp only [checkWF] at h
  simp only [zoneWFb]
  split at h
  · rfl
  · simp only [Bool.and_eq_true] at h
    exact checkGo_sound _ _ _ _ _ h.1.1.1 h.1.1.2 h.1.2 h.2
  · cases h

/-- `allWF_nil`, `allWF_cons`, `allWF_append`: the generated tables are proved record by record with these. -/
theorem allWF_nil : ∀ p ∈ ([] : List (String × Zone)), zoneWFb p.2 = true :=
  fun _ h => nomatch h

theorem allWF_cons {n : String} {z : Zone} {l : List (String × Zone)} (h : zoneWFb z = true)
    (t : ∀ p ∈ l, zoneWFb p.2 = true) : ∀ p ∈ (n, z) :: l, zoneWFb p.2 = true :=
  List.forall_mem_cons.2 ⟨h, t⟩

theorem allWF_append {l₁ l₂ : List (String × Zone)} (h₁ : ∀ p ∈ l₁, zoneWFb p.2 = true)
    (h₂ : ∀ p ∈ l₂, zoneWFb p.2 = true) : ∀ p ∈ l₁ ++ l₂, zoneWFb p.2 = true :=
  List.forall_mem_append.2 ⟨h₁, h₂⟩

end Grist.Zone
