/-
Recalc: in a quiescent state a cell with an acyclic dependency cone (`Hgt`) holds a value determined
by the data cells alone, also when other parts of the document are cyclic (C06).  A cell that does
not reach a cycle has an acyclic cone; with a rank function (`Ranked`) every cone is acyclic (C05).
-/
import GristProofs.RecalcProgress
namespace Grist.Recalc

/-- every `deps`-path from `c` has at most `k` edges (data cells have no outgoing edges) -/
inductive Hgt (p : Prog) : Nat → Nat → Prop
  | leaf {k c : Nat} : p.formula c = false → Hgt p k c
  | node {k c : Nat} : p.formula c = true → (∀ d ∈ p.deps c, Hgt p k d) → Hgt p (k + 1) c

/-- a rank function: every formula cell `< n` ranks above everything it may read -/
def Ranked (p : Prog) (n : Nat) (rank : Nat → Nat) : Prop :=
  ∀ c, c < n → p.formula c = true → ∀ d ∈ p.deps c, rank d < rank c

theorem Hgt.of_reaches {p : Prog} : ∀ (fuel : Nat) {k c t : Nat}, Hgt p k c →
    reaches p (fun _ => true) fuel c t = true → ∃ k', k' < k ∧ Hgt p k' t := by
  intro fuel
  induction fuel with
  | zero =>
    intro k c t _ h
    cases h
  | succ fuel ih =>
    intro k c t hh h
    obtain ⟨hf, d, hd, h⟩ := reaches_succ.mp h
    cases hh with
    | leaf hf' =>
      rw [hf'] at hf
      cases hf
    | @node k' _ _ hall =>
      rcases h with rfl | h
      · exact ⟨k', Nat.lt_succ_self _, hall d hd⟩
      · obtain ⟨k'', hlt, h2⟩ := ih (hall d hd) h
        exact ⟨k'', Nat.lt_succ_of_lt hlt, h2⟩

theorem Hgt.not_dependsOnSelf {p : Prog} {n : Nat} : ∀ (k c : Nat), Hgt p k c →
    ¬ DependsOnSelf p n c := by
  intro k
  induction k using Nat.strongRecOn with
  | ind k ih =>
    intro c hh h
    obtain ⟨k', hlt, hh'⟩ := Hgt.of_reaches n hh h
    exact ih k' hlt c hh' h

theorem cone_unique {p : Prog} (hr : p.Respects) {n : Nat}
    (hdl : ∀ c, c < n → ∀ d ∈ p.deps c, d < n) {σ1 σ2 : Nat → V}
    (hdata : ∀ c, c < n → p.formula c = false → σ1 c = σ2 c)
    (h1 : ∀ c k, c < n → p.formula c = true → Hgt p k c → σ1 c = p.f c σ1)
    (h2 : ∀ c k, c < n → p.formula c = true → Hgt p k c → σ2 c = p.f c σ2) :
    ∀ k c, Hgt p k c → c < n → σ1 c = σ2 c := by
  intro k c hh
  induction hh with
  | leaf hf =>
    intro hc
    exact hdata _ hc hf
  | @node k c hf hall ih =>
    intro hc
    have hag : ∀ d ∈ p.reads c σ1, σ1 d = σ2 d := fun d hd =>
      ih d (hr.1 c σ1 d hd) (hdl c hc d (hr.1 c σ1 d hd))
    rw [h1 c (k + 1) hc hf (.node hf hall), h2 c (k + 1) hc hf (.node hf hall),
      (hr.2 c σ1 σ2 hag).2]

theorem inv_quiescent_hgt {p : Prog} {n : Nat} {st : State} (hi : Inv p n st)
    (hq : st.dirty = []) {c k : Nat} (hc : c < n) (hf : p.formula c = true) (hh : Hgt p k c) :
    st.σ c = p.f c st.σ :=
  (inv_quiescent hi hq c hc hf).resolve_right fun h => Hgt.not_dependsOnSelf k c hh h.2

theorem Ranked.hgt {p : Prog} {n : Nat} {rank : Nat → Nat}
    (hdl : ∀ c, c < n → ∀ d ∈ p.deps c, d < n) (hrk : Ranked p n rank) :
    ∀ (k c : Nat), c < n → rank c < k → Hgt p k c := by
  intro k
  induction k with
  | zero =>
    intro c _ h
    omega
  | succ k ih =>
    intro c hc hrc
    cases hf : p.formula c with
    | false => exact .leaf hf
    | true =>
      exact .node hf fun d hd => ih d (hdl c hc d hd)
        (Nat.lt_of_lt_of_le (hrk c hc hf d hd) (Nat.le_of_lt_succ hrc))

/-- Two quiescent states with the invariant and the same data cells agree on every cell whose
    dependency cone is acyclic, wherever the two states come from. -/
theorem quiescent_cone_agree {p : Prog} (hr : p.Respects) {n : Nat}
    (hdl : ∀ c, c < n → ∀ d ∈ p.deps c, d < n) {t1 t2 : State}
    (i1 : Inv p n t1) (i2 : Inv p n t2) (q1 : t1.dirty = []) (q2 : t2.dirty = [])
    (hdata : ∀ c, c < n → p.formula c = false → t1.σ c = t2.σ c) :
    ∀ k c, Hgt p k c → c < n → t1.σ c = t2.σ c :=
  cone_unique hr hdl hdata (fun _ _ hc hf hh => inv_quiescent_hgt i1 q1 hc hf hh)
    (fun _ _ hc hf hh => inv_quiescent_hgt i2 q2 hc hf hh)

theorem calc_run_untouched {p : Prog} {n : Nat} (es : List Ev) {st st' : State}
    (hes : ∀ e ∈ es, e.isCalc = true) (h : run p n st es = some st') (c : Nat)
    (hc : p.formula c = false ∨ n ≤ c) : st'.σ c = st.σ c := by
  refine run_induction (I := fun s => s.σ c = st.σ c) es (fun e he s s' hs h => ?_) rfl h
  obtain ⟨c0, v, ⟨hlt, hf, _⟩, rfl⟩ := calc_step_eq (hes e he) h
  have : c ≠ c0 := by
    rintro rfl
    rcases hc with hc | hc
    · rw [hc] at hf
      cases hf
    · omega
  exact (upd_ne this).trans hs

theorem reaches_mono_succ {p : Prog} : ∀ (fuel c t : Nat),
    reaches p (fun _ => true) fuel c t = true → reaches p (fun _ => true) (fuel + 1) c t = true := by
  intro fuel
  induction fuel with
  | zero =>
    intro c t h
    cases h
  | succ fuel ih =>
    intro c t h
    obtain ⟨hf, d, hd, h⟩ := reaches_succ.mp h
    exact reaches_succ.mpr ⟨hf, d, hd, h.imp_right (ih d t)⟩

theorem reaches_mono_le {p : Prog} {c t : Nat} : ∀ {f g : Nat}, f ≤ g →
    reaches p (fun _ => true) f c t = true → reaches p (fun _ => true) g c t = true := by
  intro f g hfg h
  induction hfg with
  | refl => exact h
  | step _ ih => exact reaches_mono_succ _ c t ih

theorem reaches_of_chain {p : Prog} : ∀ (m : Nat) (x : Nat → Nat),
    (∀ t, t ≤ m → p.formula (x t) = true ∧ x (t + 1) ∈ p.deps (x t)) →
    reaches p (fun _ => true) (m + 1) (x 0) (x (m + 1)) = true := by
  intro m
  induction m with
  | zero =>
    intro x hch
    obtain ⟨hf, hd⟩ := hch 0 (Nat.le_refl _)
    exact reaches_succ.mpr ⟨hf, x 1, hd, .inl rfl⟩
  | succ m ih =>
    intro x hch
    obtain ⟨hf, hd⟩ := hch 0 (Nat.zero_le _)
    exact reaches_succ.mpr ⟨hf, x 1, hd,
      .inr (ih (fun t => x (t + 1)) fun t ht => hch (t + 1) (Nat.succ_le_succ ht))⟩

theorem not_hgt_formula {p : Prog} {k c : Nat} (h : ¬ Hgt p k c) : p.formula c = true := by
  cases hf : p.formula c with
  | false => exact absurd (.leaf hf) h
  | true => rfl

theorem chain_of_not_hgt {p : Prog} : ∀ (k c : Nat), ¬ Hgt p k c →
    ∃ x : Nat → Nat, x 0 = c ∧
      ∀ t, t < k → p.formula (x t) = true ∧ x (t + 1) ∈ p.deps (x t) := by
  intro k
  induction k with
  | zero =>
    intro c _
    exact ⟨fun _ => c, rfl, fun t h => absurd h (Nat.not_lt_zero t)⟩
  | succ k ih =>
    intro c h
    have hf := not_hgt_formula h
    have hex : ∃ d, d ∈ p.deps c ∧ ¬ Hgt p k d :=
      Classical.byContradiction fun hne => h (.node hf fun d hd =>
        Classical.byContradiction fun hn => hne ⟨d, hd, hn⟩)
    obtain ⟨d, hd, hnd⟩ := hex
    obtain ⟨x, rfl, hx⟩ := ih d hnd
    refine ⟨fun t => match t with | 0 => c | t + 1 => x t, rfl, fun t ht => ?_⟩
    cases t with
    | zero => exact ⟨hf, hd⟩
    | succ t => exact hx t (by omega)

/-- Otherwise the cone of `c` holds a path of `n` edges; two of its `n + 1` cells coincide, and that
    cell lies on a cycle that `c` reaches. -/
theorem hgt_of_not_reachesCycle {p : Prog} {n : Nat}
    (hdl : ∀ c, c < n → ∀ d ∈ p.deps c, d < n) {c : Nat} (hc : c < n)
    (h : reachesCycle p n c = false) : Hgt p n c := by
  apply Classical.byContradiction
  intro hn
  obtain ⟨x, rfl, hx⟩ := chain_of_not_hgt n c hn
  have hlt : ∀ i, i ≤ n → x i < n := by
    intro i
    induction i with
    | zero =>
      intro _
      exact hc
    | succ i ih =>
      intro hi
      exact hdl _ (ih (by omega)) _ (hx i (by omega)).2
  obtain ⟨i, j, hij, hj, he⟩ := pigeonhole n x hlt
  obtain ⟨m, rfl⟩ := Nat.exists_eq_add_of_lt hij
  have hcyc : reaches p (fun _ => true) (m + 1) (x i) (x (i + m + 1)) = true :=
    reaches_of_chain m (fun t => x (i + t)) fun t _ => hx _ (by omega)
  rw [← he] at hcyc
  have hreach : (x i == x 0) = true ∨ reaches p (fun _ => true) n (x 0) (x i) = true := by
    cases i with
    | zero => exact .inl (by simp)
    | succ i =>
      exact .inr (reaches_mono_le (by omega) (reaches_of_chain i x fun t _ => hx t (by omega)))
  have : reachesCycle p n (x 0) = true := by
    simp only [reachesCycle, onCycle, List.any_eq_true, List.mem_range, Bool.and_eq_true,
      Bool.or_eq_true]
    exact ⟨_, hlt i (by omega), reaches_mono_le (by omega) hcyc, hreach⟩
  rw [h] at this
  cases this

end Grist.Recalc
