/-
`BulkAddOrUpdateRecord` against its row-at-a-time reference (model: GristModel/Upsert.lean).
Defines `wrap` / `singleOf` (used in the C28 statements), `rowFold`, `applyAll`, the loop invariant
`Rel`, `lateCheck`, `SameOutcomeOn`.  Main facts: `cell_bulkUpdate`, `rel_run`, `impl_same_spec_on`
(record by record; `impl_same_spec` is its case without repeated records), `impl_frame`,
`updTargets_nodup`, and the `validate_*` lemmas (one per class of invalid arguments).
-/
import GristModel.Upsert
import GristProofs.Basics
namespace Grist.Upsert

section Single
variable {κ α : Type} [DecidableEq κ] [DecidableEq α]

/-- The request `AddOrUpdateRecord` hands to `BulkAddOrUpdateRecord`. -/
def wrap (require : List (κ × Cell α)) (colValues : List (κ × α)) : Request κ α :=
  { require := require.map (fun p => (p.1, [p.2])), colValues := colValues.map (fun p => (p.1, [p.2])) }

/-- How `AddOrUpdateRecord` reads the bulk result. -/
def singleOf (r : Except Err (Table κ α × Result)) : Except Err (Table κ α × SingleResult) :=
  match r with
  | .error e => .error e
  | .ok (t, res) =>
    match res.recordIds with
    | [] => .ok (t, ⟨[], .none⟩)
    | ids :: _ =>
      .ok (t, ⟨ids, if res.updateRecordIds.length > 0 then .update
                    else if res.addRecordIds.length > 0 then .add else .none⟩)

end Single

section Assoc
variable {κ β : Type} [DecidableEq κ]

@[simp] theorem aget_nil (c : κ) : aget ([] : List (κ × β)) c = none := rfl

theorem aget_cons (p : κ × β) (r : List (κ × β)) (c : κ) :
    aget (p :: r) c = if p.1 = c then some p.2 else aget r c := rfl

theorem aget_aset (l : List (κ × β)) (c : κ) (v : β) (c' : κ) :
    aget (aset l c v) c' = if c = c' then some v else aget l c' := by
  induction l with
  | nil => rfl
  | cons p r ih =>
    by_cases hk : p.1 = c
    · subst hk
      simp only [aset, if_true, aget_cons]
      split <;> rfl
    · simp only [aset, hk, if_false, aget_cons, ih]
      by_cases h : p.1 = c'
      · rw [if_pos h, if_neg (h ▸ Ne.symm hk), if_pos h]
      · rw [if_neg h, if_neg h]

theorem aget_append (a b : List (κ × β)) (c : κ) :
    aget (a ++ b) c = match aget a c with | some v => some v | none => aget b c := by
  induction a with
  | nil => rfl
  | cons p r ih =>
    simp only [List.cons_append, aget_cons, ih]
    split <;> rfl

theorem aget_eq_none_iff {l : List (κ × β)} {c : κ} : aget l c = none ↔ c ∉ akeys l := by
  induction l with
  | nil => simp [akeys]
  | cons p r ih =>
    rw [aget_cons]
    by_cases h : p.1 = c
    · simp [h, akeys]
    · simp [h, ih, akeys, Ne.symm h]

theorem aget_append_of_mem (a b : List (κ × β)) (c : κ) (h : c ∈ akeys a) :
    aget (a ++ b) c = aget a c := by
  rw [aget_append]
  cases hx : aget a c with
  | some v => rfl
  | none => exact absurd h (aget_eq_none_iff.mp hx)

theorem aget_filter_key (l : List (κ × β)) (P : κ → Bool) (c : κ) :
    aget (l.filter (fun p => P p.1)) c = if P c then aget l c else none := by
  induction l with
  | nil => simp
  | cons p r ih =>
    by_cases h : p.1 = c
    · subst h
      cases hP : P p.1 <;> simp [hP, aget_cons, ih]
    · cases hP : P p.1 <;> simp [hP, aget_cons, ih, h]

theorem aget_map_val {γ : Type} (l : List (κ × β)) (g : κ → β → γ) (c : κ) :
    aget (l.map (fun p => (p.1, g p.1 p.2))) c = (aget l c).map (g c) := by
  induction l with
  | nil => rfl
  | cons p r ih =>
    simp only [List.map_cons, aget_cons, ih]
    split
    · rename_i h
      subst h
      rfl
    · rfl

theorem aget_mem {l : List (κ × β)} {c : κ} {v : β} (h : aget l c = some v) : (c, v) ∈ l := by
  induction l with
  | nil => cases h
  | cons p r ih =>
    rw [aget_cons] at h
    split at h
    · rename_i hk
      cases h
      cases hk
      exact List.mem_cons_self ..
    · exact List.mem_cons_of_mem _ (ih h)

theorem mem_akeys_of_aget {l : List (κ × β)} {c : κ} {v : β} (h : aget l c = some v) : c ∈ akeys l :=
  List.mem_map_of_mem (f := (·.1)) (aget_mem h)

end Assoc

section Distinct
variable {β : Type} [DecidableEq β]

theorem mem_distinct (l : List β) (x : β) : x ∈ distinct l ↔ x ∈ l := by
  induction l with
  | nil => simp [distinct]
  | cons y ys ih =>
    simp only [distinct]
    by_cases h : y ∈ ys
    · simp only [h, if_true, ih, List.mem_cons]
      constructor
      · intro hx
        exact Or.inr hx
      · rintro (rfl | hx)
        · exact h
        · exact hx
    · simp [h, ih]

theorem distinct_length_le (l : List β) : (distinct l).length ≤ l.length := by
  induction l with
  | nil => simp [distinct]
  | cons y ys ih =>
    simp only [distinct]
    by_cases h : y ∈ ys
    · simp only [h, if_true, List.length_cons]
      omega
    · simp only [h, if_false, List.length_cons]
      omega

theorem distinct_length_eq_iff (l : List β) : (distinct l).length = l.length ↔ l.Nodup := by
  induction l with
  | nil => simp [distinct]
  | cons y ys ih =>
    simp only [distinct, List.nodup_cons]
    by_cases h : y ∈ ys
    · simp only [h, if_true, List.length_cons, not_true_eq_false, false_and, iff_false]
      have := distinct_length_le ys
      omega
    · simp only [h, if_false, List.length_cons, not_false_eq_true, true_and]
      rw [← ih]
      omega

theorem eq_of_distinct_singleton {l : List β} {n : β} (h : distinct l = [n]) : ∀ x ∈ l, x = n := by
  intro x hx
  have := (mem_distinct l x).mpr hx
  rw [h] at this
  simpa using this

theorem distinct_eq_singleton (l : List β) (n : β) (hne : l ≠ [])
    (h : ∀ x ∈ l, x = n) : distinct l = [n] := by
  induction l with
  | nil => exact absurd rfl hne
  | cons x xs ih =>
    have hx : x = n := h x (by simp)
    subst hx
    simp only [distinct]
    by_cases hm : x ∈ xs
    · rw [if_pos hm]
      exact ih (by intro h0; rw [h0] at hm; cases hm) (fun y hy => h y (List.mem_cons_of_mem _ hy))
    · rw [if_neg hm]
      cases xs with
      | nil => rfl
      | cons y ys => exact absurd (by rw [h y (by simp)]; simp) hm

end Distinct

section Tables
variable {κ α : Type} [DecidableEq κ]

theorem setAll_cons (rc : Rec κ α) (k : κ) (v : α) (r : Rec κ α) :
    setAll rc ((k, v) :: r) = aset (setAll rc r) k v := rfl

theorem aget_setAll (rc vals : Rec κ α) (c : κ) :
    aget (setAll rc vals) c = match aget vals c with | some v => some v | none => aget rc c := by
  induction vals with
  | nil => simp [setAll]
  | cons p r ih =>
    obtain ⟨k, v⟩ := p
    rw [setAll_cons, aget_aset, aget_cons]
    by_cases h : k = c <;> simp [h, ih]

theorem updateRow_eq (t : Table κ α) (r' : Nat) (vals : Rec κ α) :
    updateRow t r' vals = t.map (fun p => (p.1, (fun i rc => if i = r' then setAll rc vals else rc) p.1 p.2)) := by
  unfold updateRow
  apply List.map_congr_left
  intro p _
  by_cases h : p.1 = r' <;> simp [h]

theorem tids_updateRow (t : Table κ α) (r' : Nat) (vals : Rec κ α) :
    tids (updateRow t r' vals) = tids t := by
  rw [updateRow_eq]
  simp [tids, List.map_map, Function.comp_def]

theorem aget_updateRow (t : Table κ α) (r' : Nat) (vals : Rec κ α) (r : Nat) :
    aget (updateRow t r' vals) r = (aget t r).map (fun rc => if r = r' then setAll rc vals else rc) := by
  rw [updateRow_eq]
  exact aget_map_val t (fun i rc => if i = r' then setAll rc vals else rc) r

/-- What a sequence of row updates does to the one record with id `r`. -/
def rowFold (r : Nat) (f : Nat × Rec κ α → Rec κ α) (es : List (Nat × Rec κ α)) (rc : Rec κ α) :
    Rec κ α :=
  es.foldl (fun q e => if r = e.1 then setAll q (f e) else q) rc

theorem rowFold_cons (r : Nat) (f : Nat × Rec κ α → Rec κ α) (e : Nat × Rec κ α)
    (es : List (Nat × Rec κ α)) (rc : Rec κ α) :
    rowFold r f (e :: es) rc = rowFold r f es (if r = e.1 then setAll rc (f e) else rc) := rfl

theorem tids_foldl_updateRow (f : Nat × Rec κ α → Rec κ α) (es : List (Nat × Rec κ α)) (t : Table κ α) :
    tids (es.foldl (fun tb e => updateRow tb e.1 (f e)) t) = tids t := by
  induction es generalizing t with
  | nil => rfl
  | cons e es ih =>
    simp only [List.foldl_cons]
    rw [ih, tids_updateRow]

theorem aget_foldl_updateRow (f : Nat × Rec κ α → Rec κ α) (es : List (Nat × Rec κ α)) (t : Table κ α)
    (r : Nat) :
    aget (es.foldl (fun tb e => updateRow tb e.1 (f e)) t) r = (aget t r).map (rowFold r f es) := by
  induction es generalizing t with
  | nil =>
    simp only [List.foldl_nil]
    cases h : aget t r <;> rfl
  | cons e es ih =>
    simp only [List.foldl_cons]
    rw [ih, aget_updateRow, Option.map_map]
    rfl

theorem rowFold_noop (r : Nat) (f : Nat × Rec κ α → Rec κ α) (es : List (Nat × Rec κ α)) (rc : Rec κ α)
    (h : ∀ e ∈ es, e.1 ≠ r) : rowFold r f es rc = rc := by
  induction es generalizing rc with
  | nil => rfl
  | cons e es ih =>
    rw [rowFold_cons, if_neg (fun hr => h e (by simp) hr.symm)]
    exact ih rc (fun e' he' => h e' (List.mem_cons_of_mem _ he'))

theorem rowFold_cell_untouched (r : Nat) (f : Nat × Rec κ α → Rec κ α) (es : List (Nat × Rec κ α))
    (rc : Rec κ α) (c : κ) (h : ∀ e ∈ es, aget (f e) c = none) :
    aget (rowFold r f es rc) c = aget rc c := by
  induction es generalizing rc with
  | nil => rfl
  | cons e es ih =>
    rw [rowFold_cons, ih _ (fun e' he' => h e' (List.mem_cons_of_mem _ he'))]
    split
    · rw [aget_setAll, h e (by simp)]
    · rfl

/-- With row `r` named at most once, dropping or shrinking entries may be judged entry by entry. -/
theorem rowFold_filter_cell (r : Nat) (f f' : Nat × Rec κ α → Rec κ α) (keep : Nat × Rec κ α → Bool)
    (es : List (Nat × Rec κ α)) (rc0 : Rec κ α) (c : κ)
    (hone : (es.map (·.1)).count r ≤ 1)
    (hce : ∀ e ∈ es, e.1 = r →
      aget (if keep e then setAll rc0 (f' e) else rc0) c = aget (setAll rc0 (f e)) c) :
    aget (rowFold r f' (es.filter keep) rc0) c = aget (rowFold r f es rc0) c := by
  induction es with
  | nil => rfl
  | cons e es ih =>
    rw [List.map_cons] at hone
    by_cases hr : e.1 = r
    · rw [hr, List.count_cons_self] at hone
      have hrest : ∀ e' ∈ es, e'.1 ≠ r := fun e' he' h' =>
        List.count_eq_zero.mp (Nat.le_zero.mp (Nat.le_of_succ_le_succ hone))
          (h' ▸ List.mem_map_of_mem (f := (·.1)) he')
      have hrest' : ∀ e' ∈ es.filter keep, e'.1 ≠ r := fun e' he' => hrest e' (List.mem_filter.mp he').1
      have h0 := hce e (by simp) hr
      rw [rowFold_cons, if_pos hr.symm, rowFold_noop r f es _ hrest]
      by_cases hk : keep e = true
      · rw [List.filter_cons_of_pos hk, rowFold_cons, if_pos hr.symm, rowFold_noop r f' _ _ hrest']
        simpa [hk] using h0
      · rw [List.filter_cons_of_neg hk, rowFold_noop r f' _ _ hrest']
        simpa [hk] using h0
    · rw [List.count_cons_of_ne hr] at hone
      have ih' := ih hone (fun e' he' => hce e' (List.mem_cons_of_mem _ he'))
      rw [rowFold_cons, if_neg (fun h => hr h.symm)]
      by_cases hk : keep e = true
      · rw [List.filter_cons_of_pos hk, rowFold_cons, if_neg (fun h => hr h.symm)]
        exact ih'
      · rw [List.filter_cons_of_neg hk]
        exact ih'

theorem newRows_append (dflt : Rec κ α) (nx : Nat) (vs : List (Rec κ α)) (v : Rec κ α) :
    newRows dflt nx (vs ++ [v]) = newRows dflt nx vs ++ [(nx + vs.length, setAll dflt v)] := by
  induction vs generalizing nx with
  | nil => simp [newRows]
  | cons w ws ih =>
    simp only [List.cons_append, newRows, ih, List.length_cons]
    have : nx + 1 + ws.length = nx + (ws.length + 1) := by omega
    rw [this]

theorem tids_newRows (dflt : Rec κ α) (nx : Nat) (vs : List (Rec κ α)) :
    tids (newRows dflt nx vs) = List.range' nx vs.length := by
  induction vs generalizing nx with
  | nil => rfl
  | cons w ws ih => exact congrArg (nx :: ·) (ih (nx + 1))

omit [DecidableEq κ] in
theorem tids_append (a b : Table κ α) : tids (a ++ b) = tids a ++ tids b := by
  simp [tids]

theorem updateRow_append (a b : Table κ α) (r : Nat) (vals : Rec κ α) :
    updateRow (a ++ b) r vals = updateRow a r vals ++ updateRow b r vals := by
  simp [updateRow]

theorem updateRow_of_not_mem (b : Table κ α) (r : Nat) (vals : Rec κ α) (h : r ∉ tids b) :
    updateRow b r vals = b := by
  unfold updateRow
  conv => rhs; rw [← List.map_id b]
  apply List.map_congr_left
  intro p hp
  have : p.1 ≠ r := by
    intro hpr
    apply h
    rw [← hpr]
    exact List.mem_map_of_mem hp
  simp [this]

theorem foldl_updateRow_append {ι : Type} (f : ι → Nat) (g : ι → Rec κ α) (es : List ι)
    (a b : Table κ α) (h : ∀ e ∈ es, f e ∉ tids b) :
    es.foldl (fun tb e => updateRow tb (f e) (g e)) (a ++ b)
      = es.foldl (fun tb e => updateRow tb (f e) (g e)) a ++ b := by
  induction es generalizing a with
  | nil => rfl
  | cons e es ih =>
    simp only [List.foldl_cons]
    rw [updateRow_append, updateRow_of_not_mem b _ _ (h e (List.mem_cons_self ..))]
    exact ih _ (fun e' he' => h e' (List.mem_cons_of_mem _ he'))

theorem not_mem_tids_newRows (t0 : Table κ α) (next : Nat) (dflt : Rec κ α) (vs : List (Rec κ α))
    (hnext : ∀ r ∈ tids t0, r < next) (r : Nat) (hr : r ∈ tids t0) : r ∉ tids (newRows dflt next vs) := by
  intro hmem
  rw [tids_newRows, List.mem_range'_1] at hmem
  have h1 := hnext r hr
  omega

theorem fillCols_nil (t : Table κ α) : fillCols t [] = t := by
  unfold fillCols
  induction t with
  | nil => rfl
  | cons p r ih =>
    simp only [List.map_cons, ih]
    rfl

theorem tids_fillCols (t : Table κ α) (f : Rec κ α) : tids (fillCols t f) = tids t := by
  unfold fillCols tids
  rw [List.map_map]
  rfl

theorem aget_addValues (sch : Schema κ) (rq : Request κ α) (i : Nat) (k : κ) :
    aget (addValues sch rq i) k = match aget (rowAt rq.colValues i) k with
      | some v => some v
      | none => if aget sch k ≠ some .formula then (aget (rowAt rq.require i) k).map (·.store)
                else none := by
  unfold addValues
  rw [aget_setAll,
    aget_map_val ((rowAt rq.require i).filter (fun p => decide (aget sch p.1 ≠ some ColKind.formula)))
      (fun _ c => c.store) k,
    aget_filter_key (rowAt rq.require i) (fun k => decide (aget sch k ≠ some ColKind.formula)) k]
  cases aget (rowAt rq.colValues i) k with
  | some v => rfl
  | none => by_cases hk : aget sch k = some .formula <;> simp [hk]

variable [DecidableEq α]

/-- One entry of a trimmed bulk update, seen from the record it names: dropped or shrunk, it
    leaves in every cell what the whole entry leaves. -/
theorem trim_entry_cell (t : Table κ α) (es : List (Nat × Rec κ α)) (cols cols' : List κ)
    (hcols' : ∀ c, c ∈ cols' ↔ (c ∈ cols ∧ ∃ e ∈ es, differs t e c = true))
    (e : Nat × Rec κ α) (he : e ∈ es) (rc0 : Rec κ α)
    (hcell : ∀ c', cell t e.1 c' = aget rc0 c')
    (hk : ∀ c v, aget e.2 c = some v → c ∈ cols) (c : κ) :
    aget (if cols'.any (fun c => differs t e c) = true
            then setAll rc0 (e.2.filter (fun p => decide (p.1 ∈ cols'))) else rc0) c
      = aget (setAll rc0 e.2) c := by
  -- a cell that does not differ is the cell of the record before the action
  have hsame : ∀ c', differs t e c' = false → aget e.2 c' = aget rc0 c' := by
    intro c' hd
    unfold differs at hd
    rw [hcell c'] at hd
    simpa using hd
  have hfilt := aget_filter_key e.2 (fun k => decide (k ∈ cols')) c
  rw [aget_setAll rc0 e.2 c]
  cases hv : aget e.2 c with
  | none =>
    split
    · rw [aget_setAll, hfilt]
      simp [hv]
    · rfl
  | some v =>
    have hc : c ∈ cols := hk c v hv
    dsimp only
    by_cases hkeep : cols'.any (fun c => differs t e c) = true
    · rw [if_pos hkeep, aget_setAll, hfilt]
      by_cases hc' : c ∈ cols'
      · simp [hc', hv]
      · have hd : differs t e c = false := by
          cases hd : differs t e c with
          | false => rfl
          | true => exact absurd ((hcols' c).mpr ⟨hc, e, he, hd⟩) hc'
        have := hsame c hd
        simp [hc', ← this, hv]
    · rw [if_neg hkeep]
      have hd : differs t e c = false := by
        cases hd : differs t e c with
        | false => rfl
        | true =>
          exfalso
          apply hkeep
          rw [List.any_eq_true]
          exact ⟨c, (hcols' c).mpr ⟨hc, e, he, hd⟩, hd⟩
      rw [← hsame c hd, hv]

/-- `trim_update_action` is harmless in every record named at most once: cell by cell, the trimmed
    `BulkUpdateRecord` leaves there what the plain sequence of `UpdateRecord`s leaves. -/
theorem cell_bulkUpdate (t : Table κ α) (es : List (Nat × Rec κ α)) (cols : List κ)
    (hk : ∀ e ∈ es, ∀ c v, aget e.2 c = some v → c ∈ cols) (r : Nat)
    (hone : (es.map (·.1)).count r ≤ 1) (c : κ) :
    cell (bulkUpdate t es cols) r c = cell (es.foldl (fun tb e => updateRow tb e.1 e.2) t) r c := by
  unfold cell bulkUpdate
  dsimp only
  generalize hcd : List.filter (fun c => es.any fun e => differs t e c) cols = cols'
  have hcols' : ∀ c, c ∈ cols' ↔ (c ∈ cols ∧ ∃ e ∈ es, differs t e c = true) := by
    intro c
    rw [← hcd, List.mem_filter, List.any_eq_true]
  rw [aget_foldl_updateRow (fun e => e.2.filter (fun p => decide (p.1 ∈ cols'))),
      aget_foldl_updateRow (fun e => e.2)]
  cases hrc : aget t r with
  | none => rfl
  | some rc0 =>
    simp only [Option.map_some, Option.bind_some]
    apply rowFold_filter_cell r (fun e => e.2) _ _ es rc0 c hone
    intro e he her
    have hcell : ∀ c', cell t e.1 c' = aget rc0 c' := by
      intro c'
      unfold cell
      rw [her, hrc]
      rfl
    exact trim_entry_cell t es cols cols' hcols' e he rc0 hcell (hk e he) c

theorem tids_bulkUpdate (t : Table κ α) (es : List (Nat × Rec κ α)) (cols : List κ) :
    tids (bulkUpdate t es cols) = tids t := by
  unfold bulkUpdate
  exact tids_foldl_updateRow _ _ _

theorem aget_bulkUpdate_of_not_mem (t : Table κ α) (es : List (Nat × Rec κ α)) (cols : List κ) (r : Nat)
    (h : r ∉ es.map (·.1)) : aget (bulkUpdate t es cols) r = aget t r := by
  unfold bulkUpdate
  dsimp only
  rw [aget_foldl_updateRow]
  cases aget t r with
  | none => rfl
  | some rc =>
    simp only [Option.map_some]
    rw [rowFold_noop]
    intro e he her
    exact h (by rw [← her]; exact List.mem_map_of_mem (List.mem_filter.mp he).1)

theorem cell_bulkUpdate_of_not_col (t : Table κ α) (es : List (Nat × Rec κ α)) (cols : List κ) (r : Nat)
    (c : κ) (h : c ∉ cols) : cell (bulkUpdate t es cols) r c = cell t r c := by
  unfold cell bulkUpdate
  dsimp only
  rw [aget_foldl_updateRow]
  cases aget t r with
  | none => rfl
  | some rc =>
    simp only [Option.map_some, Option.bind_some]
    apply rowFold_cell_untouched
    intro e _
    have := aget_filter_key e.2
      (fun k => decide (k ∈ List.filter (fun c => es.any fun e => differs t e c) cols)) c
    rw [this]
    have hc : c ∉ List.filter (fun c => es.any fun e => differs t e c) cols :=
      fun hm => h (List.mem_filter.mp hm).1
    simp [hc]

theorem lookupRecords_sublist (t : Table κ α) (key : Rec κ α) :
    (lookupRecords t key).Sublist (tids t) :=
  List.Sublist.map _ List.filter_sublist

theorem fillIds_append (a b : List (Option (List Nat))) (nx : Nat) :
    fillIds (a ++ b) nx = fillIds a nx ++ fillIds b (nx + a.count none) := by
  induction a generalizing nx with
  | nil => rfl
  | cons x r ih =>
    cases x with
    | none => simp only [List.cons_append, fillIds, ih, List.count_cons_self, Nat.add_right_comm nx 1,
        Nat.add_assoc]
    | some l => simp [fillIds, ih]

/-- `selectMany` (the code) and `receivers` (the documentation) choose the same records. -/
theorem selectMany_receivers (opt : Options) (ms : List Nat) (hne : ms ≠ []) :
    match selectMany opt ms with
    | none => receivers opt ms = []
    | some recs => receivers opt ms = recs ∧ recs ≠ [] ∧ recs.Sublist ms := by
  unfold selectMany receivers
  rcases ms with _ | ⟨x, _ | ⟨y, l⟩⟩
  · exact absurd rfl hne
  · cases opt.onMany <;> simp
  · cases opt.onMany <;> simp

theorem aget_rowAt_mem {β : Type} (cols : List (κ × List β)) (i : Nat) (c : κ) (v : β)
    (h : aget (rowAt cols i) c = some v) : c ∈ akeys cols := by
  have hm := mem_akeys_of_aget h
  unfold akeys rowAt at hm
  obtain ⟨q, hq, rfl⟩ := List.mem_map.mp hm
  obtain ⟨p, hp, hpq⟩ := List.mem_filterMap.mp hq
  cases hv : p.2[i]? with
  | none =>
    rw [hv] at hpq
    cases hpq
  | some w =>
    rw [hv] at hpq
    cases hpq
    exact List.mem_map_of_mem hp

/-- The plain sequence of `UpdateRecord`s for the accumulated (row id, values) pairs. -/
def applyAll (es : List (Nat × Rec κ α)) (t : Table κ α) : Table κ α :=
  es.foldl (fun tb e => updateRow tb e.1 e.2) t

/-- One input row does the same to the accumulators and to the reference state: a record is added,
    nothing happens, or the non-empty selection `recs` of the matches receives `col_values`. -/
theorem step_cases (sch : Schema κ) (t0 : Table κ α) (dflt : Rec κ α) (rq : Request κ α)
    (opt : Options) (acc : Acc κ α) (st : SpecState κ α) (i : Nat) :
    (implStep sch t0 rq opt acc i =
        { acc with adds := acc.adds ++ [addValues sch rq i], recordIds := acc.recordIds ++ [none] } ∧
      specStep sch t0 dflt rq opt st i =
        { st with table := st.table ++ [(st.next, setAll dflt (addValues sch rq i))],
                  next := st.next + 1,
                  recordIds := st.recordIds ++ [[st.next]],
                  addIds := st.addIds ++ [st.next] }) ∨
    (implStep sch t0 rq opt acc i = { acc with recordIds := acc.recordIds ++ [some []] } ∧
      specStep sch t0 dflt rq opt st i = { st with recordIds := st.recordIds ++ [[]] }) ∨
    ∃ recs, recs ≠ [] ∧ recs.Sublist (lookupRecords t0 (convKey rq i)) ∧
      implStep sch t0 rq opt acc i =
        { acc with upds := acc.upds ++ recs.map (fun r => (r, rowAt rq.colValues i)),
                   recordIds := acc.recordIds ++ [some recs],
                   updateRecordIds := acc.updateRecordIds ++ [recs] } ∧
      specStep sch t0 dflt rq opt st i =
        { st with table := recs.foldl (fun tb r => updateRow tb r (rowAt rq.colValues i)) st.table,
                  recordIds := st.recordIds ++ [recs],
                  updIds := st.updIds ++ [recs] } := by
  unfold implStep specStep
  dsimp only
  by_cases hempty : (lookupRecords t0 (convKey rq i)).isEmpty = true
  · rw [if_pos hempty, if_pos hempty]
    by_cases hadd : opt.add = true
    · rw [if_pos hadd, if_pos hadd]
      exact Or.inl ⟨rfl, rfl⟩
    · rw [if_neg hadd, if_neg hadd]
      exact Or.inr (Or.inl ⟨rfl, rfl⟩)
  · rw [if_neg hempty, if_neg hempty]
    by_cases hupd : opt.update = true
    · rw [if_pos hupd, if_pos hupd]
      have hsr := selectMany_receivers opt _ (mt List.isEmpty_iff.mpr hempty)
      cases hsel : selectMany opt (lookupRecords t0 (convKey rq i)) with
      | none =>
        rw [hsel] at hsr
        rw [hsr]
        exact Or.inr (Or.inl ⟨rfl, rfl⟩)
      | some recs =>
        rw [hsel] at hsr
        obtain ⟨hrecv, hrne, hsub⟩ := hsr
        rw [hrecv, List.isEmpty_eq_false_iff.mpr hrne]
        exact Or.inr (Or.inr ⟨recs, hrne, hsub, rfl, rfl⟩)
    · rw [if_neg hupd, if_neg hupd]
      exact Or.inr (Or.inl ⟨rfl, rfl⟩)

/-- `st` is the reference state the accumulators stand for, plus what the accumulators satisfy. -/
structure Rel (t0 : Table κ α) (next : Nat) (dflt : Rec κ α) (rq : Request κ α)
    (acc : Acc κ α) (st : SpecState κ α) : Prop where
  htable : st.table = applyAll acc.upds t0 ++ newRows dflt next acc.adds
  hnx : st.next = next + acc.adds.length
  hrec : st.recordIds = fillIds acc.recordIds next
  nones : acc.recordIds.count none = acc.adds.length
  hadds : st.addIds = (List.range acc.adds.length).map (fun k => next + k)
  hupds : st.updIds = acc.updateRecordIds
  inT0 : ∀ e ∈ acc.upds, e.1 ∈ tids t0
  flat : acc.updateRecordIds.flatten = acc.upds.map (·.1)
  keys : ∀ e ∈ acc.upds, ∀ c v, aget e.2 c = some v → c ∈ akeys rq.colValues
  empties : acc.updateRecordIds.isEmpty = acc.upds.isEmpty

omit [DecidableEq α] in
theorem rel_init (t0 : Table κ α) (next : Nat) (dflt : Rec κ α) (rq : Request κ α) :
    Rel t0 next dflt rq ({} : Acc κ α) { table := t0, next := next } := by
  constructor <;> simp [applyAll, newRows, fillIds]

theorem rel_step (sch : Schema κ) (t0 : Table κ α) (next : Nat) (dflt : Rec κ α) (rq : Request κ α)
    (opt : Options) (hnext : ∀ r ∈ tids t0, r < next)
    (acc : Acc κ α) (st : SpecState κ α) (i : Nat) (h : Rel t0 next dflt rq acc st) :
    Rel t0 next dflt rq (implStep sch t0 rq opt acc i) (specStep sch t0 dflt rq opt st i) := by
  rcases step_cases sch t0 dflt rq opt acc st i with ⟨hi, hs⟩ | ⟨hi, hs⟩ | ⟨recs, hrne, hsub, hi, hs⟩ <;>
    rw [hi, hs]
  · exact { h with
      htable := by simp only [h.htable, newRows_append, h.hnx, List.append_assoc]
      hnx := by simp only [h.hnx, List.length_append, List.length_singleton, Nat.add_assoc]
      hrec := by simp only [fillIds_append, fillIds, h.hrec, h.nones, h.hnx]
      nones := by simp [h.nones]
      hadds := by simp only [h.hadds, h.hnx, List.length_append, List.length_singleton,
        List.range_succ, List.map_append, List.map_cons, List.map_nil] }
  · exact { h with
      hrec := by simp only [fillIds_append, fillIds, h.hrec]
      nones := by simp [h.nones] }
  · have hin : ∀ r ∈ recs, r ∈ tids t0 := fun r hr => (lookupRecords_sublist t0 _).subset (hsub.subset hr)
    exact { h with
      htable := by
        -- the updates cannot reach the rows added so far
        simp only [h.htable, applyAll, List.foldl_append, List.foldl_map]
        refine foldl_updateRow_append _ _ _ _ _ fun r hr => ?_
        exact not_mem_tids_newRows t0 next dflt acc.adds hnext r (hin r hr)
      hrec := by simp only [fillIds_append, fillIds, h.hrec]
      nones := by simp [h.nones]
      hupds := by simp only [h.hupds]
      inT0 := by
        simp only [List.mem_append, List.mem_map]
        rintro e (he | ⟨r, hr, rfl⟩)
        · exact h.inT0 e he
        · exact hin r hr
      flat := by simp only [List.flatten_append, h.flat, List.map_append, List.map_map,
        List.flatten_cons, List.flatten_nil, List.append_nil, Function.comp_def, List.map_id']
      keys := by
        simp only [List.mem_append, List.mem_map]
        rintro e (he | ⟨r, hr, rfl⟩)
        · exact h.keys e he
        · exact aget_rowAt_mem rq.colValues i
      empties := by rw [Bool.eq_iff_iff]; simp [hrne] }

theorem rel_run (sch : Schema κ) (t0 : Table κ α) (next : Nat) (dflt : Rec κ α) (rq : Request κ α)
    (opt : Options) (hnext : ∀ r ∈ tids t0, r < next) (n : Nat) :
    Rel t0 next dflt rq (implAcc sch t0 rq opt n)
      ((List.range n).foldl (specStep sch t0 dflt rq opt) { table := t0, next := next }) := by
  unfold implAcc
  induction n with
  | zero => exact rel_init t0 next dflt rq
  | succ n ih =>
    rw [List.range_succ, List.foldl_append, List.foldl_append]
    exact rel_step sch t0 next dflt rq opt hnext _ _ n ih

omit [DecidableEq κ] in
/-- `num_unique_keys < length`: some `require` tuple (as sent) occurs twice. -/
theorem rawKeys_dup_iff (rq : Request κ α) (n : Nat) :
    (distinct (rawKeys rq n)).length < n ↔ ¬ (rawKeys rq n).Nodup := by
  have hle := distinct_length_le (rawKeys rq n)
  have hlen : (rawKeys rq n).length = n := by simp [rawKeys]
  rw [← distinct_length_eq_iff]
  omega

theorem validate_some {sch : Schema κ} {rq : Request κ α} {opt : Options} {n : Nat}
    (h : validate sch rq opt = .ok (some n)) :
    distinct (lens rq) = [n] ∧ (∀ p ∈ rq.require, (aget sch p.1).isSome = true) ∧
    (rq.require ≠ [] → (rawKeys rq n).Nodup) := by
  unfold validate at h
  by_cases h0 : opt.onMany = .bad
  · rw [if_pos h0] at h
    cases h
  by_cases h1 : (rq.require.isEmpty && !opt.allowEmptyRequire) = true
  · rw [if_neg h0, if_pos h1] at h
    cases h
  by_cases h2 : (rq.require.isEmpty && rq.colValues.isEmpty) = true
  · rw [if_neg h0, if_neg h1, if_pos h2] at h
    cases h
  rw [if_neg h0, if_neg h1, if_neg h2] at h
  split at h
  · rename_i m hm
    by_cases hu : (!rq.require.isEmpty && decide ((distinct (rawKeys rq m)).length < m)) = true
    · rw [if_pos hu] at h
      cases h
    by_cases hk : (rq.require.any fun p => (aget sch p.1).isNone) = true
    · rw [if_neg hu, if_pos hk] at h
      cases h
    rw [if_neg hu, if_neg hk] at h
    injection h with h
    injection h with h
    subst h
    refine ⟨hm, fun p hp => ?_, fun hne => ?_⟩
    · cases hx : aget sch p.1 with
      | none => exact absurd (List.any_eq_true.mpr ⟨p, hp, by rw [hx]; rfl⟩) hk
      | some _ => rfl
    · simp only [List.isEmpty_eq_false_iff.mpr hne, Bool.not_false, Bool.true_and, decide_eq_true_eq,
        rawKeys_dup_iff, Decidable.not_not] at hu
      exact hu
  · cases h

theorem validate_bad_on_many (sch : Schema κ) (rq : Request κ α) (opt : Options)
    (h : opt.onMany = .bad) : validate sch rq opt = .error .badOnMany := by
  unfold validate
  rw [if_pos h]

theorem validate_empty_require (sch : Schema κ) (rq : Request κ α) (opt : Options)
    (h0 : opt.onMany ≠ .bad) (h1 : rq.require = []) (h2 : opt.allowEmptyRequire = false) :
    validate sch rq opt = .error .emptyRequire := by
  unfold validate
  rw [if_neg h0, h1, h2]
  rfl

/-- Past the three early exits, the argument checks are those on the common length. -/
theorem validate_of_lens (sch : Schema κ) (rq : Request κ α) (opt : Options)
    (h0 : opt.onMany ≠ .bad) (h1 : rq.require ≠ [] ∨ opt.allowEmptyRequire = true)
    (h2 : lens rq ≠ []) :
    validate sch rq opt = match distinct (lens rq) with
      | [n] =>
        if !rq.require.isEmpty && decide ((distinct (rawKeys rq n)).length < n) then .error .notUnique
        else if rq.require.any (fun p => (aget sch p.1).isNone) then .error .unknownColumn
        else .ok (some n)
      | _ => .error .lengths := by
  have h1' : ¬ (rq.require.isEmpty && !opt.allowEmptyRequire) = true := by
    rcases h1 with h1 | h1
    · simp [h1]
    · simp [h1]
  have h2' : ¬ (rq.require.isEmpty && rq.colValues.isEmpty) = true := by
    intro hh
    simp only [Bool.and_eq_true, List.isEmpty_iff] at hh
    simp [lens, hh.1, hh.2] at h2
  unfold validate
  rw [if_neg h0, if_neg h1', if_neg h2']
  rfl

theorem validate_lengths (sch : Schema κ) (rq : Request κ α) (opt : Options)
    (h0 : opt.onMany ≠ .bad) (h1 : rq.require ≠ [] ∨ opt.allowEmptyRequire = true)
    (h2 : ∃ a ∈ lens rq, ∃ b ∈ lens rq, a ≠ b) :
    validate sch rq opt = .error .lengths := by
  obtain ⟨a, ha, b, hb, hab⟩ := h2
  rw [validate_of_lens sch rq opt h0 h1 (List.ne_nil_of_mem ha)]
  split
  · rename_i m hm
    exact absurd ((eq_of_distinct_singleton hm a ha).trans (eq_of_distinct_singleton hm b hb).symm) hab
  · rfl

theorem validate_duplicate (sch : Schema κ) (rq : Request κ α) (opt : Options) (n : Nat)
    (h0 : opt.onMany ≠ .bad) (h1 : rq.require ≠ [])
    (h2 : ∀ x ∈ lens rq, x = n) (h3 : ¬ (rawKeys rq n).Nodup) :
    validate sch rq opt = .error .notUnique := by
  have hlne : lens rq ≠ [] := by
    intro h
    simp [lens, h1] at h
  rw [validate_of_lens sch rq opt h0 (Or.inl h1) hlne, distinct_eq_singleton (lens rq) n hlne h2]
  simp [h1, (rawKeys_dup_iff rq n).mpr h3]

theorem impl_error_of_validate (sch : Schema κ) (t0 : Table κ α) (next : Nat) (dflt : Rec κ α)
    (rq : Request κ α) (opt : Options) (e : Err) (h : validate sch rq opt = .error e) :
    upsertImpl sch t0 next dflt rq opt = .error e ∧ upsertSpec sch t0 next dflt rq opt = .error e := by
  unfold upsertImpl upsertSpec
  rw [h]
  exact ⟨rfl, rfl⟩

theorem checkCols_append (sch : Schema κ) (a b : List κ) :
    checkCols sch (a ++ b) = match checkCols sch a with
      | .error e => .error e
      | .ok _ => checkCols sch b := by
  induction a with
  | nil => rfl
  | cons k ks ih =>
    simp only [List.cons_append, checkCols]
    cases hk : aget sch k with
    | none => rfl
    | some kd => cases kd <;> simp [ih]

theorem checkCols_ok (sch : Schema κ) (ks : List κ)
    (h : ∀ k ∈ ks, (aget sch k).isSome = true ∧ aget sch k ≠ some .formula) :
    checkCols sch ks = .ok () := by
  induction ks with
  | nil => rfl
  | cons k ks ih =>
    obtain ⟨h1, h2⟩ := h k (List.mem_cons_self ..)
    have ih' := ih fun k' hk' => h k' (List.mem_cons_of_mem _ hk')
    cases hx : aget sch k with
    | none =>
      rw [hx] at h1
      cases h1
    | some kd =>
      cases kd with
      | formula => exact absurd hx h2
      | data => simpa only [checkCols, hx] using ih'
      | empty => simpa only [checkCols, hx] using ih'

/-- The shape of the end of the action: nothing to write, or the late column check decides. -/
def lateCheck {β : Type} (E : Bool) (c : Except Err Unit) (x : β) : Except Err β :=
  if E then .ok x else match c with
    | .error e => .error e
    | .ok _ => .ok x

theorem lateCheck_ok {β : Type} {x z : β} {E : Bool} {c : Except Err Unit}
    (h : lateCheck E c x = .ok z) : z = x := by
  unfold lateCheck at h
  cases E
  · cases c
    · cases h
    · exact (Except.ok.inj h).symm
  · exact (Except.ok.inj h).symm

/-- `SameOutcome` with the cells compared in the records `P` only. -/
def SameOutcomeOn (P : Nat → Prop) (a b : Except Err (Table κ α × Result)) : Prop :=
  match a, b with
  | .ok (ta, ra), .ok (tb, rb) => ra = rb ∧ tids ta = tids tb ∧ ∀ r, P r → ∀ c, cell ta r c = cell tb r c
  | .error ea, .error eb => ea = eb
  | _, _ => False

omit [DecidableEq α] in
theorem SameOutcomeOn.all {P : Nat → Prop} {a b : Except Err (Table κ α × Result)} (hP : ∀ r, P r)
    (h : SameOutcomeOn P a b) : SameOutcome a b := by
  cases a <;> cases b
  · exact h
  · exact h
  · exact h
  · exact ⟨h.1, h.2.1, fun r => h.2.2 r (hP r)⟩

omit [DecidableEq α] in
theorem sameOutcomeOn_lateCheck {P : Nat → Prop} {x y : Table κ α × Result} (E : Bool) (c : Except Err Unit)
    (h : SameOutcomeOn P (.ok x) (.ok y)) : SameOutcomeOn P (lateCheck E c x) (lateCheck E c y) := by
  unfold lateCheck
  cases E
  · cases c
    · exact rfl
    · exact h
  · exact h

/-- After the argument checks: the late column check is that of `col_values`, the final table
    the trimmed bulk update of the table with the new rows. -/
theorem upsertImpl_eq (sch : Schema κ) (t0 : Table κ α) (next : Nat) (dflt : Rec κ α)
    (rq : Request κ α) (opt : Options) (n : Nat) (hv : validate sch rq opt = .ok (some n)) :
    upsertImpl sch t0 next dflt rq opt =
      (let acc := implAcc sch t0 rq opt n
       let res : Result := { recordIds := fillIds acc.recordIds next,
                             addRecordIds := (List.range acc.adds.length).map (fun k => next + k),
                             updateRecordIds := acc.updateRecordIds }
       let tb := bulkUpdate (t0 ++ newRows dflt next acc.adds) acc.upds (akeys rq.colValues)
       lateCheck (acc.adds.isEmpty && acc.upds.isEmpty) (checkCols sch (akeys rq.colValues)) (tb, res)) := by
  -- the `require` columns of the added rows exist (argument checks) and are no formula columns
  have hextra : checkCols sch ((requireAddKeys sch rq).filter (fun k => decide (k ∉ akeys rq.colValues)))
      = .ok () := by
    refine checkCols_ok sch _ fun k hk => ?_
    obtain ⟨hk1, hk2⟩ := List.mem_filter.mp (List.mem_filter.mp hk).1
    obtain ⟨p, hp, rfl⟩ := List.mem_map.mp hk1
    exact ⟨(validate_some hv).2.1 p hp, of_decide_eq_true hk2⟩
  unfold upsertImpl lateCheck
  rw [hv]
  dsimp only
  generalize implAcc sch t0 rq opt n = acc
  rw [checkCols_append, hextra]
  rcases acc with ⟨adds, upds, rids, urids⟩
  cases adds with
  | nil =>
    cases upds with
    | nil => simp [newRows, bulkUpdate]
    | cons u us =>
      simp only [List.isEmpty_nil, List.isEmpty_cons, if_true, newRows, List.append_nil,
        Bool.false_eq_true, if_false, Bool.and_false]
      cases checkCols sch (akeys rq.colValues) <;> rfl
  | cons a as =>
    cases upds with
    | nil =>
      simp only [List.isEmpty_nil, List.isEmpty_cons, if_true, Bool.false_eq_true, if_false,
        Bool.false_and]
      cases checkCols sch (akeys rq.colValues) with
      | error e => rfl
      | ok u => simp [bulkUpdate]
    | cons u us =>
      simp only [List.isEmpty_cons, Bool.false_eq_true, if_false, Bool.false_and]
      cases checkCols sch (akeys rq.colValues) <;> rfl

/-- Implementation against reference, unconditionally: the same error, or the same returned ids and
    row ids, and the same cells in every record that the accumulated update names at most once.
    Sharp: in the witness `W1` of `impl_eq_spec_full_false` (GristProps/C28.lean) the one cell that
    differs lies in record 1, which both input rows name. -/
theorem impl_same_spec_on (sch : Schema κ) (t0 : Table κ α) (next : Nat) (dflt : Rec κ α)
    (rq : Request κ α) (opt : Options) (hnext : ∀ r ∈ tids t0, r < next) :
    SameOutcomeOn (fun r => (updTargets sch t0 rq opt).count r ≤ 1)
      (upsertImpl sch t0 next dflt rq opt) (upsertSpec sch t0 next dflt rq opt) := by
  cases hv : validate sch rq opt with
  | error e =>
    unfold upsertImpl upsertSpec
    rw [hv]
    exact rfl
  | ok o =>
    cases o with
    | none =>
      unfold upsertImpl upsertSpec
      rw [hv]
      exact ⟨rfl, rfl, fun _ _ _ => rfl⟩
    | some n =>
      have hrel := rel_run sch t0 next dflt rq opt hnext n
      rw [upsertImpl_eq sch t0 next dflt rq opt n hv]
      unfold upsertSpec updTargets
      rw [hv]
      dsimp only
      generalize implAcc sch t0 rq opt n = acc at hrel ⊢
      generalize (List.range n).foldl (specStep sch t0 dflt rq opt) { table := t0, next := next } = st
        at hrel ⊢
      have hA : st.addIds.isEmpty = acc.adds.isEmpty := by
        rw [hrel.hadds]
        cases acc.adds <;> simp [List.range_succ]
      have hU : st.updIds.isEmpty = acc.upds.isEmpty := by rw [hrel.hupds, hrel.empties]
      have htab : st.table = acc.upds.foldl (fun tb e => updateRow tb e.1 e.2)
          (t0 ++ newRows dflt next acc.adds) := by
        rw [hrel.htable, foldl_updateRow_append _ _ _ _ _ fun e he =>
          not_mem_tids_newRows t0 next dflt acc.adds hnext e.1 (hrel.inT0 e he)]
        rfl
      rw [hA, hU]
      refine sameOutcomeOn_lateCheck _ _ ⟨?_, ?_, fun r hone c => ?_⟩
      · rw [hrel.hrec, hrel.hadds, hrel.hupds]
      · rw [tids_bulkUpdate, htab, tids_foldl_updateRow (fun e => e.2)]
      · rw [htab]
        exact cell_bulkUpdate _ _ _ hrel.keys r hone c

/-- Implementation = reference when no record is named twice by the accumulated update. -/
theorem impl_same_spec (sch : Schema κ) (t0 : Table κ α) (next : Nat) (dflt : Rec κ α)
    (rq : Request κ α) (opt : Options) (hnext : ∀ r ∈ tids t0, r < next)
    (hnd : (updTargets sch t0 rq opt).Nodup) :
    SameOutcome (upsertImpl sch t0 next dflt rq opt) (upsertSpec sch t0 next dflt rq opt) :=
  (impl_same_spec_on sch t0 next dflt rq opt hnext).all (List.nodup_iff_count.mp hnd)

theorem recMatches_key_eq (rc : Rec κ α) : ∀ (k1 k2 : Rec κ α), recMatches rc k1 = true →
    recMatches rc k2 = true → akeys k1 = akeys k2 → k1 = k2 := by
  intro k1
  induction k1 with
  | nil =>
    intro k2 _ _ hk
    cases k2 with
    | nil => rfl
    | cons _ _ => simp [akeys] at hk
  | cons p r ih =>
    intro k2 h1 h2 hk
    cases k2 with
    | nil => simp [akeys] at hk
    | cons q r2 =>
      obtain ⟨c1, v1⟩ := p
      obtain ⟨c2, v2⟩ := q
      simp only [akeys, List.map_cons, List.cons.injEq] at hk
      obtain ⟨hc, hk'⟩ := hk
      subst hc
      simp only [recMatches, List.all_cons, Bool.and_eq_true, decide_eq_true_eq] at h1 h2
      have hv : v1 = v2 := by
        have := h1.1.symm.trans h2.1
        exact Option.some.inj this
      subst hv
      rw [ih r2 h1.2 h2.2 hk']

omit [DecidableEq κ] in
theorem akeys_rowAt {β : Type} (cols : List (κ × List β)) (i : Nat) (h : ∀ p ∈ cols, i < p.2.length) :
    akeys (rowAt cols i) = akeys cols := by
  induction cols with
  | nil => rfl
  | cons p r ih =>
    have hp := h p (by simp)
    have ih' := ih (fun q hq => h q (List.mem_cons_of_mem _ hq))
    simp only [akeys, rowAt, List.filterMap_cons, List.getElem?_eq_getElem hp, Option.map_some,
      List.map_cons] at ih' ⊢
    rw [ih']

omit [DecidableEq κ] [DecidableEq α] in
theorem akeys_convKey (rq : Request κ α) (i : Nat) (h : ∀ p ∈ rq.require, i < p.2.length) :
    akeys (convKey rq i) = akeys rq.require := by
  rw [← akeys_rowAt rq.require i h]
  simp [akeys, convKey, List.map_map, Function.comp_def]

theorem key_eq_of_common_record (t0 : Table κ α) (hids : (tids t0).Nodup) (k1 k2 : Rec κ α)
    (hk : akeys k1 = akeys k2) (r : Nat) (h1 : r ∈ lookupRecords t0 k1) (h2 : r ∈ lookupRecords t0 k2) :
    k1 = k2 := by
  unfold lookupRecords at h1 h2
  obtain ⟨p, hp, hpr⟩ := List.mem_map.mp h1
  obtain ⟨q, hq, hqr⟩ := List.mem_map.mp h2
  obtain ⟨hp1, hp2⟩ := List.mem_filter.mp hp
  obtain ⟨hq1, hq2⟩ := List.mem_filter.mp hq
  have : p = q := eq_of_map_eq Prod.fst hids hp1 hq1 (hpr.trans hqr.symm)
  subst this
  exact recMatches_key_eq p.2 k1 k2 hp2 hq2 hk

theorem implStep_upds (sch : Schema κ) (t0 : Table κ α) (rq : Request κ α) (opt : Options)
    (acc : Acc κ α) (i : Nat) :
    ∃ recs : List Nat, recs.Sublist (lookupRecords t0 (convKey rq i)) ∧
      (implStep sch t0 rq opt acc i).upds = acc.upds ++ recs.map (fun r => (r, rowAt rq.colValues i)) := by
  rcases step_cases sch t0 [] rq opt acc { table := t0, next := 0 } i with
    ⟨hi, _⟩ | ⟨hi, _⟩ | ⟨recs, _, hsub, hi, _⟩
  · exact ⟨[], List.nil_sublist _, by simp [hi]⟩
  · exact ⟨[], List.nil_sublist _, by simp [hi]⟩
  · exact ⟨recs, hsub, by rw [hi]⟩

theorem targets_sublist (sch : Schema κ) (t0 : Table κ α) (rq : Request κ α) (opt : Options) (n : Nat) :
    ((implAcc sch t0 rq opt n).upds.map (·.1)).Sublist
      ((List.range n).flatMap fun i => lookupRecords t0 (convKey rq i)) := by
  unfold implAcc
  induction n with
  | zero => exact .slnil
  | succ n ih =>
    obtain ⟨recs, hsub, hupds⟩ :=
      implStep_upds sch t0 rq opt ((List.range n).foldl (implStep sch t0 rq opt) {}) n
    simp only [List.range_succ, List.foldl_append, List.flatMap_append, List.foldl_cons, List.foldl_nil,
      hupds, List.map_append, List.map_map, List.flatMap_cons, List.flatMap_nil, List.append_nil,
      Function.comp_def, List.map_id']
    exact ih.append hsub

/-- Distinct converted keys (and distinct row ids): the accumulated update names no record twice. -/
theorem updTargets_nodup (sch : Schema κ) (t0 : Table κ α) (rq : Request κ α) (opt : Options)
    (hids : (tids t0).Nodup)
    (hkeys : ∀ n, validate sch rq opt = .ok (some n) →
      ∀ i j, i < n → j < n → i ≠ j → convKey rq i ≠ convKey rq j) :
    (updTargets sch t0 rq opt).Nodup := by
  unfold updTargets
  cases hv : validate sch rq opt with
  | error e => exact List.nodup_nil
  | ok o =>
    cases o with
    | none => exact List.nodup_nil
    | some n =>
      have hlen : ∀ i, i < n → ∀ p ∈ rq.require, i < p.2.length := by
        intro i hi p hp
        rw [eq_of_distinct_singleton (validate_some hv).1 _
          (List.mem_append_left _ (List.mem_map_of_mem (f := fun p => p.2.length) hp))]
        exact hi
      refine (targets_sublist sch t0 rq opt n).nodup ?_
      -- each lookup is duplicate-free; two lookups with a common record have the same key
      refine List.pairwise_flatMap.mpr ⟨fun i _ => (lookupRecords_sublist t0 _).nodup hids, ?_⟩
      refine List.pairwise_lt_range.imp_of_mem fun {a b} ha hb hab r h1 r' h2 hrr => ?_
      have ha' := List.mem_range.mp ha
      have hb' := List.mem_range.mp hb
      exact hkeys n hv a b ha' hb' (Nat.ne_of_lt hab)
        (key_eq_of_common_record t0 hids _ _
          (by rw [akeys_convKey rq a (hlen a ha'), akeys_convKey rq b (hlen b hb')]) r h1 (hrr ▸ h2))

/-- Frame of `BulkAddOrUpdateRecord` (unconditional: also when records are targeted twice). -/
theorem impl_frame (sch : Schema κ) (t0 : Table κ α) (next : Nat) (dflt : Rec κ α)
    (rq : Request κ α) (opt : Options) (hnext : ∀ r ∈ tids t0, r < next)
    (t : Table κ α) (res : Result) (h : upsertImpl sch t0 next dflt rq opt = .ok (t, res)) :
    tids t = tids t0 ++ res.addRecordIds ∧
    (∀ r ∈ res.addRecordIds, next ≤ r) ∧
    res.updateRecordIds.flatten = updTargets sch t0 rq opt ∧
    (∀ r ∈ res.updateRecordIds.flatten, r ∈ tids t0) ∧
    (∀ r ∈ tids t0, r ∉ res.updateRecordIds.flatten → aget t r = aget t0 r) ∧
    (∀ r ∈ tids t0, ∀ c, c ∉ akeys rq.colValues → cell t r c = cell t0 r c) := by
  cases hv : validate sch rq opt with
  | error e =>
    unfold upsertImpl at h
    rw [hv] at h
    cases h
  | ok o =>
    cases o with
    | none =>
      unfold upsertImpl at h
      rw [hv] at h
      simp only [Except.ok.injEq, Prod.mk.injEq] at h
      obtain ⟨rfl, rfl⟩ := h
      unfold updTargets
      rw [hv]
      simp [Result.empty]
    | some n =>
      rw [upsertImpl_eq sch t0 next dflt rq opt n hv] at h
      have hrel := rel_run sch t0 next dflt rq opt hnext n
      unfold updTargets
      rw [hv]
      dsimp only at h ⊢
      generalize implAcc sch t0 rq opt n = acc at hrel h ⊢
      obtain ⟨rfl, rfl⟩ := Prod.mk.inj (lateCheck_ok h)
      dsimp only
      refine ⟨?_, ?_, hrel.flat, ?_, ?_, ?_⟩
      · rw [tids_bulkUpdate, tids_append, tids_newRows, List.range'_eq_map_range]
      · intro r hr
        obtain ⟨k, _, rfl⟩ := List.mem_map.mp hr
        omega
      · intro r hr
        rw [hrel.flat] at hr
        obtain ⟨e, he, rfl⟩ := List.mem_map.mp hr
        exact hrel.inT0 e he
      · intro r hr hnot
        rw [hrel.flat] at hnot
        rw [aget_bulkUpdate_of_not_mem _ _ _ _ hnot]
        exact aget_append_of_mem _ _ _ hr
      · intro r hr c hc
        rw [cell_bulkUpdate_of_not_col _ _ _ _ _ hc]
        unfold cell
        rw [aget_append_of_mem _ _ _ hr]

theorem addOrUpdateImpl_eq (sch : Schema κ) (t0 : Table κ α) (next : Nat) (dflt : Rec κ α)
    (require : List (κ × Cell α)) (colValues : List (κ × α)) (opt : Options) :
    addOrUpdateImpl sch t0 next dflt require colValues opt =
      if require.isEmpty && colValues.isEmpty then .ok (t0, ⟨[], .none⟩)
      else singleOf (upsertImpl sch t0 next dflt (wrap require colValues) opt) := rfl

theorem validate_wrap_one (sch : Schema κ) (require : List (κ × Cell α)) (colValues : List (κ × α))
    (opt : Options) (n : Nat) (h : validate sch (wrap require colValues) opt = .ok (some n)) : n = 1 := by
  have hn : n ∈ lens (wrap require colValues) :=
    (mem_distinct _ _).mp (by rw [(validate_some h).1]; exact List.mem_singleton_self n)
  simp only [lens, wrap, List.map_map, List.mem_append, List.mem_map, Function.comp_def] at hn
  rcases hn with ⟨p, _, rfl⟩ | ⟨p, _, rfl⟩ <;> rfl

theorem updTargets_nodup_wrap (sch : Schema κ) (t0 : Table κ α) (require : List (κ × Cell α))
    (colValues : List (κ × α)) (opt : Options) (hids : (tids t0).Nodup) :
    (updTargets sch t0 (wrap require colValues) opt).Nodup := by
  apply updTargets_nodup sch t0 _ opt hids
  intro n hn i j hi hj hij
  have := validate_wrap_one sch require colValues opt n hn
  omega

end Tables

end Grist.Upsert
