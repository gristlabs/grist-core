/-
C09 apart from the clean-up run.  Defines `RefListRoundTrip`, `SpecTyped`, `NoRefsTo`.  Main facts:
the references of a cleaned cell (`cleanedCell_refs_of`); what `specHolds` reads of a document
(`specHolds_congr`).
-/
import GristModel.MetaRefs
import GristProofs.DocUndoList
namespace Grist.Doc

/-- explicit hypothesis of the theorems about RefList columns; GristProofs/RefListRoundTrip.lean
    derives it from `SplitOnJoin`, a statement about `String.splitOn` alone -/
def RefListRoundTrip : Prop :=
  ∀ l : List Nat, l ≠ [] → cellRefs true (renderRefList l) = some l

/-- the listed columns are `Ref` / `RefList` columns: `Column.set` then stores the cleaned values as
    given -/
def SpecTyped (d : Doc) (specs : List RefSpec) : Prop :=
  ∀ sp ∈ specs, ∀ tb col, findTable? d sp.table = some tb → tb.findCol? sp.col = some col →
    pureType col.info.type = (if sp.isList then "RefList" else "Ref")

def NoRefsTo (d : Doc) (specs : List RefSpec) (t : String) (gone : List Nat) : Prop :=
  ∀ sp ∈ specs, sp.target = t → ∀ tb col, findTable? d sp.table = some tb →
    tb.findCol? sp.col = some col → ∀ r ∈ tb.rows, ∀ l, cellRefs sp.isList (col.cells r) = some l →
      ∀ k ∈ l, k ∉ gone

theorem colSet_ref_zero {ty : String} (h : pureType ty = "Ref") : colSet ty (.int 0) = .int 0 := by
  unfold colSet
  rw [h]
  simp

theorem cellRefs_false_int0 : cellRefs false (.int 0) = some [] := by decide

theorem colSet_refList {ty : String} (h : pureType ty = "RefList") (v : Val) : colSet ty v = v := by
  unfold colSet isNumericLike
  rw [h]
  simp

theorem cellRefs_false_length {v : Val} {l : List Nat} (h : cellRefs false v = some l) :
    l.length ≤ 1 := by
  unfold cellRefs at h
  simp only [Bool.false_eq_true, ↓reduceIte] at h
  split at h
  · split at h <;> cases h <;> simp
  · cases h
    simp
  · cases h

theorem cleanedCell_not_ref (isList : Bool) (gone : List Nat) {v : Val}
    (h : cellRefs isList v = none) : cleanedCell isList gone v = v := by
  unfold cleanedCell
  rw [h]

theorem cleanedCell_of_none_gone (isList : Bool) (gone : List Nat) {v : Val} {l : List Nat}
    (h : cellRefs isList v = some l) (hn : l.any (fun k => gone.contains k) = false) :
    cleanedCell isList gone v = v := by
  unfold cleanedCell
  rw [h]
  simp only [hn, Bool.false_eq_true, ↓reduceIte]

theorem cleanedCell_list {gone : List Nat} {v : Val} {l : List Nat}
    (h : cellRefs true v = some l) (ha : l.any (fun k => gone.contains k) = true) :
    cleanedCell true gone v = renderRefList (l.filter (fun k => !gone.contains k)) := by
  unfold cleanedCell
  rw [h]
  simp only [ha, ↓reduceIte]

theorem renderRefList_nil : renderRefList [] = .null := rfl

theorem cleanedCell_ref {gone : List Nat} {v : Val} {l : List Nat}
    (h : cellRefs false v = some l) (ha : l.any (fun k => gone.contains k) = true) :
    cleanedCell false gone v = .int 0 := by
  unfold cleanedCell
  rw [h]
  simp only [ha, ↓reduceIte, Bool.false_eq_true]

/-- the round trip is needed for RefList cells only -/
theorem cleanedCell_refs_of (isList : Bool) (hrt : isList = true → RefListRoundTrip) (gone : List Nat)
    (v : Val) :
    cellRefs isList (cleanedCell isList gone v) =
      (cellRefs isList v).map (·.filter (fun k => !gone.contains k)) := by
  cases h : cellRefs isList v with
  | none =>
    rw [cleanedCell_not_ref isList gone h, h]
    rfl
  | some l =>
    rw [Option.map_some]
    by_cases ha : l.any (fun k => gone.contains k) = true
    · cases isList with
      | true =>
        rw [cleanedCell_list h ha]
        by_cases he : l.filter (fun k => !gone.contains k) = []
        · rw [he]
          rfl
        · exact hrt rfl _ he
      | false =>
        rw [cleanedCell_ref h ha, cellRefs_false_int0]
        -- the one row the cell refers to is in `gone`
        have hlen := cellRefs_false_length h
        rcases l with _ | ⟨a, _ | ⟨b, t⟩⟩
        · cases ha
        · rw [List.any_cons, List.any_nil, Bool.or_false] at ha
          rw [List.filter_cons_of_neg (by rw [ha]; decide), List.filter_nil]
        · simp at hlen
    · rw [Bool.not_eq_true] at ha
      rw [cleanedCell_of_none_gone isList gone h ha, h]
      congr 1
      symm
      rw [List.filter_eq_self]
      intro k hk
      rw [List.any_eq_false] at ha
      simpa using ha k hk

theorem cleanedCell_refs (hrt : RefListRoundTrip) (isList : Bool) (gone : List Nat) (v : Val) :
    cellRefs isList (cleanedCell isList gone v) =
      (cellRefs isList v).map (·.filter (fun k => !gone.contains k)) :=
  cleanedCell_refs_of isList (fun _ => hrt) gone v

theorem cleanedCell_refs_ref (gone : List Nat) (v : Val) :
    cellRefs false (cleanedCell false gone v) =
      (cellRefs false v).map (·.filter (fun k => !gone.contains k)) :=
  cleanedCell_refs_of false (fun h => absurd h Bool.false_ne_true) gone v

theorem cleanedCell_ref_or (gone : List Nat) (v : Val) :
    cleanedCell false gone v = v ∨ cleanedCell false gone v = .int 0 := by
  unfold cleanedCell
  cases cellRefs false v with
  | none =>
    left
    rfl
  | some l =>
    by_cases h : l.any (fun k => gone.contains k) = true
    · right
      simp only [h, ↓reduceIte, Bool.false_eq_true]
    · have h' : l.any (fun k => gone.contains k) = false := by simpa using h
      left
      simp only [h', Bool.false_eq_true, ↓reduceIte]

theorem colSet_cleanedCell {ty : String} {isList : Bool}
    (hty : pureType ty = if isList then "RefList" else "Ref") {gone : List Nat} {v : Val}
    (hne : cleanedCell isList gone v ≠ v) :
    colSet ty (cleanedCell isList gone v) = cleanedCell isList gone v := by
  cases isList with
  | true => exact colSet_refList (by simpa using hty) _
  | false =>
    rcases cleanedCell_ref_or gone v with h | h
    · exact absurd h hne
    · rw [h]
      exact colSet_ref_zero (by simpa using hty)

theorem specHolds_iff {d : Doc} {sp : RefSpec} : specHolds d sp = true ↔
    ∀ tb tt col, findTable? d sp.table = some tb → findTable? d sp.target = some tt →
      tb.findCol? sp.col = some col → ∀ r ∈ tb.rows, ∀ l, cellRefs sp.isList (col.cells r) = some l →
        ∀ k ∈ l, k ∈ tt.rows := by
  constructor
  · intro h tb tt col h1 h2 h3 r hr l hl k hk
    unfold specHolds at h
    rw [h1, h2] at h
    simp only [h3] at h
    have := List.all_eq_true.1 h r hr
    rw [hl] at this
    simpa using List.all_eq_true.1 this k hk
  · intro h
    unfold specHolds
    cases e1 : findTable? d sp.table with
    | none => rfl
    | some tb =>
      cases e2 : findTable? d sp.target with
      | none => rfl
      | some tt =>
        simp only
        cases e3 : tb.findCol? sp.col with
        | none => rfl
        | some col =>
          simp only [List.all_eq_true]
          intro r hr
          cases hl : cellRefs sp.isList (col.cells r) with
          | none => rfl
          | some l =>
            simp only [List.all_eq_true]
            intro k hk
            simpa using h tb tt col e1 e2 e3 r hr l hl k hk

theorem refsResolve_iff {d : Doc} {specs : List RefSpec} :
    refsResolve d specs = true ↔ ∀ sp ∈ specs, specHolds d sp = true := by
  unfold refsResolve
  simp [List.all_eq_true]

theorem all_congr' {α : Type} {l : List α} {f g : α → Bool} (h : ∀ x ∈ l, f x = g x) :
    l.all f = l.all g := by
  induction l with
  | nil => rfl
  | cons a rest ih =>
    simp only [List.all_cons, h a (by simp), ih (fun x hx => h x (List.mem_cons_of_mem _ hx))]

def ShowsSame (c : String) (a b : Table) : Prop :=
  a.rows = b.rows ∧
    ORel (fun x y : Col => ∀ r ∈ a.rows, x.cells r = y.cells r) (a.findCol? c) (b.findCol? c)

theorem ShowsSame.refl (c : String) (a : Table) : ShowsSame c a a :=
  ⟨rfl, ORel.refl' _ fun _ _ _ _ => rfl⟩

theorem ShowsSame.symm {c : String} {a b : Table} (h : ShowsSame c a b) : ShowsSame c b a :=
  ⟨h.1.symm, h.2.symm' fun _ _ hxy r hr => (hxy r (h.1 ▸ hr)).symm⟩

theorem specHolds_of_showsSame {d d' : Doc} {sp : RefSpec}
    (ht : ORel (ShowsSame sp.col) (findTable? d sp.table) (findTable? d' sp.table))
    (hg : ORel (fun a b : Table => a.rows = b.rows) (findTable? d sp.target) (findTable? d' sp.target))
    (hs : specHolds d sp = true) : specHolds d' sp = true := by
  rw [specHolds_iff] at hs ⊢
  intro tb' tt' col' h1 h2 h3 r hr l hl k hk
  rw [h1] at ht
  rw [h2] at hg
  obtain ⟨tb, e1, hrows, hc⟩ := ht.right_some
  obtain ⟨tt, e2, hG⟩ := hg.right_some
  rw [h3] at hc
  obtain ⟨col, e3, hC⟩ := hc.right_some
  rw [← hrows] at hr
  rw [← hC r hr] at hl
  rw [← hG]
  exact hs tb tt col e1 e2 e3 r hr l hl k hk

/-- all that `specHolds · sp` reads of a document -/
theorem specHolds_congr {d d' : Doc} {sp : RefSpec}
    (ht : ORel (ShowsSame sp.col) (findTable? d sp.table) (findTable? d' sp.table))
    (hg : ORel (fun a b : Table => a.rows = b.rows) (findTable? d sp.target) (findTable? d' sp.target)) :
    specHolds d sp = specHolds d' sp :=
  Bool.eq_iff_iff.2 ⟨specHolds_of_showsSame ht hg,
    specHolds_of_showsSame (ht.symm' fun _ _ => ShowsSame.symm) (hg.symm' fun _ _ => Eq.symm)⟩

theorem specHolds_same {d d' : Doc} (h : Same d d') (sp : RefSpec) :
    specHolds d sp = specHolds d' sp := by
  rw [same_iff] at h
  exact specHolds_congr
    ((h sp.table).mono fun a b hs =>
      ⟨hs.1, (((tableSame_iff a b).1 hs).2 sp.col).mono fun _ _ hxy => hxy.2⟩)
    ((h sp.target).mono fun _ _ hs => hs.1)

theorem refsResolve_same {d d' : Doc} (h : Same d d') (specs : List RefSpec) :
    refsResolve d specs = refsResolve d' specs :=
  all_congr' fun sp _ => specHolds_same h sp

theorem frame_post {d : Doc} {a : DocAction} {D : Doc} {U : List DocAction} {t0 : String}
    {specs : List RefSpec} (ha : a.recordTable = some t0)
    (hfr : ∀ sp ∈ specs, sp.table ≠ t0 ∧ sp.target ≠ t0) (hp : Post d a D U) :
    refsResolve D specs = refsResolve d specs := by
  obtain ⟨tb, o, hf, h, rfl⟩ := (post_local (DocAction.table?_of_recordTable ha)).1 hp
  have hfind := findTable?_applyLocal hf (h.id_getD (findTable?_some hf).1)
  refine all_congr' fun sp hsp => ?_
  unfold specHolds
  rw [hfind, hfind, if_neg (hfr sp hsp).1, if_neg (hfr sp hsp).2]

theorem update_unlisted_post {d : Doc} {D : Doc} {U : List DocAction} {t0 : String}
    {rows : List Nat} {cols : List (String × List Val)} {specs : List RefSpec} (hwf : WF d)
    (hun : ∀ sp ∈ specs, sp.table = t0 → ∀ cv ∈ cols, cv.1 ≠ sp.col)
    (hp : Post d (.bulkUpdate t0 rows cols) D U) :
    refsResolve D specs = refsResolve d specs := by
  obtain ⟨tb, o, hf, h, rfl⟩ := (post_local (t := t0) rfl).1 hp
  have hfind := findTable?_applyLocal hf (h.id_getD (findTable?_some hf).1)
  obtain ⟨_, _, rfl, _⟩ := (TPost.bulkUpdate_iff (hwf.table hf).1).1 h
  refine all_congr' fun sp hsp => (specHolds_congr ?_ ?_).symm
  · rw [hfind]
    split
    · rename_i h
      rw [h, hf]
      refine ⟨rfl, ?_⟩
      show ORel _ _ ((tb.written rows cols).findCol? sp.col)
      rw [Table.findCol?_written]
      cases e : tb.findCol? sp.col with
      | none => trivial
      | some col =>
        intro r _
        show col.cells r = writeCells _ _ _ _ _ r
        rw [writeCells_no_key]
        exact fun cv hcv hk => hun sp hsp h cv hcv (hk.trans (findCol?_some e).1)
    · exact ORel.refl' _ fun a _ => ShowsSame.refl _ a
  · rw [hfind]
    split
    · rename_i h
      rw [h, hf]
      exact rfl
    · exact ORel.refl' _ fun _ _ => rfl

/-- the table may be a target: targets only grow -/
theorem bulkAdd_target_only_post {d : Doc} {D : Doc} {U : List DocAction} {t0 : String}
    {rows : List Nat} {cols : List (String × List Val)} {specs : List RefSpec} (hwf : WF d)
    (hnt : ∀ sp ∈ specs, sp.table ≠ t0) (hres : refsResolve d specs = true)
    (hp : Post d (.bulkAdd t0 rows cols) D U) : refsResolve D specs = true := by
  obtain ⟨tb, o, hf, h, rfl⟩ := (post_local (t := t0) rfl).1 hp
  have hfind := findTable?_applyLocal hf (h.id_getD (findTable?_some hf).1)
  cases h with
  | bulkAdd _ hw =>
    obtain ⟨_, rfl⟩ := (writeCols_ok_iff
      (tb := { tb with rows := insertRows (rows.filter (· != 0)) tb.rows }) (hwf.table hf).1).1 hw
    rw [refsResolve_iff] at hres ⊢
    intro sp hsp
    rw [specHolds_iff]
    intro tbD ttD colD hfD hftD hcD r hr l hl k hk
    rw [hfind, if_neg (hnt sp hsp)] at hfD
    rw [hfind] at hftD
    split at hftD
    · rename_i htg
      cases hftD
      have := specHolds_iff.1 (hres sp hsp) tbD tb colD hfD (by rw [htg]; exact hf) hcD r hr l hl k hk
      show k ∈ insertRows _ tb.rows
      exact mem_insertRows.2 (.inr this)
    · exact specHolds_iff.1 (hres sp hsp) tbD ttD colD hfD hftD hcD r hr l hl k hk

end Grist.Doc
