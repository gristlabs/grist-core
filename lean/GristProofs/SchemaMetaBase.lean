/-
C08.  Defines `DocAction.neutral`.  `SchemaConsistent` depends only on the columns' infos and on the
schema-bearing fields of the two metadata tables (`schemaConsistent_congr`), hence is invariant under
`Same` and kept by neutral actions; the Bool procedure decides it (`schemaConsistentB_iff`).
-/
import GristModel.SchemaMeta
import GristProofs.DocUndoCongr
namespace Grist.Doc

/-- record actions that cannot change the schema or its description in the metadata -/
def DocAction.neutral : DocAction → Prop
  | .bulkAdd t _ _ => t ≠ "_grist_Tables" ∧ t ≠ "_grist_Tables_column"
  | .bulkRemove t _ => t ≠ "_grist_Tables" ∧ t ≠ "_grist_Tables_column"
  | .replaceData t _ _ => t ≠ "_grist_Tables" ∧ t ≠ "_grist_Tables_column"
  | .bulkUpdate t _ cols =>
    (t = "_grist_Tables" → ∀ cv ∈ cols, cv.1 ∉ tableFields) ∧
    (t = "_grist_Tables_column" → ∀ cv ∈ cols, cv.1 ∉ columnFields)
  | _ => False

theorem ORel.elim {α β : Type} {R : α → β → Prop} {x : Option α} {y : Option β} {P : Prop}
    (h : ORel R x y) (hn : x = none → y = none → P)
    (hs : ∀ a b, x = some a → y = some b → R a b → P) : P := by
  cases x with
  | none => exact hn rfl h.left_none
  | some a =>
    obtain ⟨b, rfl, hab⟩ := h.left_some
    exact hs a b rfl rfl hab

theorem lookupLast_eq_none {β : Type} {l : List (String × β)} {k : String} :
    lookupLast l k = none ↔ ∀ p ∈ l, p.1 ≠ k := by
  induction l with
  | nil => simp [lookupLast]
  | cons p rest ih =>
    obtain ⟨k', v⟩ := p
    simp only [lookupLast, List.mem_cons, forall_eq_or_imp]
    cases h : lookupLast rest k with
    | some x =>
      simp only [reduceCtorEq, false_iff, not_and]
      intro _ hall
      rw [ih.2 hall] at h
      cases h
    | none =>
      rw [← ih, h]
      by_cases hk : k' = k <;> simp [hk]

theorem lookupLast_mem {β : Type} {l : List (String × β)} {k : String} {v : β}
    (h : lookupLast l k = some v) : (k, v) ∈ l := by
  induction l with
  | nil => simp [lookupLast] at h
  | cons p rest ih =>
    obtain ⟨k', v'⟩ := p
    simp only [lookupLast] at h
    cases h' : lookupLast rest k with
    | some x =>
      rw [h'] at h
      simp only [Option.some.injEq] at h
      subst h
      exact List.mem_cons_of_mem _ (ih h')
    | none =>
      rw [h'] at h
      by_cases hk : k' = k
      · simp only [hk, beq_self_eq_true, ↓reduceIte, Option.some.injEq] at h
        subst h
        subst hk
        simp
      · simp [hk] at h

theorem lookupLast_of_mem_nodup {β : Type} {l : List (String × β)} {k : String} {v : β}
    (hnd : (l.map (·.1)).Nodup) (h : (k, v) ∈ l) : lookupLast l k = some v := by
  cases hl : lookupLast l k with
  | none => exact absurd rfl (lookupLast_eq_none.mp hl _ h)
  | some w => exact congrArg (fun p => some p.2) (eq_of_map_eq Prod.fst hnd (lookupLast_mem hl) h rfl)

def FieldsAgree (fields : List String) (a b : Table) : Prop :=
  a.rows = b.rows ∧ ∀ c ∈ fields, ∀ r ∈ a.rows, a.cell c r = b.cell c r

theorem FieldsAgree.refl (fields : List String) (a : Table) : FieldsAgree fields a a :=
  ⟨rfl, fun _ _ _ _ => rfl⟩

/-- all that `colRecInfo` reads of the table (memberships in `columnFields` are given by position) -/
theorem colRecInfo_preserved {mc mc' : Table} {x : Nat}
    (hcell : ∀ f ∈ columnFields, mc'.cell f x = mc.cell f x)
    (hrows : valNat (mc.cell "reverseCol" x) ∈ mc'.rows ↔ valNat (mc.cell "reverseCol" x) ∈ mc.rows)
    (hrc : valNat (mc.cell "reverseCol" x) ∈ mc.rows →
      mc'.cell "colId" (valNat (mc.cell "reverseCol" x)) =
        mc.cell "colId" (valNat (mc.cell "reverseCol" x))) :
    colRecInfo mc' x = colRecInfo mc x := by
  have e1 := hcell "colId" (.tail _ (.head _))
  have e2 := hcell "type" (.tail _ (.tail _ (.head _)))
  have e3 := hcell "isFormula" (.tail _ (.tail _ (.tail _ (.head _))))
  have e4 := hcell "formula" (.tail _ (.tail _ (.tail _ (.tail _ (.head _)))))
  have e5 := hcell "reverseCol" (.tail _ (.tail _ (.tail _ (.tail _ (.tail _ (.head _))))))
  simp only [colRecInfo, e1, e2, e3, e4, e5, List.contains_iff_mem]
  by_cases h : valNat (mc.cell "reverseCol" x) ∈ mc.rows
  · simp only [hrows.2 h, h, ↓reduceIte, hrc h]
  · have h' : ¬ valNat (mc.cell "reverseCol" x) ∈ mc'.rows := fun hh => h (hrows.1 hh)
    simp only [h, h', ↓reduceIte]

theorem colRecInfo_congr {mc mc' : Table} (h : FieldsAgree columnFields mc mc') {r : Nat}
    (hr : r ∈ mc.rows) : colRecInfo mc r = colRecInfo mc' r :=
  (colRecInfo_preserved (fun f hf => (h.2 f hf r hr).symm) (by rw [h.1])
    (fun hin => (h.2 "colId" (.tail _ (.head _)) _ hin).symm)).symm

theorem colRecsOf_congr {mc mc' : Table} (h : FieldsAgree columnFields mc mc') (tr : Nat) :
    colRecsOf mc tr = colRecsOf mc' tr := by
  unfold colRecsOf
  rw [← h.1]
  have : mc.rows.filter (fun cr => valNat (mc.cell "parentId" cr) == tr) =
      mc.rows.filter (fun cr => valNat (mc'.cell "parentId" cr) == tr) := by
    apply List.filter_congr
    intro r hr
    rw [h.2 "parentId" (.head _) r hr]
  rw [← this]
  apply List.map_congr_left
  intro r hr
  exact colRecInfo_congr h (List.mem_filter.1 hr).1

theorem metaSchemaOf_congr {mt mt' mc mc' : Table} (ht : FieldsAgree tableFields mt mt')
    (hc : FieldsAgree columnFields mc mc') : metaSchemaOf mt mc = metaSchemaOf mt' mc' := by
  unfold metaSchemaOf
  rw [← ht.1]
  apply List.map_congr_left
  intro tr htr
  rw [ht.2 "tableId" (.head _) tr htr, colRecsOf_congr hc]

def MetaAgree (d d' : Doc) : Prop :=
  ORel (FieldsAgree tableFields) (findTable? d "_grist_Tables") (findTable? d' "_grist_Tables") ∧
  ORel (FieldsAgree columnFields) (findTable? d "_grist_Tables_column")
    (findTable? d' "_grist_Tables_column")

theorem metaSchema_congr {d d' : Doc} (h : MetaAgree d d') : metaSchema d = metaSchema d' := by
  unfold metaSchema
  refine h.1.elim (fun e e' => by rw [e, e']) fun mt mt' e e' h1 => ?_
  refine h.2.elim (fun e2 e2' => by rw [e, e', e2, e2']) fun mc mc' e2 e2' h2 => ?_
  rw [e, e', e2, e2']
  exact metaSchemaOf_congr h1 h2

theorem noStrayB_congr {d d' : Doc} (h : MetaAgree d d') : noStrayB d = noStrayB d' := by
  unfold noStrayB
  refine h.1.elim (fun e e' => by rw [e, e']) fun mt mt' e e' h1 => ?_
  refine h.2.elim (fun e2 e2' => by rw [e, e', e2, e2']) fun mc mc' e2 e2' h2 => ?_
  rw [e, e', e2, e2']
  simp only
  rw [← h2.1, ← h1.1, Bool.eq_iff_iff]
  simp only [List.all_eq_true]
  constructor
  · intro h r hr
    rw [← h2.2 "parentId" (.head _) r hr]
    exact h r hr
  · intro h r hr
    rw [h2.2 "parentId" (.head _) r hr]
    exact h r hr

def UserAgree (d d' : Doc) : Prop :=
  ∀ t, ORel (fun a b : Table => ∀ c, a.infoOf? c = b.infoOf? c) (findTable? d t) (findTable? d' t)

theorem schemaConsistent_congr {d d' : Doc} (hu : UserAgree d d') (hm : MetaAgree d d')
    (h : SchemaConsistent d) : SchemaConsistent d' := by
  refine ⟨fun t => ?_, by rw [← noStrayB_congr hm]; exact h.2⟩
  have := h.1 t
  unfold TableAgrees at this ⊢
  rw [← metaSchema_congr hm]
  have hut : ORel (fun a b : Table => ∀ c, a.infoOf? c = b.infoOf? c)
      (userTable? d t) (userTable? d' t) := by
    unfold userTable?
    split
    · trivial
    · exact hu t
  refine hut.elim (fun e e' => by rw [e']; rw [e] at this; exact this) fun a b e e' hab => ?_
  rw [e] at this
  rw [e']
  cases e3 : lookupLast (metaSchema d) t <;> rw [e3] at this
  · exact this
  · intro c
    rw [← hab c]
    exact this c

theorem Table.Same.cell_eq {a b : Table} (h : Table.Same a b) (c : String) {r : Nat}
    (hr : r ∈ a.rows) : a.cell c r = b.cell c r := by
  unfold Table.cell
  exact (((tableSame_iff _ _).1 h).2 c).elim (fun e e' => by rw [e, e']) fun x y e e' hxy => by
    rw [e, e']
    exact hxy.2 r hr

theorem Table.Same.fieldsAgree {a b : Table} (h : Table.Same a b) (fields : List String) :
    FieldsAgree fields a b := ⟨h.1, fun c _ _ hr => h.cell_eq c hr⟩

theorem Table.Same.infoOf_eq {a b : Table} (h : Table.Same a b) (c : String) :
    a.infoOf? c = b.infoOf? c := by
  unfold Table.infoOf?
  exact (((tableSame_iff _ _).1 h).2 c).elim (fun e e' => by rw [e, e'])
    fun x y e e' hxy => by rw [e, e', Option.map_some, Option.map_some, hxy.1]

theorem Same.metaAgree {d d' : Doc} (h : Same d d') : MetaAgree d d' := by
  rw [same_iff] at h
  exact ⟨(h _).mono (fun _ _ hs => hs.fieldsAgree _), (h _).mono (fun _ _ hs => hs.fieldsAgree _)⟩

theorem Same.userAgree {d d' : Doc} (h : Same d d') : UserAgree d d' := by
  rw [same_iff] at h
  exact fun t => (h t).mono (fun _ _ hs => hs.infoOf_eq)

theorem schemaConsistent_of_same {d d' : Doc} (h : Same d d') (hc : SchemaConsistent d) :
    SchemaConsistent d' :=
  schemaConsistent_congr h.userAgree h.metaAgree hc

theorem schemaConsistent_replaceTable {d : Doc} {t : String} {tb tb' : Table}
    (hf : findTable? d t = some tb) (hid : tb'.id = t) (hinfo : ∀ c, tb.infoOf? c = tb'.infoOf? c)
    (hmt : t = "_grist_Tables" → FieldsAgree tableFields tb tb')
    (hmc : t = "_grist_Tables_column" → FieldsAgree columnFields tb tb')
    (h : SchemaConsistent d) : SchemaConsistent (replaceTable d t tb') := by
  apply schemaConsistent_congr _ _ h
  · intro t'
    by_cases ht : t' = t
    · subst ht
      rw [findTable?_replaceTable_self hid hf, hf]
      exact hinfo
    · rw [findTable?_replaceTable_ne hid ht]
      exact ORel.refl' _ (fun _ _ _ => rfl)
  · constructor
    · by_cases ht : "_grist_Tables" = t
      · subst ht
        rw [findTable?_replaceTable_self hid hf, hf]
        exact hmt rfl
      · rw [findTable?_replaceTable_ne hid ht]
        exact ORel.refl' _ (fun x _ => FieldsAgree.refl _ x)
    · by_cases ht : "_grist_Tables_column" = t
      · subst ht
        rw [findTable?_replaceTable_self hid hf, hf]
        exact hmc rfl
      · rw [findTable?_replaceTable_ne hid ht]
        exact ORel.refl' _ (fun x _ => FieldsAgree.refl _ x)

theorem tableAgreesB_iff (d : Doc) (t : String) : tableAgreesB d t = true ↔ TableAgrees d t := by
  unfold tableAgreesB TableAgrees
  cases userTable? d t with
  | none => cases lookupLast (metaSchema d) t <;> simp
  | some tb =>
    cases lookupLast (metaSchema d) t with
    | none => simp
    | some recs =>
      simp only [List.all_eq_true, beq_iff_eq]
      constructor
      · intro h c
        by_cases hc : c ∈ tb.cols.map (·.id) ++ recs.map (·.1)
        · exact h c hc
        · simp only [List.mem_append, List.mem_map, not_or, not_exists, not_and] at hc
          have h1 : tb.infoOf? c = none := by
            unfold Table.infoOf?
            rw [findCol?_none.2 (fun col hcol => hc.1 col hcol)]
            rfl
          have h2 : lookupLast recs c = none :=
            lookupLast_eq_none.2 (fun p hp => hc.2 p hp)
          rw [h1, h2]
      · intro h c _
        exact h c

theorem tableAgreesB_of_consistent {d : Doc} (h : SchemaConsistent d) (t : String) :
    tableAgreesB d t = true :=
  (tableAgreesB_iff d t).2 (h.1 t)

theorem schemaConsistentB_iff (d : Doc) : schemaConsistentB d = true ↔ SchemaConsistent d := by
  unfold schemaConsistentB SchemaConsistent
  rw [Bool.and_eq_true, List.all_eq_true]
  constructor
  · rintro ⟨h1, h2⟩
    refine ⟨fun t => ?_, h2⟩
    by_cases ht : t ∈ (userSchema d).map (·.1) ++ (metaSchema d).map (·.1)
    · exact (tableAgreesB_iff d t).1 (h1 t ht)
    · simp only [List.mem_append, List.mem_map, not_or, not_exists, not_and] at ht
      have e1 : userTable? d t = none := by
        unfold userTable?
        by_cases hm : isMetaId t = true
        · simp [hm]
        · simp only [hm, Bool.false_eq_true, ↓reduceIte]
          rw [findTable?_none]
          intro tb htb hid
          apply ht.1 (tb.id, tb.cols.map (fun c => (c.id, c.info)))
          · simp only [userSchema, List.mem_map, List.mem_filter]
            exact ⟨tb, ⟨htb, by rw [hid]; simpa using hm⟩, rfl⟩
          · exact hid
      have e2 : lookupLast (metaSchema d) t = none :=
        lookupLast_eq_none.2 (fun p hp => ht.2 p hp)
      unfold TableAgrees
      rw [e1, e2]
      trivial
  · rintro ⟨h1, h2⟩
    exact ⟨fun t _ => tableAgreesB_of_consistent ⟨h1, h2⟩ t, h2⟩

theorem fieldsAgree_written {fields : List String} (tb : Table) (rows : List Nat)
    {cols : List (String × List Val)} (h : ∀ cv ∈ cols, cv.1 ∉ fields) :
    FieldsAgree fields tb (tb.written rows cols) := by
  refine ⟨rfl, fun c hc r _ => ?_⟩
  unfold Table.cell
  rw [Table.findCol?_written]
  cases e : tb.findCol? c with
  | none => rfl
  | some x =>
    simp only [Option.map_some, Col.written]
    rw [writeCells_no_key]
    intro cv hcv hk
    rw [(findCol?_some e).1] at hk
    exact h cv hcv (hk ▸ hc)

theorem post_neutral {d : Doc} {a : DocAction} {D : Doc} {U : List DocAction} (hwf : WF d)
    (hne : a.neutral) (hc : SchemaConsistent d) (h : Post d a D U) : SchemaConsistent D := by
  cases ha : a.recordTable with
  | none => cases a <;> first | exact hne.elim | cases ha
  | some t =>
    obtain ⟨tb, o, hf, hp, rfl⟩ := (post_local (DocAction.table?_of_recordTable ha)).1 h
    cases o with
    | none => exact hc
    | some tb' =>
      have hnd := (hwf.table hf).1
      obtain ⟨F, hF, hcols⟩ := hp.record_cols ha hnd
      -- only an update can be on a metadata table, and then it names no schema-bearing field
      have hm : (t = "_grist_Tables" → FieldsAgree tableFields tb tb') ∧
          (t = "_grist_Tables_column" → FieldsAgree columnFields tb tb') := by
        cases hp <;> cases ha
        case bulkUpdate hw =>
          obtain ⟨_, rfl⟩ := (writeCols_ok_iff hnd).1 hw
          exact ⟨fun h => fieldsAgree_written tb _ (hne.1 h),
            fun h => fieldsAgree_written tb _ (hne.2 h)⟩
        all_goals exact ⟨fun h => absurd h hne.1, fun h => absurd h hne.2⟩
      refine schemaConsistent_replaceTable hf (hp.id.trans (findTable?_some hf).1) (fun c => ?_)
        hm.1 hm.2 hc
      rw [Table.infoOf?, Table.infoOf?, hcols c]
      cases tb.findCol? c <;> simp [(hF _).2]

end Grist.Doc
