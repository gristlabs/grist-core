/-
The column-level functions of GristModel/PyVal.lean (`colSet`, `colConvert`, `modifyCell`, `strictEq`,
`exactEq`).  Defines `shapeOK` (the shapes `convert` produces) and `reparses`, in which C07 and C23
are stated.  Main facts: `exactEq_encode`, `colSet_seq`, `colSet_respects`; `doConvert_result` (every
conversion returns a value of the column's shape and maps that value to itself) and
`convert_range_general`; what a stored cell is and that `column.set` leaves it alone
(`colConvert_stored`, `colSet_stored`, `stored_range`); `modifyCell_ok`.  Where a proof names `caseN`,
Lean numbers the alternatives of the definition it goes by, in order.
-/
import GristProofs.PyValConvert
namespace Grist.PyVal

/-- what `<Type>.convert` can return for a value that is not an error object (tighter than
    is_right_type: Numeric never returns an int, Date never a bool, ...) -/
def shapeOK (τ : ColType) (r : PyVal) : Bool :=
  match τ with
  | .any | .blob => true
  | .text | .choice => match r with | .none => true | .str _ false => true | _ => false
  | .bool => match r with | .bool _ => true | .str _ false => true | _ => false
  | .int => match r with | .none => true | .int n false => isShort n | .str _ false => true | _ => false
  | .id | .ref => match r with | .int n false => isShort n | .str _ false => true | _ => false
  | .numeric | .date | .dateTime =>
    match r with | .none => true | .float _ false => true | .str _ false => true | _ => false
  | .positionNumber | .manualSortPos =>
    match r with | .float _ false => true | .str _ false => true | _ => false
  | .choiceList => match r with | .none => true | .str _ _ => true | .tuple _ xs => allStr xs | _ => false
  | .refList _ | .attachments =>
    match r with
    | .none => true | .str _ false => true | .recordList .. => true | .list _ xs => xs.all isRefId
    | _ => false

/-- the column types whose `set()` re-parses strings -/
def reparses (τ : ColType) : Bool :=
  match τ with
  | .choiceList | .refList _ | .attachments => true
  | _ => false

/-- sent as `['L', item, ...]` -/
def isSeq : PyVal → Bool
  | .list .. | .tuple .. | .recordList .. => true
  | _ => false

/-- the exact scalars (no subclass instances) that are sent as themselves -/
def isPlain : PyVal → Bool
  | .none | .bool _ | .float _ false | .str _ false => true
  | .int n false => isShort n
  | _ => false

def scalarTarget : ColType → Bool
  | .text | .choice | .bool | .int => true
  | _ => false

theorem exactEq_encode (P : Prim) : ∀ a b : PyVal, exactEq a b = true → encode P a = encode P b := by
  apply exactEq.induct_unfolding
    (motive_1 := fun a b r => r = true → encode P a = encode P b)
    (motive_2 := fun xs ys r => r = true → encodeL P xs = encodeL P ys)
  -- odd cases up to 15: both arguments none, bool, int, float, str, list, tuple, RecordList;
  -- 18 and 20: `exactEqL` on two empty / two non-empty lists; elsewhere the comparison is `false`
  case case1 => exact fun _ => rfl
  case case3 | case5 | case7 | case9 | case15 =>
    intros
    rename_i h
    rw [encode, encode, of_decide_eq_true h]
  case case11 | case13 =>
    intro m xs m' ys ih h
    rw [encode, encode, ih h]
  case case18 => exact fun _ => rfl
  case case20 =>
    intro x xs y ys ih1 ih2 h
    rw [Bool.and_eq_true] at h
    rw [encodeL, encodeL, ih1 h.1, ih2 h.2]
  all_goals
    intros
    contradiction

theorem exactEq_sameClass (a b : PyVal) (he : exactEq a b = true) (hc : sameClass a b = true) :
    a = b ∨ (isSeq a = true ∧ isSeq b = true) := by
  revert hc
  fun_cases sameClass a b <;> intro hc
  -- cases 1 to 12: both none, bool, int, float, str, bytes, list, tuple, RecordList, date,
  -- record, altText; 13: anything else
  case case1 => exact Or.inl rfl
  case case2 x y =>
    rw [exactEq, decide_eq_true_eq] at he
    rw [he]
    exact Or.inl rfl
  -- int, float, str: `sameClass` says that neither is a subclass instance
  case case3 n s m s' | case4 n s m s' | case5 n s m s' =>
    rw [exactEq, decide_eq_true_eq] at he
    rw [Bool.and_eq_true, Bool.not_eq_true', Bool.not_eq_true'] at hc
    rw [he, hc.1, hc.2]
    exact Or.inl rfl
  case case7 | case8 | case9 => exact Or.inr ⟨rfl, rfl⟩
  case case13 => cases hc
  -- bytes, dates, records, alt-texts are never `exactEq`
  all_goals cases he

theorem exactEq_plain (r : PyVal) (hp : isPlain r = true) : exactEq r r = true := by
  revert hp
  fun_cases isPlain r <;> intro hp
  case case6 => cases hp
  all_goals simp only [exactEq, decide_true]

/-- strict_equal with None, a bool, an int or a str never relies on a numeric coercion -/
theorem strictEq_plain (a r : PyVal) (hp : isPlain r = true) (hf : r.isFloat = false)
    (h : strictEq a r = true) : a = r := by
  rw [strictEq, Bool.and_eq_true] at h
  obtain ⟨hc, he⟩ := h
  revert hc
  fun_cases sameClass a r <;> intro hc
  case case1 => rfl
  case case2 x y => cases x <;> cases y <;> first | rfl | cases he
  case case3 n s m s' =>
    rw [Bool.and_eq_true, Bool.not_eq_true', Bool.not_eq_true'] at hc
    simp only [pyEq, numKey, decide_eq_true_eq, NumK.int.injEq] at he
    rw [he, hc.1, hc.2]
  case case4 => cases hf
  case case5 s sb s' sb' =>
    rw [Bool.and_eq_true, Bool.not_eq_true', Bool.not_eq_true'] at hc
    rw [pyEq, decide_eq_true_eq] at he
    rw [he, hc.1, hc.2]
  case case13 => cases hc
  all_goals cases hp

theorem encodeL_ints (P : Prim) (rows : List Int) :
    encodeL P (rows.map (fun r => .int r false)) =
      rows.map (fun r => if isShort r then Enc.int r else .list [.str ['U'], .str (decInt r)]) := by
  induction rows with
  | nil => rfl
  | cons r rs ih =>
    rw [List.map_cons, encodeL, ih]
    rfl

/-- ChoiceListColumn.set makes a tuple of a list or RecordList; it encodes the same -/
theorem colSet_seq (P : Prim) (τ : ColType) (v : PyVal) (h : isSeq v = true) :
    ∃ x, colSet P τ v = .ok x ∧ encode P x = encode P v := by
  cases v
  case list m xs => cases τ <;> exact ⟨_, rfl, rfl⟩
  case tuple m xs => cases τ <;> exact ⟨_, rfl, rfl⟩
  case recordList rows g s =>
    cases τ
    case choiceList => exact ⟨_, rfl, by rw [encode, encode, encodeL_ints]⟩
    all_goals exact ⟨_, rfl, rfl⟩
  all_goals cases h

theorem colSet_raised (P : Prim) (τ : ColType) (v : PyVal) (h : v.isRaised = true) :
    colSet P τ v = .ok v := by
  cases v
  case raised => cases τ <;> rfl
  all_goals cases h

/-- a raw copy that is `strict_equal` and exactly equal to `b` is stored like `b` -/
theorem colSet_respects (P : Prim) (τ : ColType) (a b : PyVal) (hs : strictEq a b = true)
    (he : exactEq a b = true) (x : PyVal) (hx : colSet P τ a = .ok x) :
    ∃ y, colSet P τ b = .ok y ∧ encode P x = encode P y := by
  rw [strictEq, Bool.and_eq_true] at hs
  rcases exactEq_sameClass a b he hs.1 with rfl | ⟨ha, hb⟩
  · exact ⟨x, hx, rfl⟩
  · obtain ⟨x', hx', ex⟩ := colSet_seq P τ a ha
    obtain ⟨y, hy, ey⟩ := colSet_seq P τ b hb
    rw [hx] at hx'
    cases hx'
    exact ⟨y, hy, by rw [ex, ey, exactEq_encode P a b he]⟩

/-- what `do_convert` of each type returns: a value of the column's shape, which (off the
    `Degenerate` inputs) it returns unchanged when given it again -/
theorem doConvert_result (P : Prim) (τ : ColType) (v r : PyVal) (h : doConvert P τ v = .ok r)
    (hs : reparses τ = true → RowIdsShort v) :
    shapeOK τ r = true ∧ (¬ Degenerate P τ v → doConvert P τ r = .ok r) := by
  cases τ
  case text | choice =>
    rcases doText_result P v r h with rfl | ⟨s, rfl⟩
    · exact ⟨rfl, fun _ => rfl⟩
    · exact ⟨rfl, fun _ => doText_str P s false⟩
  case blob => exact ⟨rfl, fun _ => rfl⟩
  case any =>
    -- an AltText becomes its text; nothing else is touched, and the result is never an AltText
    refine ⟨rfl, fun _ => ?_⟩
    change (match v with | .altText s => Except.ok (PyVal.str s false) | _ => .ok v) = _ at h
    split at h <;> cases h
    · rfl
    · next hne =>
      show (match v with | .altText s => Except.ok (PyVal.str s false) | _ => .ok v) = _
      split
      · exact absurd rfl (hne _)
      · rfl
  case bool =>
    obtain ⟨b, rfl⟩ := doBool_result v r h
    exact ⟨rfl, fun _ => doBool_bool b⟩
  case int =>
    rcases doInt_result P v r h with rfl | ⟨n, rfl, hn⟩
    · exact ⟨rfl, fun _ => rfl⟩
    · exact ⟨hn, fun _ => doInt_int P n hn⟩
  case numeric | positionNumber | manualSortPos =>
    rcases doNumeric_result P _ v r h with rfl | ⟨f, rfl⟩
    · exact ⟨rfl, fun _ => rfl⟩
    · exact ⟨rfl, fun _ => doNumeric_float P _ f false⟩
  case date | dateTime =>
    -- `doDate_float`, by `rfl`: its flag cannot be inferred here, both sides compute without it
    rcases doDate_result P _ v r h with rfl | ⟨f, rfl⟩ <;> exact ⟨rfl, fun _ => rfl⟩
  case choiceList =>
    rcases doChoiceList_result P v r h with rfl | ⟨rfl, hstr⟩ | ⟨ss, rfl, hss⟩
    · exact ⟨rfl, fun _ => rfl⟩
    · -- the text itself, possibly a str subclass instance
      refine ⟨?_, fun _ => h⟩
      cases r <;> first | rfl | cases hstr
    · exact ⟨allStr_strs ss, fun hd => doChoiceList_tuple P ss (fun hnil => hd (hss hnil))⟩
  case id | ref =>
    obtain ⟨n, rfl, hn⟩ := doId_result v r h
    exact ⟨hn, fun _ => doId_int n hn⟩
  case refList | attachments =>
    rcases doRefList_result P _ v r h (hs rfl) with ⟨_, _, _, rfl, hdeg⟩ | rfl | ⟨rs, rfl, hil, hne⟩
    · exact ⟨rfl, fun hd => absurd hdeg hd⟩
    · exact ⟨rfl, fun _ => rfl⟩
    · exact ⟨all_isRefId rs hil, fun hd => doRefList_intlist P _ rs (fun hnil => hd (hne hnil)) hil⟩

theorem convert_shapeOK (P : Prim) (τ : ColType) (v : PyVal) (hr : v.isRaised = false)
    (hs : reparses τ = true → RowIdsShort v) : shapeOK τ (convert P τ v) = true := by
  cases h : doConvert P τ v with
  | ok r =>
    rw [convert_ok P τ v r hr h]
    exact (doConvert_result P τ v r h hs).1
  | error e =>
    -- the alt-text is an exact string, which has the shape of every type
    obtain ⟨s, hs'⟩ := altOf_shape P v
    rw [convert_error P τ v e hr h, hs']
    cases τ <;> rfl

/-- the last disjunct: ChoiceList keeps str subclass instances -/
theorem shapeOK_cases (τ : ColType) (r : PyVal) (h : shapeOK τ r = true) :
    τ = .any ∨ τ = .blob ∨ isPlain r = true ∨ isSeq r = true ∨
    (reparses τ = true ∧ r.isStr = true) := by
  revert h
  fun_cases shapeOK τ r <;> intro h
  all_goals first
    | contradiction
    | exact Or.inr (Or.inr (Or.inl h))
    | exact Or.inr (Or.inr (Or.inr (Or.inl rfl)))
    | exact Or.inr (Or.inr (Or.inr (Or.inr ⟨rfl, rfl⟩)))
    | exact Or.inl rfl
    | exact Or.inr (Or.inl rfl)

theorem colSet_bool (P : Prim) (b : Bool) : colSet P .bool (.bool b) = .ok (.bool b) := by
  cases b <;> rfl

theorem colSet_fixed (P : Prim) (τ : ColType) (r : PyVal) (hsh : shapeOK τ r = true)
    (hstr : reparses τ = true → r.isStr = false) : colSet P τ r = .ok r := by
  revert hsh
  fun_cases shapeOK τ r <;> intro hsh
  -- `colSet_bool`: BoolColumn.set compares the value with 1 and 0
  all_goals first | contradiction | rfl | exact colSet_bool P _ | cases hstr rfl

theorem shapeOK_scalar (τ : ColType) (r : PyVal) (hτ : scalarTarget τ = true)
    (h : shapeOK τ r = true) : isPlain r = true ∧ r.isFloat = false := by
  revert h
  fun_cases shapeOK τ r <;> intro h
  all_goals first | contradiction | exact ⟨h, rfl⟩

theorem shapeOK_range (τ : ColType) (r : PyVal) (hτ : τ ≠ .blob) (h : shapeOK τ r = true) :
    isRightType τ r = true ∨ r.isStr = true := by
  revert h
  fun_cases shapeOK τ r <;> intro h
  all_goals first | contradiction | exact Or.inl h | exact Or.inr rfl | exact absurd rfl hτ

theorem convert_range_general (P : Prim) (τ : ColType) (v : PyVal) (hτ : τ ≠ .blob)
    (hs : reparses τ = true → RowIdsShort v) :
    isRightType τ (convert P τ v) = true ∨ (convert P τ v = v ∧ v.isRaised = true) ∨
    (convert P τ v).isStr = true := by
  cases hr : v.isRaised
  · rcases shapeOK_range τ _ hτ (convert_shapeOK P τ v hr hs) with h | h
    · exact Or.inl h
    · exact Or.inr (Or.inr h)
  · exact Or.inr (Or.inl ⟨convert_raised P τ v hr, rfl⟩)

theorem refListColPre_short (P : Prim) (t : Str) (v : PyVal) (hs : RowIdsShort v) :
    RowIdsShort (refListColPre P t v) := by
  fun_cases refListColPre P t v
  -- a one-element list made from an int or a Record holds no RecordSet
  case case1 | case2 | case3 =>
    intro m xs tid ids hv hf
    cases hv
    cases hf
  all_goals exact hs

/-! What a cell of a column of type `τ` holds: a value of the type's shape or an error object. -/

theorem convert_stored (P : Prim) (τ : ColType) (v : PyVal) (hs : reparses τ = true → RowIdsShort v) :
    shapeOK τ (convert P τ v) = true ∨ (convert P τ v).isRaised = true := by
  cases hr : v.isRaised
  · exact Or.inl (convert_shapeOK P τ v hr hs)
  · rw [convert_raised P τ v hr]
    exact Or.inr hr

/-- `column.convert` is `<Type>.convert` of an adapted value, which holds no RecordSets unless the
    given one did -/
theorem colConvert_stored (P : Prim) (τ : ColType) (v : PyVal) (hs : reparses τ = true → RowIdsShort v) :
    shapeOK τ (colConvert P τ v) = true ∨ (colConvert P τ v).isRaised = true := by
  cases τ
  case ref =>
    simp only [colConvert]
    split <;> exact convert_stored P .ref _ (fun h => nomatch h)
  case refList t => exact convert_stored P _ _ (fun h => refListColPre_short P t v (hs h))
  case attachments => exact convert_stored P _ _ (fun h => refListColPre_short P _ v (hs h))
  all_goals exact convert_stored P _ v hs

theorem colSet_stored (P : Prim) (τ : ColType) (c : PyVal)
    (h : shapeOK τ c = true ∨ c.isRaised = true) (hstr : reparses τ = true → c.isStr = false) :
    colSet P τ c = .ok c :=
  h.elim (fun h => colSet_fixed P τ c h hstr) (colSet_raised P τ c)

theorem stored_range (τ : ColType) (c : PyVal) (hτ : τ ≠ .blob)
    (h : shapeOK τ c = true ∨ c.isRaised = true) :
    isRightType τ c = true ∨ c.isRaised = true ∨ c.isStr = true := by
  rcases h with h | h
  · exact (shapeOK_range τ c hτ h).imp_right Or.inr
  · exact Or.inr (Or.inl h)

/-- the two ways `doModifyColumn` leaves a cell: the raw copy when it is `strict_equal` to the
    converted value, the converted value otherwise; either went through `column.set` -/
theorem modifyCell_ok (P : Prim) (τ' : ColType) (old c : PyVal) (h : modifyCell P τ' old = .ok c) :
    (strictEq old (colConvert P τ' old) = true ∧ colSet P τ' old = .ok c) ∨
    (strictEq old (colConvert P τ' old) = false ∧ colSet P τ' (colConvert P τ' old) = .ok c) := by
  unfold modifyCell at h
  split at h
  · cases h
  · next raw hraw =>
    split at h
    · next hse => exact Or.inl ⟨hse, hraw.trans h⟩
    · next hse => exact Or.inr ⟨Bool.eq_false_iff.mpr hse, h⟩

end Grist.PyVal
