/-
Proofs about GristModel/Identifiers.lean for any keyword list with `kwOK`.  Defines `GoodIdent` and
`DistinctUpper`.  Main facts: `firstIdx_eq_find?` (the search loop is `find?` on a range), `firstIdx_search`
(pigeonhole: the three loops terminate at the first free candidate), `sanitize_spec`, and the `pick*_good` /
`pick*_id` results that C21 instantiates.
`Std.Data.String.ToNat` supplies `Nat.repr_injective`.
-/
import GristModel.Identifiers
import Std.Data.String.ToNat
namespace Grist.Identifiers

/-- what C21 asks of one chosen identifier -/
def GoodIdent (kws : List Str) (avoid : List Str) (r : Str) : Prop :=
  identShape r = true ∧ r ∉ kws ∧ upperStr r ∉ avoid

/-- "distinct case-insensitively", as the code compares: by upper-cased form -/
def DistinctUpper (rs : List Str) : Prop := rs.Pairwise (fun a b => upperStr a ≠ upperStr b)

theorem firstIdx_eq_find? (p : Nat → Bool) : ∀ (fuel s : Nat),
    firstIdx p fuel s = (List.range' s fuel).find? p
  | 0, _ => rfl
  | fuel + 1, s => by
    rw [firstIdx, List.range'_succ, List.find?_cons, firstIdx_eq_find? p fuel (s + 1)]
    cases p s <;> rfl

/-- pigeonhole -/
theorem exists_not_mem_of_injective {α} (f : Nat → α)
    (hinj : ∀ a b, f a = f b → a = b) (l : List α) (s : Nat) :
    ∃ i, s ≤ i ∧ i < s + (l.length + 1) ∧ f i ∉ l := by
  apply Classical.byContradiction
  intro hno
  -- otherwise the `|l|+1` distinct values `f s, …, f (s+|l|)` would all lie in `l`
  have hsub : (List.range (l.length + 1)).map (fun i => f (s + i)) ⊆ l := by
    intro x hx
    obtain ⟨i, hi, rfl⟩ := List.mem_map.mp hx
    have := List.mem_range.mp hi
    exact Classical.not_not.mp fun h => hno ⟨s + i, by omega, by omega, h⟩
  have hnd : ((List.range (l.length + 1)).map (fun i => f (s + i))).Nodup :=
    List.Pairwise.map _ (fun a b hab heq => hab (by have := hinj _ _ heq; omega)) List.nodup_range
  have := hnd.length_le_of_subset hsub
  rw [List.length_map, List.length_range] at this
  omega

/-- The loop shared by `_sanitize_ident`, `_add_suffix` and `_gen_ident`: over an injective candidate
    sequence fuel `|avoid|+1` suffices, and the first free candidate is returned. -/
theorem firstIdx_search {α} [BEq α] [LawfulBEq α] (f : Nat → α) (hinj : ∀ a b, f a = f b → a = b)
    (avoid : List α) (s : Nat) :
    ∃ i, firstIdx (fun n => !(avoid.contains (f n))) (avoid.length + 1) s = some i ∧
      s ≤ i ∧ i ≤ s + avoid.length ∧ f i ∉ avoid ∧ ∀ j, s ≤ j → j < i → f j ∈ avoid := by
  rw [firstIdx_eq_find?]
  cases h : (List.range' s (avoid.length + 1)).find? (fun n => !(avoid.contains (f n))) with
  | none =>
    -- the `|avoid|+1` candidates cannot all be taken
    obtain ⟨i, h1, h2, h3⟩ := exists_not_mem_of_injective f hinj avoid s
    have := List.find?_range'_eq_none.mp h i h1 h2
    simp [h3] at this
  | some i =>
    obtain ⟨hp, hm, hmin⟩ := List.find?_range'_eq_some.mp h
    have := List.mem_range'_1.mp hm
    exact ⟨i, rfl, this.1, by omega, by simpa using hp, fun j hj1 hj2 => by simpa using hmin j hj1 hj2⟩

/-! ASCII character classes (core `Char.isUpper` … `Char.toUpper`) via code points -/

theorem isUpper_iff {c : Char} : c.isUpper = true ↔ 65 ≤ c.toNat ∧ c.toNat ≤ 90 := by
  simp [Char.isUpper, UInt32.le_iff_toNat_le]
theorem isLower_iff {c : Char} : c.isLower = true ↔ 97 ≤ c.toNat ∧ c.toNat ≤ 122 := by
  simp [Char.isLower, UInt32.le_iff_toNat_le]
theorem isDigit_iff {c : Char} : c.isDigit = true ↔ 48 ≤ c.toNat ∧ c.toNat ≤ 57 := by
  simp [Char.isDigit, UInt32.le_iff_toNat_le]
theorem isAlpha_iff {c : Char} :
    c.isAlpha = true ↔ (65 ≤ c.toNat ∧ c.toNat ≤ 90) ∨ (97 ≤ c.toNat ∧ c.toNat ≤ 122) := by
  simp [Char.isAlpha, isUpper_iff, isLower_iff]
theorem eq_underscore_iff {c : Char} : c = '_' ↔ c.toNat = 95 := by
  rw [← Char.toNat_inj]
  rfl

theorem toNat_toUpper (c : Char) :
    c.toUpper.toNat = if 97 ≤ c.toNat ∧ c.toNat ≤ 122 then c.toNat - 32 else c.toNat := by
  simp only [Char.toUpper]
  split
  · next h =>
    simp only [UInt32.le_iff_toNat_le, seval] at h
    have h' : 97 ≤ c.toNat ∧ c.toNat ≤ 122 := h
    simp only [h', and_self, Char.toNat_mk, UInt32.toNat_add, seval]
    show (c.toNat + 4294967264) % 4294967296 = _
    omega
  · next h =>
    simp only [UInt32.le_iff_toNat_le, seval] at h
    have h' : ¬ (97 ≤ c.toNat ∧ c.toNat ≤ 122) := h
    simp [h']

theorem toUpper_eq_self {c : Char} (h : ¬ (97 ≤ c.toNat ∧ c.toNat ≤ 122)) : c.toUpper = c := by
  rw [← Char.toNat_inj, toNat_toUpper, if_neg h]

theorem toUpper_of_isDigit {c : Char} (h : c.isDigit = true) : c.toUpper = c :=
  toUpper_eq_self (by have := isDigit_iff.mp h; omega)

theorem toUpper_of_isUpper {c : Char} (h : c.isUpper = true) : c.toUpper = c :=
  toUpper_eq_self (by have := isUpper_iff.mp h; omega)

theorem isUpper_toUpper_of_isAlpha {c : Char} (h : c.isAlpha = true) : c.toUpper.isUpper = true := by
  rw [isUpper_iff, toNat_toUpper]
  have := isAlpha_iff.mp h
  split <;> omega

theorem isAlpha_of_isUpper {c : Char} (h : c.isUpper = true) : c.isAlpha = true := by
  simp [Char.isAlpha, h]

theorem isIdentChar_of_isAlpha {c : Char} (h : c.isAlpha = true) : isIdentChar c = true := by
  simp [isIdentChar, h]
theorem isIdentChar_of_isDigit {c : Char} (h : c.isDigit = true) : isIdentChar c = true := by
  simp [isIdentChar, h]

theorem isAlpha_of_isIdentChar {c : Char} (h : isIdentChar c = true) (hd : c.isDigit = false)
    (hu : c ≠ '_') : c.isAlpha = true := by
  simp [isIdentChar, hd, hu] at h
  exact h

theorem not_isDigit_of_isAlpha {c : Char} (h : c.isAlpha = true) : c.isDigit = false := by
  rw [Bool.eq_false_iff]
  intro hd
  have := isAlpha_iff.mp h
  have := isDigit_iff.mp hd
  omega

theorem ne_underscore_of_isAlpha {c : Char} (h : c.isAlpha = true) : c ≠ '_' := by
  have := isAlpha_iff.mp h
  intro e
  have := eq_underscore_iff.mp e
  omega

theorem not_isUpper_of_isDigit {c : Char} (h : c.isDigit = true) : c.isUpper = false := by
  rw [Bool.eq_false_iff]
  intro hu
  have := isDigit_iff.mp h
  have := isUpper_iff.mp hu
  omega

theorem upperStr_eq_self {s : Str} (h : ∀ c ∈ s, c.toUpper = c) : upperStr s = s :=
  (List.map_congr_left h).trans (List.map_id' s)

theorem subInvalid_all : ∀ (s : Str) (b : Bool), (subInvalid b s).all isIdentChar = true := by
  intro s
  induction s with
  | nil =>
    intro b
    rfl
  | cons c cs ih =>
    intro b
    simp only [subInvalid]
    split
    · next h => simp only [List.all_cons, h, ih, Bool.and_self]
    · split
      · exact ih _
      · simp only [List.all_cons, ih, Bool.and_true]
        rfl

theorem subInvalid_id : ∀ (s : Str) (b : Bool), s.all isIdentChar = true → subInvalid b s = s := by
  intro s
  induction s with
  | nil =>
    intro b _
    rfl
  | cons c cs ih =>
    intro b h
    simp only [List.all_cons, Bool.and_eq_true] at h
    simp only [subInvalid, h.1, if_true, ih false h.2]

theorem lstrip_all {s : Str} (h : s.all isIdentChar = true) :
    (lstripUnderscore s).all isIdentChar = true := by
  simp only [List.all_eq_true] at h ⊢
  intro x hx
  exact h x ((List.dropWhile_sublist _).subset hx)

theorem identShape_append {a b : Str} (ha : identShape a = true) (hb : b.all isIdentChar = true) :
    identShape (a ++ b) = true := by
  cases a with
  | nil => cases ha
  | cons c cs =>
    simp only [identShape, Bool.and_eq_true, List.cons_append, List.all_append] at ha ⊢
    exact ⟨ha.1, ha.2, hb⟩

theorem identShape_all {a : Str} (ha : identShape a = true) : a.all isIdentChar = true := by
  cases a with
  | nil => cases ha
  | cons c cs =>
    simp only [identShape, Bool.and_eq_true, List.all_cons] at ha ⊢
    exact ⟨isIdentChar_of_isAlpha ha.1, ha.2⟩

theorem startsUpper_append {a : Str} (b : Str) (ha : startsUpper a = true) :
    startsUpper (a ++ b) = true := by
  cases a with
  | nil => cases ha
  | cons c cs => exact ha

theorem fixStart_shape {pre s : Str} (hpre : identShape pre = true)
    (hall : s.all isIdentChar = true) :
    fixStart pre s = [] ∨ identShape (fixStart pre s) = true := by
  cases s with
  | nil =>
    left
    rfl
  | cons c cs =>
    right
    simp only [fixStart]
    split
    · exact identShape_append hpre hall
    · next h =>
      simp only [Bool.or_eq_true, beq_iff_eq, not_or] at h
      simp only [List.all_cons, Bool.and_eq_true] at hall
      simp only [identShape, Bool.and_eq_true]
      exact ⟨isAlpha_of_isIdentChar hall.1 (by simpa using h.1) h.2, hall.2⟩

theorem fixStart_id {pre s : Str} (h : identShape s = true) : fixStart pre s = s := by
  cases s with
  | nil => rfl
  | cons c cs =>
    simp only [identShape, Bool.and_eq_true] at h
    simp [fixStart, not_isDigit_of_isAlpha h.1, ne_underscore_of_isAlpha h.1]

theorem lstrip_id {s : Str} (h : identShape s = true) : lstripUnderscore s = s := by
  cases s with
  | nil => rfl
  | cons c cs =>
    simp only [identShape, Bool.and_eq_true] at h
    simp [lstripUnderscore, ne_underscore_of_isAlpha h.1]

theorem capitalizeFirst_shape {s : Str} (h : identShape s = true) :
    identShape (capitalizeFirst s) = true ∧ startsUpper (capitalizeFirst s) = true := by
  cases s with
  | nil => cases h
  | cons c cs =>
    simp only [identShape, Bool.and_eq_true] at h
    have hu := isUpper_toUpper_of_isAlpha h.1
    simp only [capitalizeFirst, identShape, startsUpper, Bool.and_eq_true]
    exact ⟨⟨isAlpha_of_isUpper hu, h.2⟩, hu⟩

theorem capitalizeFirst_id {s : Str} (h : startsUpper s = true) : capitalizeFirst s = s := by
  cases s with
  | nil => rfl
  | cons c cs =>
    simp only [startsUpper] at h
    simp only [capitalizeFirst, toUpper_of_isUpper h]

theorem prependN_shape {pre s : Str} (hpre : identShape pre = true) (hs : identShape s = true) :
    ∀ k, identShape (prependN pre k s) = true := by
  intro k
  induction k with
  | zero => exact hs
  | succ k ih => exact identShape_append hpre (identShape_all ih)

theorem prependN_upper {pre s : Str} (hpre : startsUpper pre = true) (hs : startsUpper s = true) :
    ∀ k, startsUpper (prependN pre k s) = true := by
  intro k
  cases k with
  | zero => exact hs
  | succ k => exact startsUpper_append _ hpre

theorem prependN_length (pre s : Str) : ∀ k, (prependN pre k s).length = k * pre.length + s.length := by
  intro k
  induction k with
  | zero => simp [prependN]
  | succ k ih =>
    simp only [prependN, List.length_append, ih, Nat.succ_mul]
    omega

/-- the candidates of the keyword loop have pairwise different lengths -/
theorem prependN_inj {pre s : Str} (hpre : pre ≠ []) (a b : Nat)
    (h : prependN pre a s = prependN pre b s) : a = b := by
  have h1 := congrArg List.length h
  rw [prependN_length, prependN_length] at h1
  exact Nat.eq_of_mul_eq_mul_right (List.length_pos_iff.mpr hpre) (Nat.add_right_cancel h1)

theorem sanitize_pre_shape (pre s : Str) (hpre : identShape pre = true) :
    fixStart pre (lstripUnderscore (subInvalid false s)) = [] ∨
    identShape (fixStart pre (lstripUnderscore (subInvalid false s))) = true :=
  fixStart_shape hpre (lstrip_all (subInvalid_all s false))

/-- the part of `_sanitize_ident` after the regular-expression steps -/
def sanitizeTail (kws : List Str) (pre : Str) (cap : Bool) (s2 : Str) : Option Str :=
  if s2.isEmpty then some []
  else
    (firstIdx (fun k => !(kws.contains (prependN pre k (if cap then capitalizeFirst s2 else s2))))
      (kws.length + 1) 0).map (fun k => prependN pre k (if cap then capitalizeFirst s2 else s2))

theorem sanitizeIdent_eq (kws : List Str) (s pre : Str) (cap : Bool) :
    sanitizeIdent kws s pre cap
      = sanitizeTail kws pre cap (fixStart pre (lstripUnderscore (subInvalid false s))) := rfl

theorem sanitizeTail_spec (kws : List Str) {pre s2 : Str} (cap : Bool)
    (hpre : identShape pre = true) (hsh : identShape s2 = true) :
    ∃ r, sanitizeTail kws pre cap s2 = some r ∧ identShape r = true ∧ r ∉ kws ∧
      (cap = true → startsUpper pre = true → startsUpper r = true) := by
  have hne : pre ≠ [] := by
    intro e
    subst e
    cases hpre
  cases s2 with
  | nil => cases hsh
  | cons c cs =>
    simp only [sanitizeTail, List.isEmpty_cons, Bool.false_eq_true, if_false]
    generalize hs3 : (if cap = true then capitalizeFirst (c :: cs) else c :: cs) = s3
    have hs3sh : identShape s3 = true ∧ (cap = true → startsUpper s3 = true) := by
      subst hs3
      cases cap with
      | false => exact ⟨hsh, fun h => nomatch h⟩
      | true => exact ⟨(capitalizeFirst_shape hsh).1, fun _ => (capitalizeFirst_shape hsh).2⟩
    obtain ⟨k, hk, _, _, hnk, _⟩ := firstIdx_search (fun k => prependN pre k s3) (prependN_inj hne) kws 0
    exact ⟨prependN pre k s3, congrArg (Option.map _) hk, prependN_shape hpre hs3sh.1 k, hnk,
      fun hc hu => prependN_upper hu (hs3sh.2 hc) k⟩

theorem sanitize_spec (kws : List Str) (s pre : Str) (cap : Bool) (hpre : identShape pre = true) :
    ∃ r, sanitizeIdent kws s pre cap = some r ∧
      (r = [] ∨ (identShape r = true ∧ r ∉ kws ∧
        (cap = true → startsUpper pre = true → startsUpper r = true))) := by
  rw [sanitizeIdent_eq]
  rcases sanitize_pre_shape pre s hpre with h0 | hsh
  · exact ⟨[], by rw [h0]; rfl, Or.inl rfl⟩
  · obtain ⟨r, hr, h⟩ := sanitizeTail_spec kws cap hpre hsh
    exact ⟨r, hr, Or.inr h⟩

theorem sanitize_id (kws : List Str) (s pre : Str) (cap : Bool) (hs : identShape s = true)
    (hk : s ∉ kws) (hc : cap = true → startsUpper s = true) :
    sanitizeIdent kws s pre cap = some s := by
  rw [sanitizeIdent_eq, subInvalid_id s false (identShape_all hs), lstrip_id hs, fixStart_id hs]
  have hs3 : (if cap = true then capitalizeFirst s else s) = s := by
    split
    · next h => exact capitalizeFirst_id (hc h)
    · rfl
  cases s with
  | nil => cases hs
  | cons c cs =>
    -- the keyword loop stops at once: candidate 0 is `s` itself
    have : (!(kws.contains (c :: cs))) = true := by simpa using hk
    simp only [sanitizeTail, List.isEmpty_cons, Bool.false_eq_true, if_false, hs3, firstIdx, prependN,
      this, if_true, Option.map_some]

theorem toDigits_inj {a b : Nat} (h : Nat.toDigits 10 a = Nat.toDigits 10 b) : a = b := by
  apply Nat.repr_injective
  rw [Nat.repr_eq_ofList_toDigits, Nat.repr_eq_ofList_toDigits, h]

theorem toDigits_all_digit (n : Nat) : ∀ c ∈ Nat.toDigits 10 n, c.isDigit = true :=
  fun _ hc => Nat.isDigit_of_mem_toDigits (by omega) (by omega) hc

theorem upperStr_append (a b : Str) : upperStr (a ++ b) = upperStr a ++ upperStr b :=
  List.map_append

theorem upperStr_digits (n : Nat) : upperStr (Nat.toDigits 10 n) = Nat.toDigits 10 n :=
  upperStr_eq_self fun c hc => toUpper_of_isDigit (toDigits_all_digit n c hc)

theorem upper_withSuffix_inj (b : Str) (x y : Nat)
    (h : upperStr (withSuffix b x) = upperStr (withSuffix b y)) : x = y := by
  simp only [withSuffix, upperStr_append, upperStr_digits] at h
  exact toDigits_inj (List.append_cancel_left h)

theorem endsInDigit_withSuffix (b : Str) (n : Nat) : endsInDigit (withSuffix b n) = true := by
  unfold endsInDigit withSuffix
  cases hl : (Nat.toDigits 10 n).getLast? with
  | none => exact absurd (List.getLast?_eq_none_iff.mp hl) Nat.toDigits_ne_nil
  | some c =>
    simp only [List.getLast?_append, hl, Option.some_or]
    exact toDigits_all_digit n c (List.mem_of_getLast? hl)

theorem suffixBase_shape {b : Str} (h : identShape b = true) : identShape (suffixBase b) = true := by
  unfold suffixBase
  split
  · exact identShape_append h rfl
  · exact h

theorem suffixBase_upper {b : Str} (h : startsUpper b = true) : startsUpper (suffixBase b) = true := by
  unfold suffixBase
  split
  · exact startsUpper_append _ h
  · exact h

theorem withSuffix_shape {b : Str} (h : identShape b = true) (n : Nat) :
    identShape (withSuffix b n) = true :=
  identShape_append h
    (List.all_eq_true.mpr fun c hc => isIdentChar_of_isDigit (toDigits_all_digit n c hc))

theorem not_mem_kws_of_endsInDigit {kws : List Str} (hk : kwOK kws = true) {r : Str}
    (h : endsInDigit r = true) : r ∉ kws := by
  intro hm
  simp only [kwOK, List.all_eq_true, Bool.and_eq_true, Bool.not_eq_true'] at hk
  have := (hk r hm).1
  rw [h] at this
  cases this

/-! The sequence A, B, …, Z, AA, … of `_make_letters()` -/

theorem upperLetter_toNat {k : Nat} (h : k < 26) : (upperLetter k).toNat = k + 1 + 64 := by
  have : ∀ i : Fin 26, (upperLetter i.val).toNat = i.val + 1 + 64 := by decide
  exact this ⟨k, h⟩

theorem upperLetter_isUpper {k : Nat} (h : k < 26) : (upperLetter k).isUpper = true := by
  rw [isUpper_iff, upperLetter_toNat h]
  omega

/-- the letters read as digits 1…26 of bijective base-26 numeration, least significant first -/
def lettersVal : Str → Nat
  | [] => 0
  | c :: cs => (c.toNat - 64) + 26 * lettersVal cs

/-- a left inverse: the generated names are pairwise different -/
theorem lettersVal_lettersRev (n : Nat) : lettersVal (lettersRev n) = n + 1 := by
  induction n using Nat.strongRecOn with
  | ind n ih =>
    have hdm := Nat.div_add_mod n 26
    have hr := Nat.mod_lt n (show 0 < 26 by decide)
    rw [lettersRev, lettersVal, upperLetter_toNat hr, Nat.add_sub_cancel]
    -- with `n = 26 * q + r` only linear arithmetic is left
    generalize n / 26 = q at *
    generalize n % 26 = r at *
    subst hdm
    split
    · rw [lettersVal]
      omega
    · have hq : 1 ≤ q := by omega
      rw [ih _ (by omega), Nat.sub_add_cancel hq]
      omega

theorem lettersRev_inj (a b : Nat) (h : lettersRev a = lettersRev b) : a = b := by
  have := congrArg lettersVal h
  rw [lettersVal_lettersRev, lettersVal_lettersRev] at this
  exact Nat.succ_inj.mp this

theorem letters_inj (a b : Nat) (h : letters a = letters b) : a = b :=
  lettersRev_inj a b (List.reverse_inj.mp h)

theorem lettersRev_ne_nil (n : Nat) : lettersRev n ≠ [] := by
  rw [lettersRev]
  exact List.cons_ne_nil _ _

theorem lettersRev_all_upper : ∀ (n : Nat), (lettersRev n).all Char.isUpper = true := by
  intro n
  induction n using Nat.strongRecOn with
  | ind n ih =>
    rw [lettersRev]
    simp only [List.all_cons, upperLetter_isUpper (Nat.mod_lt n (show 0 < 26 by decide)),
      Bool.true_and]
    split
    · rfl
    · exact ih _ (by omega)

theorem letters_all_upper (n : Nat) : (letters n).all Char.isUpper = true := by
  simp only [letters, List.all_reverse]
  exact lettersRev_all_upper n

theorem letters_ne_nil (n : Nat) : letters n ≠ [] := by
  simp [letters, lettersRev_ne_nil]

theorem shape_of_all_upper {s : Str} (hne : s ≠ []) (h : s.all Char.isUpper = true) :
    identShape s = true ∧ startsUpper s = true := by
  cases s with
  | nil => exact absurd rfl hne
  | cons c cs =>
    simp only [List.all_cons, Bool.and_eq_true] at h
    simp only [identShape, startsUpper, Bool.and_eq_true, List.all_eq_true]
    refine ⟨⟨isAlpha_of_isUpper h.1, fun d hd => ?_⟩, h.1⟩
    exact isIdentChar_of_isAlpha (isAlpha_of_isUpper (List.all_eq_true.mp h.2 d hd))

theorem upperStr_of_all_upper {s : Str} (h : s.all Char.isUpper = true) : upperStr s = s :=
  upperStr_eq_self fun c hc => toUpper_of_isUpper (List.all_eq_true.mp h c hc)

theorem not_mem_kws_of_all_upper {kws : List Str} (hk : kwOK kws = true) {r : Str}
    (h : r.all Char.isUpper = true) : r ∉ kws := by
  intro hm
  simp only [kwOK, List.all_eq_true, Bool.and_eq_true, Bool.not_eq_true'] at hk
  have := (hk r hm).2
  rw [h] at this
  cases this

theorem letters_good {kws : List Str} (hk : kwOK kws = true) (i : Nat) :
    identShape (letters i) = true ∧ startsUpper (letters i) = true ∧ letters i ∉ kws ∧
      upperStr (letters i) = letters i :=
  have hu := letters_all_upper i
  have hs := shape_of_all_upper (letters_ne_nil i) hu
  ⟨hs.1, hs.2, not_mem_kws_of_all_upper hk hu, upperStr_of_all_upper hu⟩

theorem genIdent_spec (avoid : List Str) :
    ∃ i, genIdent avoid = some (letters i) ∧ i ≤ avoid.length ∧ letters i ∉ avoid ∧
      ∀ j, j < i → letters j ∈ avoid := by
  obtain ⟨i, hi, _, h2, h3, h4⟩ := firstIdx_search letters letters_inj avoid 0
  exact ⟨i, congrArg (Option.map letters) hi, by omega, h3, fun j hj => h4 j (Nat.zero_le _) hj⟩

theorem addSuffix_good {kws : List Str} (hk : kwOK kws = true) (base : Str) (avoid : List Str)
    (next : Nat) (hb : identShape base = true) :
    ∃ r, addSuffix base avoid next = some r ∧ GoodIdent kws avoid r ∧
      (startsUpper base = true → startsUpper r = true) := by
  obtain ⟨m, hm, _, _, h4, _⟩ := firstIdx_search (fun n => upperStr (withSuffix (suffixBase base) n))
    (upper_withSuffix_inj _) avoid next
  have h1 : addSuffix base avoid next = some (withSuffix (suffixBase base) m) :=
    congrArg (Option.map (withSuffix (suffixBase base))) hm
  refine ⟨_, h1, ⟨withSuffix_shape (suffixBase_shape hb) m,
    not_mem_kws_of_endsInDigit hk (endsInDigit_withSuffix _ _), h4⟩, ?_⟩
  intro hu
  exact startsUpper_append _ (suffixBase_upper hu)

theorem maybeAddSuffix_good {kws : List Str} (hk : kwOK kws = true) (ident : Str)
    (avoid : List Str) (hb : identShape ident = true) (hnk : ident ∉ kws) :
    ∃ r, maybeAddSuffix ident avoid = some r ∧ GoodIdent kws avoid r ∧
      (startsUpper ident = true → startsUpper r = true) := by
  unfold maybeAddSuffix
  by_cases h : upperStr ident ∈ avoid
  · have : (!avoid.contains (upperStr ident)) = false := by simpa using h
    simp only [this, Bool.false_eq_true, if_false]
    exact addSuffix_good hk ident avoid 2 hb
  · have : (!avoid.contains (upperStr ident)) = true := by simpa using h
    simp only [this, if_true]
    exact ⟨ident, rfl, ⟨hb, hnk, h⟩, id⟩

theorem maybeAddSuffix_id (ident : Str) (avoid : List Str) (h : upperStr ident ∉ avoid) :
    maybeAddSuffix ident avoid = some ident := by
  unfold maybeAddSuffix
  have : (!avoid.contains (upperStr ident)) = true := by simpa using h
  simp only [this, if_true]

theorem genIdent_good {kws : List Str} (hk : kwOK kws = true) (avoid : List Str) :
    ∃ r, genIdent avoid = some r ∧ GoodIdent kws avoid r ∧ startsUpper r = true := by
  obtain ⟨i, h1, _, h3, _⟩ := genIdent_spec avoid
  obtain ⟨hs, hu, hnk, hup⟩ := letters_good hk i
  exact ⟨_, h1, ⟨hs, hnk, by rw [hup]; exact h3⟩, hu⟩

theorem pickColIdent_good {kws : List Str} (hk : kwOK kws = true) (s : Str) (avoid : List Str) :
    ∃ r, pickColIdent kws s avoid = some r ∧ GoodIdent kws avoid r := by
  obtain ⟨r0, h0, hr0⟩ := sanitize_spec kws s ['c'] false (by decide)
  unfold pickColIdent
  rw [h0]
  cases r0 with
  | nil =>
    obtain ⟨r, h1, h2, _⟩ := genIdent_good hk avoid
    exact ⟨r, h1, h2⟩
  | cons c cs =>
    rcases hr0 with h | ⟨h1, h2, _⟩
    · cases h
    · obtain ⟨r, h3, h4, _⟩ := maybeAddSuffix_good hk (c :: cs) avoid h1 h2
      exact ⟨r, h3, h4⟩

theorem pickTableIdent_good {kws : List Str} (hk : kwOK kws = true) (s : Str) (avoid : List Str) :
    ∃ r, pickTableIdent kws s avoid = some r ∧ GoodIdent kws avoid r ∧ startsUpper r = true := by
  obtain ⟨r0, h0, hr0⟩ := sanitize_spec kws s ['T'] true (by decide)
  unfold pickTableIdent
  rw [h0]
  cases r0 with
  | nil =>
    obtain ⟨r, h1, h2, h3⟩ := addSuffix_good hk ['T','a','b','l','e'] avoid 1 (by decide)
    exact ⟨r, h1, h2, h3 (by decide)⟩
  | cons c cs =>
    rcases hr0 with h | ⟨h1, h2, h3⟩
    · cases h
    · obtain ⟨r, h4, h5, h6⟩ := maybeAddSuffix_good hk (c :: cs) avoid h1 h2
      exact ⟨r, h4, h5, h6 (h3 rfl (by decide))⟩

theorem pickColIdent_id (kws : List Str) (s : Str) (avoid : List Str) (hs : identShape s = true)
    (hnk : s ∉ kws) (ha : upperStr s ∉ avoid) : pickColIdent kws s avoid = some s := by
  unfold pickColIdent
  rw [sanitize_id kws s ['c'] false hs hnk (by simp)]
  cases s with
  | nil => simp [identShape] at hs
  | cons c cs => exact maybeAddSuffix_id _ _ ha

theorem pickTableIdent_id (kws : List Str) (s : Str) (avoid : List Str) (hs : identShape s = true)
    (hu : startsUpper s = true) (hnk : s ∉ kws) (ha : upperStr s ∉ avoid) :
    pickTableIdent kws s avoid = some s := by
  unfold pickTableIdent
  rw [sanitize_id kws s ['T'] true hs hnk (fun _ => hu)]
  cases s with
  | nil => simp [identShape] at hs
  | cons c cs => exact maybeAddSuffix_id _ _ ha

theorem pickColIdentList_good {kws : List Str} (hk : kwOK kws = true) :
    ∀ (idents : List Str) (avoid : List Str),
    ∃ rs, pickColIdentList kws idents avoid = some rs ∧ rs.length = idents.length ∧
      (∀ r ∈ rs, GoodIdent kws avoid r) ∧ DistinctUpper rs := by
  intro idents
  induction idents with
  | nil =>
    intro avoid
    exact ⟨[], rfl, rfl, by simp, List.Pairwise.nil⟩
  | cons s rest ih =>
    intro avoid
    obtain ⟨r, h1, h2⟩ := pickColIdent_good hk s avoid
    obtain ⟨rs, h3, h4, h5, h6⟩ := ih (upperStr r :: avoid)
    refine ⟨r :: rs, by simp [pickColIdentList, h1, h3], by simp [h4], ?_, ?_⟩
    · intro x hx
      rcases List.mem_cons.mp hx with rfl | hx
      · exact h2
      · obtain ⟨a, b, c⟩ := h5 x hx
        exact ⟨a, b, fun hm => c (List.mem_cons_of_mem _ hm)⟩
    · refine List.Pairwise.cons ?_ h6
      intro x hx heq
      exact (h5 x hx).2.2 (by rw [heq]; exact List.mem_cons_self)

theorem pickColIdentList_id (kws : List Str) : ∀ (idents : List Str) (avoid : List Str),
    (∀ s ∈ idents, identShape s = true ∧ s ∉ kws ∧ upperStr s ∉ avoid) → DistinctUpper idents →
    pickColIdentList kws idents avoid = some idents := by
  intro idents
  induction idents with
  | nil =>
    intro _ _ _
    rfl
  | cons s rest ih =>
    intro avoid hall hd
    obtain ⟨h1, h2, h3⟩ := hall s (by simp)
    have hd' := List.pairwise_cons.mp hd
    have hrest := ih (upperStr s :: avoid) (fun x hx => by
      obtain ⟨a, b, c⟩ := hall x (by simp [hx])
      refine ⟨a, b, ?_⟩
      intro hm
      rcases List.mem_cons.mp hm with e | e
      · exact hd'.1 x hx e.symm
      · exact c e) hd'.2
    simp [pickColIdentList, pickColIdent_id kws s avoid h1 h2 h3, hrest]

end Grist.Identifiers
