/- Everything about undo / redo / rollback of doc actions, for GristProps/C01. -/
import GristProofs.DocUndoList
import GristProofs.DocRedo
