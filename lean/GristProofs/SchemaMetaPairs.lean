/-
C08: a schema doc action paired with its metadata record action.  Defines `MetaUnique`, `NoReverseRefTo`,
`TableRec`, `ColRec`, `colRecVals` (explained in GristProps/C08.lean).  With unique keys `SchemaConsistent`
has a membership form (`Spec`); `spec_record_change` covers every pair that adds, changes or removes
one column record; the three pairs instantiate it.
-/
import GristProofs.SchemaMetaBase
import GristProofs.DocUndoList
namespace Grist.Doc

def tid (mt : Table) (a : Nat) : String := valStr (mt.cell "tableId" a)
def par (mc : Table) (a : Nat) : Nat := valNat (mc.cell "parentId" a)
def cid (mc : Table) (a : Nat) : String := valStr (mc.cell "colId" a)

/-- one table record per `tableId` -/
def TUniq (mt : Table) : Prop := ∀ a ∈ mt.rows, ∀ b ∈ mt.rows, tid mt a = tid mt b → a = b
/-- one column record per `(parentId, colId)` -/
def CUniq (mc : Table) : Prop :=
  ∀ a ∈ mc.rows, ∀ b ∈ mc.rows, par mc a = par mc b → cid mc a = cid mc b → a = b

def MetaUnique (d : Doc) : Prop :=
  ∃ mt mc, findTable? d "_grist_Tables" = some mt ∧ findTable? d "_grist_Tables_column" = some mc ∧
    TUniq mt ∧ CUniq mc

def NoReverseRefTo (d : Doc) (r : Nat) : Prop :=
  ∀ mc, findTable? d "_grist_Tables_column" = some mc →
    ∀ x ∈ mc.rows, valNat (mc.cell "reverseCol" x) ≠ r

def TableRec (d : Doc) (tr0 : Nat) (T : String) : Prop :=
  ∃ mt, findTable? d "_grist_Tables" = some mt ∧ tr0 ∈ mt.rows ∧ tid mt tr0 = T

def ColRec (d : Doc) (r tr0 : Nat) (c : String) : Prop :=
  ∃ mc, findTable? d "_grist_Tables_column" = some mc ∧ r ∈ mc.rows ∧ par mc r = tr0 ∧ cid mc r = c

/-- the schema-bearing fields of the added column record (the engine adds more: label,
    widgetOptions, parentPos ..., which are neutral) -/
def colRecVals (tr0 : Nat) (c : String) (info : ColInfo) : List (String × List Val) :=
  [("parentId", [.int (Int.ofNat tr0)]), ("colId", [.str c]), ("type", [.str info.type]),
   ("isFormula", [.bool info.isFormula]), ("formula", [.str info.formula])]

theorem lookupLast_map_iff {α β : Type} {l : List α} {key : α → String} {val : α → β}
    (hu : ∀ a ∈ l, ∀ b ∈ l, key a = key b → val a = val b) {k : String} {v : β} :
    lookupLast (l.map (fun x => (key x, val x))) k = some v ↔ ∃ x ∈ l, key x = k ∧ val x = v := by
  constructor
  · intro h
    obtain ⟨x, hx, he⟩ := List.mem_map.1 (lookupLast_mem h)
    simp only [Prod.mk.injEq] at he
    exact ⟨x, hx, he.1, he.2⟩
  · rintro ⟨x, hx, hk, hv⟩
    cases h : lookupLast (l.map (fun x => (key x, val x))) k with
    | none =>
      have := lookupLast_eq_none.1 h (key x, val x) (List.mem_map.2 ⟨x, hx, rfl⟩)
      exact absurd hk this
    | some v' =>
      obtain ⟨x', hx', he⟩ := List.mem_map.1 (lookupLast_mem h)
      simp only [Prod.mk.injEq] at he
      have := hu x hx x' hx' (hk.trans he.1.symm)
      rw [← he.2, ← this, hv]

theorem par_beq {mc : Table} {x tr : Nat} :
    (valNat (mc.cell "parentId" x) == tr) = true ↔ par mc x = tr := beq_iff_eq

theorem lookup_colRecs_iff {mc : Table} (hcu : CUniq mc) {tr : Nat} {c : String} {i : ColInfo} :
    lookupLast (colRecsOf mc tr) c = some i ↔
      ∃ x ∈ mc.rows, par mc x = tr ∧ colRecInfo mc x = (c, i) := by
  have := lookupLast_map_iff (l := mc.rows.filter (fun cr => valNat (mc.cell "parentId" cr) == tr))
    (key := fun x => (colRecInfo mc x).1) (val := fun x => (colRecInfo mc x).2) (k := c) (v := i)
    (by
      intro a ha b hb hk
      have ha' := List.mem_filter.1 ha
      have hb' := List.mem_filter.1 hb
      rw [hcu a ha'.1 b hb'.1 ((par_beq.1 ha'.2).trans (par_beq.1 hb'.2).symm) hk])
  unfold colRecsOf
  rw [this]
  constructor
  · rintro ⟨x, hx, h1, h2⟩
    have hx' := List.mem_filter.1 hx
    exact ⟨x, hx'.1, par_beq.1 hx'.2, Prod.ext h1 h2⟩
  · rintro ⟨x, hx, h1, h2⟩
    exact ⟨x, List.mem_filter.2 ⟨hx, par_beq.2 h1⟩, by rw [h2], by rw [h2]⟩

theorem lookup_metaSchema_iff {mt mc : Table} (htu : TUniq mt) {t : String}
    {recs : List (String × ColInfo)} :
    lookupLast (metaSchemaOf mt mc) t = some recs ↔
      ∃ tr ∈ mt.rows, tid mt tr = t ∧ colRecsOf mc tr = recs :=
  lookupLast_map_iff (l := mt.rows) (key := fun tr => valStr (mt.cell "tableId" tr))
    (val := fun tr => colRecsOf mc tr)
    (by intro a ha b hb hk; rw [htu a ha b hb hk])

/-- `SchemaConsistent`, by membership (valid when the metadata keys are unique) -/
structure Spec (d : Doc) (mt mc : Table) : Prop where
  tables : ∀ t, (userTable? d t).isSome ↔ ∃ tr ∈ mt.rows, tid mt tr = t
  cols : ∀ tr ∈ mt.rows, ∀ tb, userTable? d (tid mt tr) = some tb → ∀ c i,
    tb.infoOf? c = some i ↔ ∃ x ∈ mc.rows, par mc x = tr ∧ colRecInfo mc x = (c, i)
  stray : ∀ x ∈ mc.rows, par mc x ∈ mt.rows

theorem metaSchema_eq {d : Doc} {mt mc : Table} (hmt : findTable? d "_grist_Tables" = some mt)
    (hmc : findTable? d "_grist_Tables_column" = some mc) : metaSchema d = metaSchemaOf mt mc := by
  unfold metaSchema
  rw [hmt, hmc]

theorem noStrayB_eq {d : Doc} {mt mc : Table} (hmt : findTable? d "_grist_Tables" = some mt)
    (hmc : findTable? d "_grist_Tables_column" = some mc) :
    noStrayB d = true ↔ ∀ x ∈ mc.rows, par mc x ∈ mt.rows := by
  unfold noStrayB
  rw [hmt, hmc]
  simp [par]

theorem spec_of_consistent {d : Doc} {mt mc : Table} (hmt : findTable? d "_grist_Tables" = some mt)
    (hmc : findTable? d "_grist_Tables_column" = some mc) (htu : TUniq mt) (hcu : CUniq mc)
    (hc : SchemaConsistent d) : Spec d mt mc := by
  obtain ⟨h1, h2⟩ := hc
  have hag : ∀ t, match userTable? d t, lookupLast (metaSchemaOf mt mc) t with
      | none, none => True
      | some tb, some recs => ∀ c, tb.infoOf? c = lookupLast recs c
      | _, _ => False := by
    intro t
    have := h1 t
    unfold TableAgrees at this
    rw [metaSchema_eq hmt hmc] at this
    exact this
  refine ⟨fun t => ?_, fun tr htr tb htb c i => ?_, (noStrayB_eq hmt hmc).1 h2⟩
  · have := hag t
    cases hu : userTable? d t with
    | none =>
      rw [hu] at this
      cases hl : lookupLast (metaSchemaOf mt mc) t with
      | none =>
        simp only [Option.isSome_none, Bool.false_eq_true, false_iff, not_exists, not_and]
        intro tr htr ht
        have := lookupLast_eq_none.1 hl (tid mt tr, colRecsOf mc tr)
          (List.mem_map.2 ⟨tr, htr, rfl⟩)
        exact this ht
      | some recs =>
        rw [hl] at this
        exact this.elim
    | some tb =>
      rw [hu] at this
      cases hl : lookupLast (metaSchemaOf mt mc) t with
      | none =>
        rw [hl] at this
        exact this.elim
      | some recs =>
        obtain ⟨tr, htr, ht, _⟩ := (lookup_metaSchema_iff htu).1 hl
        simp only [Option.isSome_some, true_iff]
        exact ⟨tr, htr, ht⟩
  · have := hag (tid mt tr)
    rw [htb, (lookup_metaSchema_iff htu).2 ⟨tr, htr, rfl, rfl⟩] at this
    rw [this c]
    exact lookup_colRecs_iff hcu

theorem consistent_of_spec {d : Doc} {mt mc : Table} (hmt : findTable? d "_grist_Tables" = some mt)
    (hmc : findTable? d "_grist_Tables_column" = some mc) (htu : TUniq mt) (hcu : CUniq mc)
    (hs : Spec d mt mc) : SchemaConsistent d := by
  refine ⟨fun t => ?_, (noStrayB_eq hmt hmc).2 hs.stray⟩
  unfold TableAgrees
  rw [metaSchema_eq hmt hmc]
  cases hu : userTable? d t with
  | none =>
    have : lookupLast (metaSchemaOf mt mc) t = none := by
      rw [lookupLast_eq_none]
      intro p hp hpt
      obtain ⟨tr, htr, rfl⟩ := List.mem_map.1 hp
      have := (hs.tables t).2 ⟨tr, htr, hpt⟩
      rw [hu] at this
      simp at this
    rw [this]
    trivial
  | some tb =>
    obtain ⟨tr, htr, ht⟩ := (hs.tables t).1 (by rw [hu]; rfl)
    rw [(lookup_metaSchema_iff htu).2 ⟨tr, htr, ht, rfl⟩]
    intro c
    apply Option.ext
    intro i
    rw [hs.cols tr htr tb (by rw [ht]; exact hu) c i]
    exact (lookup_colRecs_iff hcu).symm


/-- One column record `r` of table record `tr0` is added, changed or removed.  `hP`: the other
    records keep `par` and `colRecInfo`.  `hI`: the new columns of `T` are the new `r` (if there) plus
    the old ones except the one `r` stood for.  `hN`: the new `colId` of `r` is free in `T` or `r`'s old
    one (keeps the keys unique). -/
theorem spec_record_change {d d2 : Doc} {mt mc mc' : Table} {T : String} {tb tb' : Table}
    {tr0 r : Nat}
    (hs : Spec d mt mc) (htu : TUniq mt) (hcu : CUniq mc)
    (htr0 : tr0 ∈ mt.rows) (htid : tid mt tr0 = T)
    (hU : ∀ t, userTable? d2 t = if t = T then some tb' else userTable? d t)
    (hT : userTable? d T = some tb)
    (hP : ∀ x, x ≠ r → ((x ∈ mc'.rows ↔ x ∈ mc.rows) ∧
      (x ∈ mc.rows → par mc' x = par mc x ∧ colRecInfo mc' x = colRecInfo mc x)))
    (hRp : r ∈ mc.rows → par mc r = tr0) (hRp' : r ∈ mc'.rows → par mc' r = tr0)
    (hI : ∀ c i, tb'.infoOf? c = some i ↔
      (r ∈ mc'.rows ∧ colRecInfo mc' r = (c, i)) ∨
      (tb.infoOf? c = some i ∧ (r ∈ mc.rows → cid mc r ≠ c)))
    (hN : r ∈ mc'.rows → tb.infoOf? (colRecInfo mc' r).1 = none ∨
      (r ∈ mc.rows ∧ cid mc r = (colRecInfo mc' r).1)) :
    Spec d2 mt mc' ∧ CUniq mc' := by
  have hold := hs.cols tr0 htr0 tb (by rw [htid]; exact hT)
  refine ⟨⟨fun t => ?_, fun tr htr tb2 htb2 c i => ?_, fun x hx => ?_⟩, ?_⟩
  · rw [hU]
    by_cases ht : t = T
    · subst ht
      simp only [↓reduceIte, Option.isSome_some, true_iff]
      exact ⟨tr0, htr0, htid⟩
    · simp only [ht, ↓reduceIte]
      exact hs.tables t
  · rw [hU] at htb2
    by_cases ht : tid mt tr = T
    · have htr' : tr = tr0 := htu tr htr tr0 htr0 (ht.trans htid.symm)
      subst htr'
      simp only [ht, ↓reduceIte, Option.some.injEq] at htb2
      subst htb2
      rw [hI]
      constructor
      · rintro (⟨hr, hci⟩ | ⟨hinfo, hne⟩)
        · exact ⟨r, hr, hRp' hr, hci⟩
        · obtain ⟨x, hx, hpx, hcx⟩ := (hold c i).1 hinfo
          have hxr : x ≠ r := by
            intro h
            subst h
            exact hne hx (by show (colRecInfo mc x).1 = c; rw [hcx])
          have := hP x hxr
          exact ⟨x, this.1.2 hx, by rw [(this.2 hx).1]; exact hpx, by rw [(this.2 hx).2]; exact hcx⟩
      · rintro ⟨x, hx, hpx, hcx⟩
        by_cases hxr : x = r
        · subst hxr
          exact .inl ⟨hx, hcx⟩
        · have := hP x hxr
          have hxR := this.1.1 hx
          have hpx' : par mc x = tr := by
            rw [← (this.2 hxR).1]
            exact hpx
          have hcx' : colRecInfo mc x = (c, i) := by
            rw [← (this.2 hxR).2]
            exact hcx
          refine .inr ⟨(hold c i).2 ⟨x, hxR, hpx', hcx'⟩, fun hr hcid => hxr ?_⟩
          apply hcu x hxR r hr (hpx'.trans (hRp hr).symm)
          show (colRecInfo mc x).1 = cid mc r
          rw [hcx', hcid]
    · simp only [ht, ↓reduceIte] at htb2
      rw [hs.cols tr htr tb2 htb2 c i]
      have htr' : tr ≠ tr0 := fun h => ht (by rw [h]; exact htid)
      constructor
      · rintro ⟨x, hx, hpx, hcx⟩
        have hxr : x ≠ r := by
          intro h
          subst h
          exact htr' ((hRp hx).symm.trans hpx).symm
        have := hP x hxr
        exact ⟨x, this.1.2 hx, by rw [(this.2 hx).1]; exact hpx, by rw [(this.2 hx).2]; exact hcx⟩
      · rintro ⟨x, hx, hpx, hcx⟩
        have hxr : x ≠ r := by
          intro h
          subst h
          exact htr' ((hRp' hx).symm.trans hpx).symm
        have := hP x hxr
        have hxR := this.1.1 hx
        exact ⟨x, hxR, by rw [← (this.2 hxR).1]; exact hpx, by rw [← (this.2 hxR).2]; exact hcx⟩
  · by_cases hxr : x = r
    · subst hxr
      rw [hRp' hx]
      exact htr0
    · have := hP x hxr
      rw [(this.2 (this.1.1 hx)).1]
      exact hs.stray x (this.1.1 hx)
  · have key : ∀ b, b ≠ r → b ∈ mc'.rows → r ∈ mc'.rows → par mc' r = par mc' b →
        cid mc' r = cid mc' b → False := by
      intro b hbr hb hr hpar hcid
      have hb' := hP b hbr
      have hbR := hb'.1.1 hb
      have hpb : par mc b = tr0 := by
        rw [← (hb'.2 hbR).1, ← hpar]
        exact hRp' hr
      have hcb : cid mc b = (colRecInfo mc' r).1 := by
        show (colRecInfo mc b).1 = _
        rw [← (hb'.2 hbR).2]
        exact hcid.symm
      have hinfo : tb.infoOf? (colRecInfo mc' r).1 = some (colRecInfo mc b).2 :=
        (hold _ _).2 ⟨b, hbR, hpb, by rw [← hcb]; rfl⟩
      rcases hN hr with h | ⟨hrR, hcr⟩
      · rw [h] at hinfo
        cases hinfo
      · exact hbr (hcu b hbR r hrR (hpb.trans (hRp hrR).symm) (hcb.trans hcr.symm))
    intro a ha b hb hpar hcid
    by_cases har : a = r
    · by_cases hbr : b = r
      · rw [har, hbr]
      · subst har
        exact (key b hbr hb ha hpar hcid).elim
    · by_cases hbr : b = r
      · subst hbr
        exact (key a har ha hb hpar.symm hcid.symm).elim
      · have ha' := hP a har
        have hb' := hP b hbr
        have haR := ha'.1.1 ha
        have hbR := hb'.1.1 hb
        apply hcu a haR b hbR
        · rw [← (ha'.2 haR).1, ← (hb'.2 hbR).1]
          exact hpar
        · show (colRecInfo mc a).1 = (colRecInfo mc b).1
          rw [← (ha'.2 haR).2, ← (hb'.2 hbR).2]
          exact hcid


theorem valNat_typeDefault (t : String) : valNat (typeDefault t) = 0 := by
  unfold typeDefault
  generalize pureType t = p
  split <;> rfl

theorem cell_written_other (tb : Table) {rows : List Nat} (cols : List (String × List Val))
    (f : String) {x : Nat} (hx : x ∉ rows) : (tb.written rows cols).cell f x = tb.cell f x := by
  unfold Table.cell
  rw [Table.findCol?_written]
  cases tb.findCol? f with
  | none => rfl
  | some col => exact writeCells_not_mem _ _ _ hx _ _

theorem cell_written_nokey (tb : Table) (rows : List Nat) {cols : List (String × List Val)}
    {f : String} (h : ∀ cv ∈ cols, cv.1 ≠ f) (x : Nat) :
    (tb.written rows cols).cell f x = tb.cell f x := by
  unfold Table.cell
  rw [Table.findCol?_written]
  cases e : tb.findCol? f with
  | none => rfl
  | some col =>
    simp only [Option.map_some, Col.written]
    rw [writeCells_no_key]
    intro cv hcv hk
    exact h cv hcv (hk.trans (findCol?_some e).1)

theorem cell_written_key {tb : Table} {cols : List (String × List Val)} {f : String} {col : Col}
    {r : Nat} {v : Val} (hf : tb.findCol? f = some col)
    (hall : ∀ cv ∈ cols, cv.1 = f → cv.2 = [v]) (hex : ∃ cv ∈ cols, cv.1 = f) :
    (tb.written [r] cols).cell f r = colSet col.info.type v := by
  unfold Table.cell
  rw [Table.findCol?_written, hf]
  simp only [Option.map_some, Col.written]
  have hid := (findCol?_some hf).1
  rw [writeCells_const col.info.type [r] col.id (fun _ => v) (List.mem_singleton.2 rfl)]
  · intro cv hcv hk
    rw [hall cv hcv (hk.trans hid)]
    rfl
  · left
    obtain ⟨cv, hcv, hk⟩ := hex
    exact ⟨cv, hcv, hk.trans hid.symm⟩

theorem cell_removeRows (tb : Table) (rows' : List Nat) (f : String) {x : Nat} (hx : x ∉ rows') :
    (tb.removeRows rows').cell f x = tb.cell f x := by
  unfold Table.cell
  have : (tb.removeRows rows').findCol? f = (tb.findCol? f).map (Col.unsetRows rows') :=
    find_key_map Col.id _ (fun _ => rfl)
  rw [this]
  cases tb.findCol? f with
  | none => rfl
  | some col => simp [Col.unsetRows, hx]

theorem others_kept {mc mc' : Table} {r : Nat}
    (hrows : ∀ x, x ≠ r → (x ∈ mc'.rows ↔ x ∈ mc.rows))
    (hcells : ∀ f x, x ≠ r → x ∈ mc.rows → mc'.cell f x = mc.cell f x)
    (hnr : ∀ x ∈ mc.rows, valNat (mc.cell "reverseCol" x) ≠ r) :
    ∀ x, x ≠ r → ((x ∈ mc'.rows ↔ x ∈ mc.rows) ∧
      (x ∈ mc.rows → par mc' x = par mc x ∧ colRecInfo mc' x = colRecInfo mc x)) := by
  intro x hxr
  refine ⟨hrows x hxr, fun hx => ⟨?_, ?_⟩⟩
  · unfold par
    rw [hcells _ x hxr hx]
  · apply colRecInfo_preserved (fun f _ => hcells f x hxr hx) (hrows _ (hnr x hx))
    intro h
    exact hcells _ _ (hnr x hx) h

/-- the reverse-reference part of the record `r` itself when its `reverseCol` is kept -/
theorem colRecInfo_r {mc mc' : Table} {r : Nat} (hr : r ∈ mc.rows)
    (hrows : ∀ x, x ≠ r → (x ∈ mc'.rows ↔ x ∈ mc.rows))
    (hcells : ∀ f x, x ≠ r → x ∈ mc.rows → mc'.cell f x = mc.cell f x)
    (hnr : ∀ x ∈ mc.rows, valNat (mc.cell "reverseCol" x) ≠ r)
    (hrev : mc'.cell "reverseCol" r = mc.cell "reverseCol" r) :
    (colRecInfo mc' r).2.reverseColId = (colRecInfo mc r).2.reverseColId := by
  have hne := hnr r hr
  simp only [colRecInfo, hrev, List.contains_iff_mem]
  by_cases h : valNat (mc.cell "reverseCol" r) ∈ mc.rows
  · simp only [(hrows _ hne).2 h, h, ↓reduceIte, hcells _ _ hne h]
  · have h' : ¬ valNat (mc.cell "reverseCol" r) ∈ mc'.rows := fun hh => h ((hrows _ hne).1 hh)
    simp only [h, h', ↓reduceIte]

-- string literals are compared with `decide +kernel` throughout: plain `decide` is several times slower
theorem isMetaId_MT : isMetaId "_grist_Tables" = true := by decide +kernel
theorem isMetaId_MC : isMetaId "_grist_Tables_column" = true := by decide +kernel

/-- two steps, each in a table of its own: what the document shows afterwards -/
theorem runActs_two {d d' : Doc} {a1 a2 : DocAction} {u : List DocAction} {t1 t2 : String}
    (h : runActs d [a1, a2] = .ok (d', u)) (h1 : a1.table? = some t1) (h2 : a2.table? = some t2)
    (hne : t1 ≠ t2) :
    ∃ tb1 o1 U1 tb2 o2 U2, findTable? d t1 = some tb1 ∧ findTable? d t2 = some tb2 ∧
      TPost tb1 a1 o1 U1 ∧ TPost tb2 a2 o2 U2 ∧ findTable? d' t1 = some (o1.getD tb1) ∧
      findTable? d' t2 = some (o2.getD tb2) ∧
      ∀ t, t ≠ t1 → t ≠ t2 → findTable? d' t = findTable? d t := by
  obtain ⟨r1, u1, hr1, hrest, _⟩ := runActs_cons_ok h
  obtain ⟨r2, u2, hr2, hrest2, _⟩ := runActs_cons_ok hrest
  simp only [runActs, Except.ok.injEq, Prod.mk.injEq] at hrest2
  obtain ⟨rfl, _⟩ := hrest2
  obtain ⟨tb1, o1, hf1, ht1, e1⟩ := (post_local h1).1 (post_of_ok hr1)
  have l1 := findTable?_applyLocal hf1 (ht1.id_getD (findTable?_some hf1).1)
  rw [e1] at hr2
  obtain ⟨tb2, o2, hf2, ht2, e2⟩ := (post_local h2).1 (post_of_ok hr2)
  have l2 := findTable?_applyLocal hf2 (ht2.id_getD (findTable?_some hf2).1)
  rw [l1, if_neg (Ne.symm hne)] at hf2
  rw [e2]
  refine ⟨tb1, o1, _, tb2, o2, _, hf1, hf2, ht1, ht2, ?_, ?_, fun t n1 n2 => ?_⟩
  · rw [l2, if_neg hne, l1, if_pos rfl]
  · rw [l2, if_pos rfl]
  · rw [l2, if_neg n2, l1, if_neg n1]


/-- user table `T` after RenameColumn, AddColumn, RemoveColumn, as `Post` gives it -/
abbrev swapCols (tb : Table) (c : String) (col' : Col) : Table :=
  { tb with cols := tb.cols.filter (fun x => x.id != c) ++ [col'] }

abbrev addColT (tb : Table) (c : String) (info : ColInfo) : Table :=
  { tb with cols := tb.cols ++ [newCol c info] }

abbrev dropColT (tb : Table) (c : String) : Table :=
  { tb with cols := tb.cols.filter (fun x => x.id != c) }

theorem ColInfo.ext' {a b : ColInfo} (h1 : a.type = b.type) (h2 : a.isFormula = b.isFormula)
    (h3 : a.formula = b.formula) (h4 : a.reverseColId = b.reverseColId) : a = b := by
  cases a
  cases b
  simp only [ColInfo.mk.injEq]
  exact ⟨h1, h2, h3, h4⟩

theorem ne_MC_of_user {T : String} (h : isMetaId T = false) : T ≠ "_grist_Tables_column" := by
  intro h'
  rw [h', isMetaId_MC] at h
  cases h

theorem userTable_of_user {d : Doc} {T : String} {tb : Table} (h : isMetaId T = false)
    (hf : findTable? d T = some tb) : userTable? d T = some tb := by
  unfold userTable?
  simp [h, hf]

theorem colRec_info {d : Doc} {mc tb : Table} {col : Col} {T c : String} {tr0 r : Nat}
    (hc : SchemaConsistent d) (hu : MetaUnique d) (hT : isMetaId T = false) (htr : TableRec d tr0 T)
    (hfT : findTable? d T = some tb) (hcol : tb.findCol? c = some col)
    (hmc : findTable? d "_grist_Tables_column" = some mc) (hr : r ∈ mc.rows) (hp : par mc r = tr0)
    (hcid : cid mc r = c) : (colRecInfo mc r).2 = col.info := by
  obtain ⟨mt, mc0, hmt, hmc0, htu, hcu⟩ := hu
  cases hmc.symm.trans hmc0
  obtain ⟨mt', hmt', htr0, htid⟩ := htr
  cases hmt.symm.trans hmt'
  have hs := spec_of_consistent hmt hmc htu hcu hc
  have := (hs.cols tr0 htr0 tb (by rw [htid]; exact userTable_of_user hT hfT) c _).2
    ⟨r, hr, hp, Prod.ext hcid rfl⟩
  rw [Table.infoOf?, hcol] at this
  exact (Option.some.inj this).symm

/-- `spec_record_change` at document level: `d2` shows `tb'` for `T`, `mc'` for the column records and
    `d`'s tables otherwise; the records other than `r` kept (rows, cells, no `reverseCol` to `r`) -/
theorem pair_core {d d2 : Doc} {mc mc' tb tb' : Table} {T : String} {tr0 r : Nat}
    (hc : SchemaConsistent d) (hu : MetaUnique d) (hTm : isMetaId T = false)
    (htr : TableRec d tr0 T) (hnr : NoReverseRefTo d r)
    (hfT : findTable? d T = some tb) (hmc : findTable? d "_grist_Tables_column" = some mc)
    (h2T : findTable? d2 T = some tb') (h2C : findTable? d2 "_grist_Tables_column" = some mc')
    (h2o : ∀ t, t ≠ T → t ≠ "_grist_Tables_column" → findTable? d2 t = findTable? d t)
    (hrows : ∀ x, x ≠ r → (x ∈ mc'.rows ↔ x ∈ mc.rows))
    (hcells : ∀ f x, x ≠ r → x ∈ mc.rows → mc'.cell f x = mc.cell f x)
    (hRp : r ∈ mc.rows → par mc r = tr0) (hRp' : r ∈ mc'.rows → par mc' r = tr0)
    (hI : ∀ c i, tb'.infoOf? c = some i ↔
      (r ∈ mc'.rows ∧ colRecInfo mc' r = (c, i)) ∨
      (tb.infoOf? c = some i ∧ (r ∈ mc.rows → cid mc r ≠ c)))
    (hN : r ∈ mc'.rows → tb.infoOf? (colRecInfo mc' r).1 = none ∨
      (r ∈ mc.rows ∧ cid mc r = (colRecInfo mc' r).1)) :
    SchemaConsistent d2 ∧ MetaUnique d2 := by
  obtain ⟨mt, mc0, hmt, hmc0, htu, hcu⟩ := hu
  cases hmc.symm.trans hmc0
  obtain ⟨mt', hmt', htr0, htid⟩ := htr
  cases hmt.symm.trans hmt'
  have hTMT : T ≠ "_grist_Tables" := by
    intro h
    rw [h, isMetaId_MT] at hTm
    cases hTm
  have h2mt : findTable? d2 "_grist_Tables" = some mt := by
    rw [h2o _ (Ne.symm hTMT) (by decide +kernel)]
    exact hmt
  have hU : ∀ t, userTable? d2 t = if t = T then some tb' else userTable? d t := by
    intro t
    unfold userTable?
    by_cases ht : t = T
    · subst ht
      simp [hTm, h2T]
    · simp only [ht, ↓reduceIte]
      by_cases htc : t = "_grist_Tables_column"
      · subst htc
        simp [isMetaId_MC]
      · rw [h2o t ht htc]
  obtain ⟨hs2, hcu2⟩ := spec_record_change (spec_of_consistent hmt hmc htu hcu hc) htu hcu htr0 htid
    hU (userTable_of_user hTm hfT) (others_kept hrows hcells (hnr mc hmc)) hRp hRp' hI hN
  exact ⟨consistent_of_spec h2mt h2C htu hcu2 hs2, ⟨mt, mc', h2mt, h2C, htu, hcu2⟩⟩

theorem pair_renameColumn_core {d d' : Doc} {u : List DocAction} {T old new : String} {tr0 r : Nat}
    (hwf : WF d) (hc : SchemaConsistent d) (hu : MetaUnique d) (hT : isMetaId T = false)
    (htr : TableRec d tr0 T) (hrec : ColRec d r tr0 old) (hnr : NoReverseRefTo d r)
    (h : runActs d [.renameColumn T old new,
      .bulkUpdate "_grist_Tables_column" [r] [("colId", [.str new])]] = .ok (d', u)) :
    SchemaConsistent d' ∧ MetaUnique d' := by
  obtain ⟨mc, hmc, hr, hpar, hcid⟩ := hrec
  obtain ⟨tb, _, _, mcx, _, _, hfT, hfx, hp1, hp2, h2T, h2C, h2o⟩ :=
    runActs_two h rfl rfl (ne_MC_of_user hT)
  cases hmc.symm.trans hfx
  obtain ⟨_, hkeys, rfl, _⟩ := (TPost.bulkUpdate_iff (hwf.table hmc).1).1 hp2
  cases hp1 with
  | @renameColumn _ _ _ col hcol hnew =>
    have hnr' := hnr mc hmc
    have hrows : ∀ x, x ≠ r → (x ∈ (mc.written [r] [("colId", [Val.str new])]).rows ↔ x ∈ mc.rows) :=
      fun _ _ => Iff.rfl
    have hcells : ∀ f x, x ≠ r → x ∈ mc.rows →
        (mc.written [r] [("colId", [Val.str new])]).cell f x = mc.cell f x :=
      fun f x hx _ => cell_written_other mc _ f (by simpa using hx)
    have hnk : ∀ f, f ≠ "colId" → (mc.written [r] [("colId", [Val.str new])]).cell f r = mc.cell f r := by
      intro f hf
      apply cell_written_nokey
      intro cv hcv
      simp only [List.mem_singleton] at hcv
      subst hcv
      exact fun h => hf h.symm
    obtain ⟨ccol, hccol⟩ := hasCol_eq_true.1 (hkeys ("colId", [.str new]) (by simp))
    have hcidnew : (mc.written [r] [("colId", [Val.str new])]).cell "colId" r = .str new := by
      rw [cell_written_key hccol (v := .str new)]
      · exact colSet_str _ _
      · intro cv hcv _
        simp only [List.mem_singleton] at hcv
        subst hcv
        rfl
      · exact ⟨_, List.mem_singleton.2 rfl, rfl⟩
    have hcolinfo := colRec_info hc hu hT htr hfT hcol hmc hr hpar hcid
    have hnone := hasCol_eq_false.1 hnew
    have hne' : new ≠ old := by
      intro h'
      subst h'
      rw [hcol] at hnone
      cases hnone
    have hci' : colRecInfo (mc.written [r] [("colId", [Val.str new])]) r = (new, col.info) := by
      apply Prod.ext
      · show valStr ((mc.written [r] [("colId", [Val.str new])]).cell "colId" r) = new
        rw [hcidnew]
        rfl
      · rw [← hcolinfo]
        apply ColInfo.ext'
        · show valStr _ = valStr _
          rw [hnk "type" (by decide +kernel)]
        · show valBool _ = valBool _
          rw [hnk "isFormula" (by decide +kernel)]
        · show valStr _ = valStr _
          rw [hnk "formula" (by decide +kernel)]
        · exact colRecInfo_r hr hrows hcells hnr' (hnk "reverseCol" (by decide +kernel))
    refine pair_core (tb' := swapCols tb old { col with id := new })
      (mc' := mc.written [r] [("colId", [.str new])]) hc hu hT htr hnr hfT hmc h2T h2C h2o
      hrows hcells (fun _ => hpar) (fun _ => ?_) ?_ ?_
    · show valNat _ = tr0
      rw [hnk "parentId" (by decide +kernel)]
      exact hpar
    · intro c i
      rw [hci']
      have hr' : r ∈ (mc.written [r] [("colId", [Val.str new])]).rows := hr
      simp only [swapCols, Table.infoOf?, findCol?_swap, hr', hr, true_and, hcid, Prod.mk.injEq, forall_const]
      by_cases hcn : c = new
      · subst hcn
        simp only [hne', ↓reduceIte, hnone, Option.none_or, Option.map_some, Option.some.injEq,
          true_and, Option.map_none, reduceCtorEq, false_and, or_false]
      · have hcn' : ¬ new = c := fun h => hcn h.symm
        by_cases hco : c = old
        · subst hco
          simp [hcn']
        · have hco' : ¬ old = c := fun h => hco h.symm
          simp [hcn', hco, hco']
    · intro _
      left
      rw [hci']
      simp [Table.infoOf?, hnone]


theorem colRecVals_nodup (tr0 : Nat) (c : String) (info : ColInfo) :
    ((colRecVals tr0 c info).map Prod.fst).Nodup := by
  simp [colRecVals]

theorem pair_addColumn_core {d d' : Doc} {u : List DocAction} {T c : String} {info : ColInfo}
    {tr0 r : Nat}
    (hwf : WF d) (hc : SchemaConsistent d) (hu : MetaUnique d) (hT : isMetaId T = false)
    (htr : TableRec d tr0 T) (hrev : info.reverseColId = none) (hr0 : 0 < r)
    (hnr : NoReverseRefTo d r)
    (hint : ∀ mc col, findTable? d "_grist_Tables_column" = some mc →
      mc.findCol? "parentId" = some col → ∀ k, colSet col.info.type (.int k) = .int k)
    (h : runActs d [.addColumn T c info,
      .bulkAdd "_grist_Tables_column" [r] (colRecVals tr0 c info)] = .ok (d', u)) :
    SchemaConsistent d' ∧ MetaUnique d' := by
  obtain ⟨tb, _, _, mc, _, _, hfT, hmc, hp1, hp2, h2T, h2C, h2o⟩ :=
    runActs_two h rfl rfl (ne_MC_of_user hT)
  have hwmc := hwf.table hmc
  obtain ⟨hnotin, hkeys, rfl, _⟩ :=
    (TPost.bulkAdd_iff hwmc.1 fun x hx => List.mem_singleton.1 hx ▸ hr0).1 hp2
  cases hp1 with
  | addColumn hnoc =>
    have hrnot : r ∉ mc.rows := hnotin r (List.mem_singleton.2 rfl)
    have hnr' := hnr mc hmc
    -- what is used of the new column-record table `mc2`; from here on it stays a variable
    obtain ⟨mc2, hmc2⟩ : ∃ mc2, mc2 = Table.written { mc with rows := insertRows [r] mc.rows } [r]
      (colRecVals tr0 c info) := ⟨_, rfl⟩
    rw [Option.getD_some, ← hmc2] at h2C
    have hmem : ∀ x, x ∈ mc2.rows ↔ x = r ∨ x ∈ mc.rows := by
      intro x
      rw [hmc2]
      show x ∈ insertRows [r] mc.rows ↔ _
      rw [mem_insertRows, List.mem_singleton]
    have hcells : ∀ f x, x ≠ r → x ∈ mc.rows → mc2.cell f x = mc.cell f x := by
      intro f x hx _
      rw [hmc2]
      exact cell_written_other _ _ f (by simpa using hx)
    have hkey : ∀ f v, (f, [v]) ∈ colRecVals tr0 c info →
        ∃ col, mc.findCol? f = some col ∧ mc2.cell f r = colSet col.info.type v := by
      intro f v hfv
      obtain ⟨col, hcol⟩ := hasCol_eq_true.1 (hkeys (f, [v]) hfv)
      refine ⟨col, hcol, ?_⟩
      rw [hmc2]
      refine cell_written_key hcol ?_ ⟨_, hfv, rfl⟩
      intro cv hcv hk
      exact congrArg Prod.snd (eq_of_map_eq Prod.fst (colRecVals_nodup tr0 c info) hcv hfv hk)
    have hcr : valNat (mc2.cell "reverseCol" r) = 0 := by
      rw [hmc2, cell_written_nokey _ _ (by
        intro cv hcv
        simp only [colRecVals, List.mem_cons, List.not_mem_nil, or_false] at hcv
        rcases hcv with rfl | rfl | rfl | rfl | rfl <;> simp)]
      show valNat (mc.cell "reverseCol" r) = 0
      unfold Table.cell
      cases e : mc.findCol? "reverseCol" with
      | none => rfl
      | some rc =>
        simp only
        rw [hwmc.2.2.2 rc (findCol?_some e).2 r hrnot]
        exact valNat_typeDefault _
    clear hmc2 hkeys
    have hrows : ∀ x, x ≠ r → (x ∈ mc2.rows ↔ x ∈ mc.rows) := by
      intro x hx
      rw [hmem]
      simp [hx]
    have hr' : r ∈ mc2.rows := (hmem r).2 (.inl rfl)
    obtain ⟨pcol, hpcol, hcp⟩ := hkey "parentId" (.int (Int.ofNat tr0)) (.head _)
    obtain ⟨_, _, hcc⟩ := hkey "colId" (.str c) (.tail _ (.head _))
    obtain ⟨_, _, hct⟩ := hkey "type" (.str info.type) (.tail _ (.tail _ (.head _)))
    obtain ⟨_, _, hci⟩ := hkey "isFormula" (.bool info.isFormula) (.tail _ (.tail _ (.tail _ (.head _))))
    obtain ⟨_, _, hcf⟩ := hkey "formula" (.str info.formula)
      (.tail _ (.tail _ (.tail _ (.tail _ (.head _)))))
    rw [hint mc pcol hmc hpcol] at hcp
    rw [colSet_str] at hcc hct hcf
    rw [colSet_bool] at hci
    have h0 : ¬ (0 ∈ mc2.rows) := by
      rw [hmem]
      rintro (h | h)
      · omega
      · exact absurd (hwmc.2.2.1 0 h) (by omega)
    -- `0` is no row, so `reverseCol = 0` reads as "none"
    have hci' : colRecInfo mc2 r = (c, info) := by
      apply Prod.ext
      · show valStr _ = c
        rw [hcc]
        rfl
      · apply ColInfo.ext'
        · show valStr _ = _
          rw [hct]
          rfl
        · show valBool _ = _
          rw [hci]
          rfl
        · show valStr _ = _
          rw [hcf]
          rfl
        · rw [hrev]
          simp only [colRecInfo, hcr, List.contains_iff_mem, h0, ↓reduceIte]
    have hnone := hasCol_eq_false.1 hnoc
    -- left: `r` belongs to `tr0`; the columns of `T` are the old ones plus `c`; `c` was free
    refine pair_core (tb' := addColT tb c info) hc hu hT htr hnr hfT hmc h2T h2C h2o
      hrows hcells (fun h => absurd h hrnot) (fun _ => ?_) ?_ ?_
    · show valNat _ = tr0
      rw [hcp]
      simp [valNat]
    · intro k i
      rw [hci']
      simp only [addColT, Table.infoOf?, findCol?_append_single, hr', true_and, hrnot,
        false_imp_iff, and_true, Prod.mk.injEq]
      have hnone' : List.find? (fun x => x.id == c) tb.cols = none := hnone
      by_cases hk : k = c
      · subst hk
        simp [hnone', hnone, newCol]
      · have hk' : ¬ c = k := fun h => hk h.symm
        simp only [newCol, hk', ↓reduceIte, Option.or_none, Option.map_eq_some_iff, false_and, false_or]
        rfl
    · intro _
      left
      rw [hci']
      simp [Table.infoOf?, hnone]

theorem pair_removeColumn_core {d d' : Doc} {u : List DocAction} {T c : String} {tr0 r : Nat}
    (hc : SchemaConsistent d) (hu : MetaUnique d) (hT : isMetaId T = false)
    (htr : TableRec d tr0 T) (hrec : ColRec d r tr0 c) (hnr : NoReverseRefTo d r)
    (h : runActs d [.bulkRemove "_grist_Tables_column" [r], .removeColumn T c] = .ok (d', u)) :
    SchemaConsistent d' ∧ MetaUnique d' := by
  obtain ⟨mc, hmc, hr, hpar, hcid⟩ := hrec
  obtain ⟨mcx, _, _, tbx, _, _, hfx, hfTx, hp1, hp2, h2C, h2T, h2o⟩ :=
    runActs_two h rfl rfl (Ne.symm (ne_MC_of_user hT))
  cases hmc.symm.trans hfx
  have hfl : [r].filter (fun x => mc.rows.contains x) = [r] := by simp [hr]
  cases hp2 with
  | removeColumn hcol =>
    cases hp1 with
    | bulkRemove_none he => cases hfl.symm.trans he
    | bulkRemove =>
      rw [hfl] at h2C
      have hmem : ∀ x, x ∈ (mc.removeRows [r]).rows ↔ x ∈ mc.rows ∧ x ≠ r := by
        intro x
        show x ∈ mc.rows.filter (fun y => !([r].contains y)) ↔ _
        simp
      have hrows : ∀ x, x ≠ r → (x ∈ (mc.removeRows [r]).rows ↔ x ∈ mc.rows) := by
        intro x hx
        rw [hmem]
        simp [hx]
      have hcells : ∀ f x, x ≠ r → x ∈ mc.rows → (mc.removeRows [r]).cell f x = mc.cell f x :=
        fun f x hx _ => cell_removeRows mc [r] f (by simpa using hx)
      have hrnot : r ∉ (mc.removeRows [r]).rows := by
        rw [hmem]
        simp
      refine pair_core (tb' := dropColT tbx c) (mc' := mc.removeRows [r]) hc hu hT htr hnr hfTx hmc
        h2T h2C (fun t a b => h2o t b a)
        hrows hcells (fun _ => hpar) (fun h => absurd h hrnot) ?_ (fun h => absurd h hrnot)
      intro k i
      simp only [dropColT, Table.infoOf?, findCol?_filter_ne, hrnot, false_and, false_or, hr, hcid,
        forall_const]
      by_cases hk : k = c
      · subst hk
        simp
      · have hk' : ¬ c = k := fun h => hk h.symm
        simp [hk, hk']

end Grist.Doc
