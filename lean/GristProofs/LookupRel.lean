/-
LookupRel (GristModel/LookupRel.lean, C05 part L): the "last writer" principle, which characterises
the map, the cache and each ghost field by the operation sequence alone; the invariants `InvA` /
`InvB` and what they say about hand-overs; when the variant without the cache clear agrees.
Defines `next`, `NoUnset`, `Unclean`, `InvA`, `InvB`.
-/
import GristModel.LookupRel
import GristProofs.Basics
namespace Grist.LookupRel

section sets
variable {α : Type} [BEq α] [LawfulBEq α]

theorem mem_sadd {x y : α} {l : List α} : y ∈ sadd x l ↔ y = x ∨ y ∈ l := by
  unfold sadd
  by_cases h : l.contains x = true
  · simp only [h, if_true]
    constructor
    · exact Or.inr
    · rintro (rfl | h')
      · simpa using h
      · exact h'
  · simp only [h]
    simp [or_comm]

theorem mem_sunion {y : α} {a b : List α} : y ∈ sunion a b ↔ y ∈ a ∨ y ∈ b := by
  unfold sunion
  induction b generalizing a with
  | nil => simp
  | cons x t ih =>
    simp only [List.foldl_cons, ih, mem_sadd, List.mem_cons]
    constructor
    · rintro ((rfl | h) | h)
      · exact Or.inr (Or.inl rfl)
      · exact Or.inl h
      · exact Or.inr (Or.inr h)
    · rintro (h | rfl | h)
      · exact Or.inl (Or.inr h)
      · exact Or.inl (Or.inl rfl)
      · exact Or.inr h

theorem mem_sdiff {y : α} {a b : List α} : y ∈ sdiff a b ↔ y ∈ a ∧ y ∉ b := by
  simp [sdiff]

theorem nodup_sadd {x : α} {l : List α} (h : l.Nodup) : (sadd x l).Nodup := by
  unfold sadd
  by_cases hc : l.contains x = true
  · rw [if_pos hc]
    exact h
  · rw [if_neg hc]
    have hx : x ∉ l := by simpa using hc
    rw [List.nodup_append]
    refine ⟨h, by simp, ?_⟩
    intro a ha b hb hab
    rw [List.mem_singleton.mp hb] at hab
    exact hx (hab ▸ ha)

end sets

theorem mem_lookupRight {m : List (Row × Key)} {k : Key} {r : Row} :
    r ∈ lookupRight m k ↔ (r, k) ∈ m := by
  unfold lookupRight
  simp only [List.mem_map, List.mem_filter, beq_iff_eq]
  constructor
  · rintro ⟨⟨r', k'⟩, ⟨hm, rfl⟩, rfl⟩
    exact hm
  · intro h
    exact ⟨(r, k), ⟨h, rfl⟩, rfl⟩

theorem mem_removeLeft {m : List (Row × Key)} {r : Row} {p : Row × Key} :
    p ∈ removeLeft m r ↔ p ∈ m ∧ p.1 ≠ r := by
  simp [removeLeft]

theorem mem_foldl_removeLeft {rows : List Row} {m : List (Row × Key)} {p : Row × Key} :
    p ∈ rows.foldl removeLeft m ↔ p ∈ m ∧ p.1 ∉ rows := by
  induction rows generalizing m with
  | nil => simp
  | cons x t ih =>
    simp only [List.foldl_cons, ih, mem_removeLeft, List.mem_cons, not_or]
    constructor
    · rintro ⟨⟨h1, h2⟩, h3⟩
      exact ⟨h1, h2, h3⟩
    · rintro ⟨h1, h2, h3⟩
      exact ⟨⟨h1, h2⟩, h3⟩

theorem nodup_foldl_removeLeft {rows : List Row} {m : List (Row × Key)} (h : m.Nodup) :
    (rows.foldl removeLeft m).Nodup := by
  induction rows generalizing m with
  | nil => simpa using h
  | cons x t ih => exact ih (List.Nodup.sublist List.filter_sublist h)

theorem mem_affectedRowsByKeys_aux {m : List (Row × Key)} {keys : List Key} {acc : List Row} {r : Row} :
    r ∈ keys.foldl (fun acc k => if k != noneKey then sunion acc (lookupRight m k) else acc) acc ↔
      r ∈ acc ∨ ∃ k ∈ keys, k ≠ noneKey ∧ (r, k) ∈ m := by
  induction keys generalizing acc with
  | nil => simp
  | cons x t ih =>
    simp only [List.foldl_cons, ih, List.mem_cons, or_and_right, exists_or, exists_eq_left]
    by_cases hx : x = noneKey
    · simp [hx]
    · simp [hx, mem_sunion, mem_lookupRight, or_assoc]

theorem mem_affectedRowsByKeys {m : List (Row × Key)} {keys : List Key} {r : Row} :
    r ∈ affectedRowsByKeys m keys ↔ ∃ k ∈ keys, k ≠ noneKey ∧ (r, k) ∈ m := by
  unfold affectedRowsByKeys
  rw [mem_affectedRowsByKeys_aux]
  simp

theorem mem_handedPairs {s : Rel} {ks : List Key} {p : Row × Key} :
    p ∈ handedPairs s ks ↔ p ∈ s.map ∧ p.2 ∈ ks ∧ p.2 ∉ s.cache ∧ p.2 ≠ noneKey := by
  simp [handedPairs, and_assoc]

theorem handedBy_eq (s : Rel) (ks : List Key) :
    handedBy s ks = affectedRowsByKeys s.map (sdiff ks s.cache) := by
  unfold handedBy invalidateAffectedKeys
  simp only
  split
  · next h => exact (List.isEmpty_iff.mp h).symm
  · rfl

theorem mem_handedBy {s : Rel} {ks : List Key} {r : Row} :
    r ∈ handedBy s ks ↔ ∃ k ∈ ks, k ∉ s.cache ∧ k ≠ noneKey ∧ (r, k) ∈ s.map := by
  simp only [handedBy_eq, mem_affectedRowsByKeys, mem_sdiff, and_assoc]

theorem invalidate_eq (s : Rel) (ks : List Key) :
    invalidateAffectedKeys s ks =
      if handedBy s ks = [] then (s, none)
      else ({ s with cache := sunion s.cache ks }, some (handedBy s ks)) := by
  rw [handedBy_eq]
  simp only [invalidateAffectedKeys, List.isEmpty_iff]

theorem step_invalidate (clear : Bool) (st : St) (ks : List Key) :
    step clear st (.invalidate ks) =
      if handedBy st.rel ks = [] then (st, none)
      else ({ rel := { st.rel with cache := sunion st.rel.cache ks },
              g := { st.g with handed := sunion st.g.handed (handedPairs st.rel ks),
                               clean := sdiff st.g.clean (handedBy st.rel ks) } },
            some (handedBy st.rel ks)) := by
  simp only [step, invalidate_eq]
  by_cases h : handedBy st.rel ks = []
  · simp only [if_pos h]
  · simp only [if_neg h]

abbrev next (clear : Bool) (st : St) (o : Op) : St := (step clear st o).1

theorem run_nil (clear : Bool) (st : St) : run clear st [] = st := rfl

theorem run_cons (clear : Bool) (st : St) (o : Op) (os : List Op) :
    run clear st (o :: os) = run clear (next clear st o) os := rfl

theorem run_append (clear : Bool) (st : St) (a b : List Op) :
    run clear st (a ++ b) = run clear (run clear st a) b := by
  simp [run, List.foldl_append]

theorem run_induction (clear : Bool) {I : St → Prop} (h : ∀ s o, I s → I (next clear s o))
    {s0 : St} (h0 : I s0) (ops : List Op) : I (run clear s0 ops) := by
  induction ops generalizing s0 with
  | nil => exact h0
  | cons o os ih => exact ih (h s0 o h0)

/-! ### "last writer" principle (`Grist.foldl_lastWriter`) for runs of the relation -/

/-- along the run from `st`, no operation of `ops` destroys the fact -/
def NoUnset (clear : Bool) (unset : St → Op → Prop) : St → List Op → Prop
  | _, [] => True
  | st, o :: os => ¬ unset st o ∧ NoUnset clear unset (next clear st o) os

theorem noUnset_const (clear : Bool) (u : Op → Prop) (st : St) (ops : List Op) :
    NoUnset clear (fun _ o => u o) st ops ↔ ∀ o ∈ ops, ¬ u o := by
  induction ops generalizing st with
  | nil => simp [NoUnset]
  | cons o os ih => simp [NoUnset, ih]

theorem lastWriter (clear : Bool) {P : St → Prop} {sets unset : St → Op → Prop}
    (hstep : ∀ s o, P (next clear s o) ↔ sets s o ∨ (P s ∧ ¬ unset s o))
    (s0 : St) (ops : List Op) :
    P (run clear s0 ops) ↔
      (P s0 ∧ NoUnset clear unset s0 ops) ∨
      ∃ pre o post, ops = pre ++ o :: post ∧ sets (run clear s0 pre) o ∧
        NoUnset clear unset (next clear (run clear s0 pre) o) post :=
  foldl_lastWriter (next clear) (fun _ => trivial) (fun _ _ _ => Iff.rfl) hstep s0 ops

theorem lastWriter_op (clear : Bool) {P : St → Prop} {x : Op} {unset : St → Op → Prop}
    (hstep : ∀ s o, P (next clear s o) ↔ x = o ∨ (P s ∧ ¬ unset s o)) (s0 : St) (ops : List Op) :
    P (run clear s0 ops) ↔
      (P s0 ∧ NoUnset clear unset s0 ops) ∨
      ∃ pre post, ops = pre ++ x :: post ∧
        NoUnset clear unset (next clear (run clear s0 pre) x) post := by
  rw [lastWriter clear hstep]
  refine or_congr Iff.rfl ⟨?_, ?_⟩
  · rintro ⟨pre, o, post, h1, rfl, h3⟩
    exact ⟨pre, post, h1, h3⟩
  · rintro ⟨pre, post, h1, h3⟩
    exact ⟨pre, _, post, h1, rfl, h3⟩

theorem lastWriter_invalidate {P : St → Prop} {φ : St → List Key → Prop} {unset : St → Op → Prop}
    (hstep : ∀ s o, P (next true s o) ↔
      (∃ ks, Op.invalidate ks = o ∧ φ s ks) ∨ (P s ∧ ¬ unset s o)) (s0 : St) (ops : List Op) :
    P (run true s0 ops) ↔
      (P s0 ∧ NoUnset true unset s0 ops) ∨
      ∃ pre ks post, ops = pre ++ Op.invalidate ks :: post ∧ φ (run true s0 pre) ks ∧
        NoUnset true unset (next true (run true s0 pre) (Op.invalidate ks)) post := by
  rw [lastWriter true hstep]
  refine or_congr Iff.rfl ⟨?_, ?_⟩
  · rintro ⟨pre, o, post, h1, ⟨ks, rfl, h2⟩, h3⟩
    exact ⟨pre, ks, post, h1, h2, h3⟩
  · rintro ⟨pre, ks, post, h1, h2, h3⟩
    exact ⟨pre, _, post, h1, ⟨ks, rfl, h2⟩, h3⟩

/-! ### per field: which operations establish a member, which remove it -/

theorem addLookupWith_map (clear : Bool) (s : Rel) (r : Row) (k : Key) :
    (addLookupWith clear s r k).map = sadd (r, k) s.map := by
  cases clear <;> rfl

theorem mem_next_map (clear : Bool) (r : Row) (k : Key) (s : St) (o : Op) :
    (r, k) ∈ (next clear s o).rel.map ↔
      Op.add r k = o ∨ ((r, k) ∈ s.rel.map ∧ ¬ o.resets r = true) := by
  cases o with
  | add r' k' => simp [next, step, addLookupWith_map, mem_sadd, Op.resets]
  | resetRows rows => simp [next, step, resetRows, resetCache, mem_foldl_removeLeft, Op.resets]
  | resetAllRows => simp [next, step, resetRows, resetCache, Op.resets]
  | resetAll => simp [next, step, resetAll, resetCache, Op.resets]
  | invalidate ks =>
    simp only [next, step_invalidate]
    split <;> simp [Op.resets]
  | _ => simp [next, step, Op.resets]

theorem mem_next_live (clear : Bool) (r : Row) (k : Key) (s : St) (o : Op) :
    (r, k) ∈ (next clear s o).g.live ↔
      Op.add r k = o ∨ ((r, k) ∈ s.g.live ∧ ¬ (o = Op.beginEval r ∨ o = Op.resetAll)) := by
  cases o with
  | add r' k' => simp [next, step, mem_sadd]
  | invalidate ks =>
    simp only [next, step_invalidate]
    split <;> simp
  | beginEval r' => simp [next, step, eq_comm (a := r')]
  | _ => simp [next, step]

/-- what takes a row out of `clean`: being reset, or being handed to `invalidate_records` -/
def Unclean (r : Row) (st : St) (o : Op) : Prop :=
  o.resets r = true ∨ ∃ ks, o = Op.invalidate ks ∧ r ∈ handedBy st.rel ks

theorem mem_next_clean (clear : Bool) (r : Row) (s : St) (o : Op) :
    r ∈ (next clear s o).g.clean ↔ Op.beginEval r = o ∨ (r ∈ s.g.clean ∧ ¬ Unclean r s o) := by
  cases o with
  | resetRows rows => simp [next, step, mem_sdiff, Unclean, Op.resets]
  | invalidate ks =>
    simp only [next, step_invalidate]
    split <;> simp [Unclean, Op.resets, mem_sdiff, *]
  | beginEval r' => simp [next, step, mem_sadd, Unclean, Op.resets]
  | _ => simp [next, step, Unclean, Op.resets]

theorem handedBy_ne_nil_of_mem_handedPairs {s : Rel} {ks : List Key} {p : Row × Key}
    (hp : p ∈ handedPairs s ks) : handedBy s ks ≠ [] := by
  have hm := mem_handedPairs.1 hp
  exact List.ne_nil_of_mem (mem_handedBy.2 ⟨p.2, hm.2.1, hm.2.2.1, hm.2.2.2, hm.1⟩)

theorem mem_next_handed (p : Row × Key) (s : St) (o : Op) :
    p ∈ (next true s o).g.handed ↔
      (∃ ks, Op.invalidate ks = o ∧ p ∈ handedPairs s.rel ks) ∨
      (p ∈ s.g.handed ∧ ¬ o.clearsCache = true) := by
  cases o with
  | invalidate ks =>
    simp only [next, step_invalidate]
    split
    · next hh =>
      have : p ∉ handedPairs s.rel ks := fun hp => handedBy_ne_nil_of_mem_handedPairs hp hh
      simp [Op.clearsCache, this]
    · simp [Op.clearsCache, mem_sunion, or_comm]
  | _ => simp [next, step, Op.clearsCache]

theorem mem_next_cache (k : Key) (s : St) (o : Op) :
    k ∈ (next true s o).rel.cache ↔
      (∃ ks, Op.invalidate ks = o ∧ k ∈ ks ∧ handedBy s.rel ks ≠ []) ∨
      (k ∈ s.rel.cache ∧ ¬ o.clearsCache = true) := by
  cases o with
  | invalidate ks =>
    simp only [next, step_invalidate]
    split <;> simp [Op.clearsCache, mem_sunion, or_comm, *]
  | _ => simp [next, step, Op.clearsCache, addLookupWith, resetRows, resetAll, resetCache]

theorem map_lastWriter (clear : Bool) (r : Row) (k : Key) (s0 : St) (ops : List Op) :
    (r, k) ∈ (run clear s0 ops).rel.map ↔
      ((r, k) ∈ s0.rel.map ∧ ∀ o ∈ ops, o.resets r = false) ∨
      ∃ pre post, ops = pre ++ Op.add r k :: post ∧ ∀ o ∈ post, o.resets r = false := by
  rw [lastWriter_op clear (P := fun s => (r, k) ∈ s.rel.map) (mem_next_map clear r k)]
  simp only [noUnset_const, Bool.not_eq_true]

theorem map_nodup (clear : Bool) (s0 : St) (h0 : s0.rel.map.Nodup) (ops : List Op) :
    (run clear s0 ops).rel.map.Nodup := by
  refine run_induction clear (I := fun s => s.rel.map.Nodup) (fun s o h0 => ?_) h0 ops
  cases o with
  | add r k => simpa [next, step, addLookupWith_map] using nodup_sadd h0
  | resetRows rows => simpa [next, step, resetRows, resetCache] using nodup_foldl_removeLeft h0
  | resetAllRows => simp [next, step, resetRows, resetCache]
  | resetAll => simp [next, step, resetAll, resetCache]
  | invalidate ks =>
    simp only [next, step_invalidate]
    split <;> exact h0
  | _ => simpa [next, step] using h0

theorem live_lastWriter (clear : Bool) (r : Row) (k : Key) (s0 : St) (ops : List Op) :
    (r, k) ∈ (run clear s0 ops).g.live ↔
      ((r, k) ∈ s0.g.live ∧ ∀ o ∈ ops, o ≠ Op.beginEval r ∧ o ≠ Op.resetAll) ∨
      ∃ pre post, ops = pre ++ Op.add r k :: post ∧ ∀ o ∈ post, o ≠ Op.beginEval r ∧ o ≠ Op.resetAll := by
  rw [lastWriter_op clear (P := fun s => (r, k) ∈ s.g.live) (mem_next_live clear r k)]
  simp only [noUnset_const, not_or, ne_eq]

theorem handed_lastWriter (r : Row) (k : Key) (s0 : St) (ops : List Op) :
    (r, k) ∈ (run true s0 ops).g.handed ↔
      ((r, k) ∈ s0.g.handed ∧ ∀ o ∈ ops, o.clearsCache = false) ∨
      ∃ pre ks post, ops = pre ++ Op.invalidate ks :: post ∧
        (r, k) ∈ handedPairs (run true s0 pre).rel ks ∧ ∀ o ∈ post, o.clearsCache = false := by
  rw [lastWriter_invalidate (P := fun s => (r, k) ∈ s.g.handed)
    (φ := fun s ks => (r, k) ∈ handedPairs s.rel ks) (mem_next_handed (r, k))]
  simp only [noUnset_const, Bool.not_eq_true]

theorem cache_lastWriter (k : Key) (s0 : St) (ops : List Op) :
    k ∈ (run true s0 ops).rel.cache ↔
      (k ∈ s0.rel.cache ∧ ∀ o ∈ ops, o.clearsCache = false) ∨
      ∃ pre ks post, ops = pre ++ Op.invalidate ks :: post ∧ k ∈ ks ∧
        handedBy (run true s0 pre).rel ks ≠ [] ∧ ∀ o ∈ post, o.clearsCache = false := by
  rw [lastWriter_invalidate (P := fun s => k ∈ s.rel.cache)
    (φ := fun s ks => k ∈ ks ∧ handedBy s.rel ks ≠ []) (mem_next_cache k)]
  simp only [noUnset_const, Bool.not_eq_true, and_assoc]

theorem clean_lastWriter (clear : Bool) (r : Row) (s0 : St) (ops : List Op) :
    r ∈ (run clear s0 ops).g.clean ↔
      (r ∈ s0.g.clean ∧ NoUnset clear (Unclean r) s0 ops) ∨
      ∃ pre post, ops = pre ++ Op.beginEval r :: post ∧
        NoUnset clear (Unclean r) (next clear (run clear s0 pre) (Op.beginEval r)) post :=
  lastWriter_op clear (P := fun s => r ∈ s.g.clean) (mem_next_clean clear r) s0 ops

/-- a cached key suppresses only rows that were handed over for it since the cache was last cleared -/
def InvA (st : St) : Prop :=
  ∀ r k, k ∈ st.rel.cache → k ≠ noneKey → (r, k) ∈ st.rel.map → (r, k) ∈ st.g.handed

/-- a lookup made by the latest evaluation of a clean row is in the map, under a key that is not cached -/
def InvB (st : St) : Prop :=
  ∀ r k, (r, k) ∈ st.g.live → r ∈ st.g.clean → k ≠ noneKey → (r, k) ∈ st.rel.map ∧ k ∉ st.rel.cache

theorem invA_empty : InvA {} := by
  intro r k h
  simp at h

theorem invB_empty : InvB {} := by
  intro r k h
  simp at h

/-- A key enters the cache with an `invalidate ks` that hands over every row mapped to it and not
    yet cached; a key that stays cached is not the key of a new lookup (that clears the cache). -/
theorem invA_next {st : St} (h : InvA st) (o : Op) : InvA (next true st o) := by
  intro r k hc hn hm
  rw [mem_next_handed]
  rcases (mem_next_cache k st o).1 hc with ⟨ks, rfl, hks, _⟩ | ⟨hc, hnc⟩
  · have hm : (r, k) ∈ st.rel.map := by
      rcases (mem_next_map true r k st _).1 hm with h' | h'
      · cases h'
      · exact h'.1
    by_cases hk : k ∈ st.rel.cache
    · exact Or.inr ⟨h r k hk hn hm, by simp [Op.clearsCache]⟩
    · exact Or.inl ⟨ks, rfl, mem_handedPairs.2 ⟨hm, hks, hk, hn⟩⟩
  · rcases (mem_next_map true r k st o).1 hm with rfl | h'
    · simp [Op.clearsCache] at hnc
    · exact Or.inr ⟨h r k hc hn h'.1, hnc⟩

/-- A new lookup is put into the map and clears the cache.  An older live lookup of a row that stays
    clean stays in the map (the row is not reset), and its key is not cached by an `invalidate ks`:
    that would hand the row over, and it would not stay clean. -/
theorem invB_next {st : St} (h : InvB st) (o : Op) : InvB (next true st o) := by
  intro r k hl hc hn
  rw [mem_next_map, mem_next_cache]
  rcases (mem_next_live true r k st o).1 hl with rfl | ⟨hl, hno⟩
  · exact ⟨Or.inl rfl, by simp [Op.clearsCache]⟩
  · rcases (mem_next_clean true r st o).1 hc with rfl | ⟨hc, hnu⟩
    · exact absurd (Or.inl rfl) hno
    · obtain ⟨hm, hnc⟩ := h r k hl hc hn
      refine ⟨Or.inr ⟨hm, fun hr => hnu (Or.inl hr)⟩, ?_⟩
      rintro (⟨ks, rfl, hks, _⟩ | ⟨hk, _⟩)
      · exact hnu (Or.inr ⟨ks, rfl, mem_handedBy.2 ⟨k, hks, hnc, hn, hm⟩⟩)
      · exact hnc hk

theorem invA_run {st : St} (h : InvA st) (ops : List Op) : InvA (run true st ops) :=
  run_induction true (I := InvA) (fun _ o h => invA_next h o) h ops

theorem invB_run {st : St} (h : InvB st) (ops : List Op) : InvB (run true st ops) :=
  run_induction true (I := InvB) (fun _ o h => invB_next h o) h ops

theorem InvA.handed_or {st : St} (h : InvA st) {r : Row} {k : Key} (hk : k ≠ noneKey)
    (hm : (r, k) ∈ st.rel.map) {ks : List Key} (hks : k ∈ ks) :
    r ∈ handedBy st.rel ks ∨ (r, k) ∈ st.g.handed := by
  by_cases hc : k ∈ st.rel.cache
  · exact Or.inr (h r k hc hk hm)
  · exact Or.inl (mem_handedBy.2 ⟨k, hks, hc, hk, hm⟩)

theorem InvB.handed {st : St} (h : InvB st) {r : Row} {k : Key} (hk : k ≠ noneKey)
    (hl : (r, k) ∈ st.g.live) (hc : r ∈ st.g.clean) {ks : List Key} (hks : k ∈ ks) :
    r ∈ handedBy st.rel ks :=
  mem_handedBy.2 ⟨k, hks, (h r k hl hc hk).2, hk, (h r k hl hc hk).1⟩

theorem handed_or_already_handed {s0 : St} (h0 : InvA s0) (ops : List Op) {r : Row} {k : Key}
    (hk : k ≠ noneKey) (hm : (r, k) ∈ (run true s0 ops).rel.map) {ks : List Key} (hks : k ∈ ks) :
    r ∈ handedBy (run true s0 ops).rel ks ∨
    ((r, k) ∈ s0.g.handed ∧ ∀ o ∈ ops, o.clearsCache = false) ∨
    ∃ pre ks' post, ops = pre ++ Op.invalidate ks' :: post ∧ k ∈ ks' ∧
      r ∈ handedBy (run true s0 pre).rel ks' ∧ ∀ o ∈ post, o.clearsCache = false := by
  refine ((invA_run h0 ops).handed_or hk hm hks).imp_right fun hh => ?_
  refine ((handed_lastWriter r k s0 ops).1 hh).imp_right ?_
  rintro ⟨pre, ks', post, heq, hp, hpost⟩
  have hp' := mem_handedPairs.1 hp
  exact ⟨pre, ks', post, heq, hp'.2.1,
    mem_handedBy.2 ⟨k, hp'.2.1, hp'.2.2.1, hp'.2.2.2, hp'.1⟩, hpost⟩

/-- the start state the driver uses for a relation first observed in mid-life satisfies both -/
theorem inv_ofSnapshot (m : List (Row × Key)) (cache : List Key) :
    InvA (St.ofSnapshot m cache) ∧ InvB (St.ofSnapshot m cache) := by
  constructor
  · intro r k hc hn hm
    simp only [St.ofSnapshot] at hc hm ⊢
    simp [List.mem_filter, hm, hc, hn]
  · intro r k hl _ _
    simp only [St.ofSnapshot, List.mem_filter] at hl ⊢
    exact ⟨hl.1, by simpa using hl.2⟩

theorem settledOk_iff {st : St} {rows : List Row} :
    settledOk st rows = true ↔ ∀ r ∈ rows, (∃ k, (r, k) ∈ st.g.live) → r ∈ st.g.clean := by
  simp only [settledOk, List.all_eq_true, Bool.or_eq_true, Bool.not_eq_true', List.any_eq_false,
    List.contains_iff_mem]
  constructor
  · intro h r hr ⟨k, hk⟩
    rcases h r hr with h1 | h1
    · have := h1 (r, k) hk
      simp at this
    · exact h1
  · intro h r hr
    by_cases hl : ∃ k, (r, k) ∈ st.g.live
    · exact Or.inr (h r hr hl)
    · refine Or.inl ?_
      rintro ⟨r', k⟩ hp
      simp only [beq_iff_eq]
      intro he
      subst he
      exact hl ⟨k, hp⟩

theorem engineSettled_at {clear : Bool} {s0 : St} {pre post : List Op} {rows : List Row}
    (h : engineSettled clear s0 (pre ++ Op.settled rows :: post) = true) :
    settledOk (run clear s0 pre) rows = true := by
  induction pre generalizing s0 with
  | nil =>
    simp only [List.nil_append, engineSettled, Bool.and_eq_true] at h
    exact h.1
  | cons o os ih =>
    simp only [List.cons_append, engineSettled, Bool.and_eq_true] at h
    rw [run_cons]
    exact ih h.2

theorem settled_rows_handed {s0 : St} (h0 : InvB s0) {pre post : List Op} {rows : List Row}
    (hyp : engineSettled true s0 (pre ++ Op.settled rows :: post) = true) {r : Row} (hr : r ∈ rows)
    {k : Key} (hk : k ≠ noneKey) (hl : (r, k) ∈ (run true s0 pre).g.live) {ks : List Key}
    (hks : k ∈ ks) : r ∈ handedBy (run true s0 pre).rel ks :=
  (invB_run h0 pre).handed hk hl (settledOk_iff.1 (engineSettled_at hyp) r hr ⟨k, hl⟩) hks

theorem step_congr_rel {s1 s2 : St} (h : s1.rel = s2.rel) (o : Op)
    (hc : ∀ r k, o = Op.add r k → s1.rel.cache = []) :
    (next false s1 o).rel = (next true s2 o).rel ∧ (step false s1 o).2 = (step true s2 o).2 := by
  cases o with
  | add r k =>
    simp only [next, step, addLookupWith, resetCache, Bool.false_eq_true, if_false, if_true,
      and_true, ← h, ← hc r k rfl]
  | invalidate ks =>
    simp only [next, step_invalidate, h]
    split <;> simp [h]
  | _ => simp [next, step, h]

theorem variant_agrees_aux (ops : List Op) : ∀ (s1 s2 : St), s1.rel = s2.rel →
    addsOnEmptyCache false s1 ops = true →
    (run false s1 ops).rel = (run true s2 ops).rel ∧ outputs false s1 ops = outputs true s2 ops := by
  induction ops with
  | nil =>
    intro s1 s2 h _
    exact ⟨h, rfl⟩
  | cons o os ih =>
    intro s1 s2 h ha
    simp only [addsOnEmptyCache, Bool.and_eq_true] at ha
    have hc : ∀ r k, o = Op.add r k → s1.rel.cache = [] := by
      rintro r k rfl
      simpa using ha.1
    have hstep := step_congr_rel h o hc
    have := ih (next false s1 o) (next true s2 o) hstep.1 ha.2
    rw [run_cons, run_cons]
    refine ⟨this.1, ?_⟩
    simp only [outputs]
    rw [hstep.2]
    exact congrArg _ this.2

end Grist.LookupRel
