/-
Order and search under C12–C14.  Defines `StrictWeakOrderOn`.  Main facts: the bisect loops find the
boundary of a prefix-closed predicate; `cmp1_eq` (a column compares by class: None < numbers < str);
`loop_mono`, from which `keyLt` is a strict weak order; `pySorted_pairwise`.
-/
import GristModel.SortedFind
import GristProofs.Basics
namespace Grist.SortedFind

/-- A strict weak order on the part `S` of a type: irreflexive, transitive, and incomparability
    ("neither before the other") is transitive. -/
structure StrictWeakOrderOn {β : Type} (S : β → Prop) (lt : β → β → Bool) : Prop where
  irrefl : ∀ a, S a → lt a a = false
  trans : ∀ a b c, S a → S b → S c → lt a b = true → lt b c = true → lt a c = true
  incomp_trans : ∀ a b c, S a → S b → S c → lt a b = false → lt b a = false →
    lt b c = false → lt c b = false → lt a c = false ∧ lt c a = false

theorem bisectLeft_eq {α β : Type} (lt : β → β → Bool) (key : α → β) (a : List α) (x : β) (k : Nat)
    (hp : ∀ i (h : i < a.length), lt (key a[i]) x = decide (i < k))
    (lo hi : Nat) (h1 : lo ≤ k) (h2 : k ≤ hi) (h3 : hi ≤ a.length) :
    bisectLeft lt key a x lo hi = k := by
  fun_induction bisectLeft lt key a x lo hi with
  | case1 lo hi hlt mid hnone =>
    have := List.getElem?_eq_none_iff.mp hnone
    omega
  | case2 lo hi hlt mid e he hc ih =>
    have hm : mid < a.length := by omega
    have hk := hp mid hm
    rw [List.getElem?_eq_getElem hm] at he
    rw [Option.some.inj he, hc] at hk
    have : mid < k := by simpa using hk.symm
    exact ih (by omega) h2 h3
  | case3 lo hi hlt mid e he hc ih =>
    have hm : mid < a.length := by omega
    have hk := hp mid hm
    rw [List.getElem?_eq_getElem hm] at he
    rw [Option.some.inj he] at hk
    have : ¬ mid < k := by
      intro hlt'
      rw [decide_eq_true hlt'] at hk
      exact hc hk
    exact ih h1 (by omega) (by omega)
  | case4 lo hi hnot => omega

/-- `bisect_right` under `<` is `bisect_left` under "not after" -/
theorem bisectRight_eq_left {α β : Type} (lt : β → β → Bool) (key : α → β) (a : List α) (x : β)
    (lo hi : Nat) :
    bisectRight lt key a x lo hi = bisectLeft (fun k y => !lt y k) key a x lo hi := by
  fun_induction bisectRight lt key a x lo hi with
  | case1 lo hi hlt mid hnone =>
    rw [bisectLeft, if_pos hlt]
    simp only [mid, hnone]
  | case2 lo hi hlt mid e he hc ih =>
    rw [bisectLeft, if_pos hlt]
    simp only [mid, he, hc, ih]
    rfl
  | case3 lo hi hlt mid e he hc ih =>
    rw [bisectLeft, if_pos hlt]
    simp only [mid, he, hc, ih]
    rfl
  | case4 lo hi hnot => rw [bisectLeft, if_neg hnot]

theorem bisectRight_eq {α β : Type} (lt : β → β → Bool) (key : α → β) (a : List α) (x : β) (k : Nat)
    (hp : ∀ i (h : i < a.length), (!lt x (key a[i])) = decide (i < k))
    (lo hi : Nat) (h1 : lo ≤ k) (h2 : k ≤ hi) (h3 : hi ≤ a.length) :
    bisectRight lt key a x lo hi = k := by
  rw [bisectRight_eq_left]
  exact bisectLeft_eq _ key a x k hp lo hi h1 h2 h3

section prefixPred
variable {α : Type} (p : α → Bool)

theorem tail_all_false {a : α} {t : List α}
    (h : ∀ b ∈ t, p b = true → p a = true) (ha : p a = false) : ∀ b ∈ t, p b = false := by
  intro b hb
  cases hpb : p b with
  | false => rfl
  | true =>
    rw [h b hb hpb] at ha
    cases ha

theorem countP_zero_of_head_false {a : α} {t : List α}
    (h : ∀ b ∈ t, p b = true → p a = true) (ha : p a = false) : t.countP p = 0 :=
  List.countP_eq_zero.mpr fun b hb => by simp [tail_all_false p h ha b hb]

theorem prefix_getElem {l : List α} (h : l.Pairwise (fun a b => p b = true → p a = true)) :
    ∀ i (hi : i < l.length), p l[i] = decide (i < l.countP p) := by
  induction l with
  | nil => intro i hi; simp at hi
  | cons a t ih =>
    rw [List.pairwise_cons] at h
    intro i hi
    cases hpa : p a with
    | false =>
      rw [List.countP_cons_of_neg (by simp [hpa]), countP_zero_of_head_false p h.1 hpa]
      cases i with
      | zero => simp [hpa]
      | succ j => simp [tail_all_false p h.1 hpa _ (List.getElem_mem _)]
    | true =>
      rw [List.countP_cons_of_pos hpa]
      cases i with
      | zero => simp [hpa]
      | succ j => simp [ih h.2 j (by simpa using hi)]

theorem prefix_filter {l : List α} (h : l.Pairwise (fun a b => p b = true → p a = true)) :
    l.filter p = l.take (l.countP p) := by
  induction l with
  | nil => simp
  | cons a t ih =>
    rw [List.pairwise_cons] at h
    cases hpa : p a with
    | false =>
      have hf : t.filter p = [] :=
        List.filter_eq_nil_iff.mpr fun b hb => by simp [tail_all_false p h.1 hpa b hb]
      simp [hpa, countP_zero_of_head_false p h.1 hpa, hf]
    | true =>
      simp [hpa, ih h.2]

theorem prefix_find_not {l : List α} (h : l.Pairwise (fun a b => p b = true → p a = true)) :
    l.find? (fun e => !p e) = l[l.countP p]? := by
  induction l with
  | nil => simp
  | cons a t ih =>
    rw [List.pairwise_cons] at h
    cases hpa : p a with
    | false =>
      simp [hpa, countP_zero_of_head_false p h.1 hpa]
    | true =>
      simp [hpa, ih h.2]

theorem prefix_last {l : List α} (h : l.Pairwise (fun a b => p b = true → p a = true)) :
    (l.filter p).getLast? = if l.countP p = 0 then none else l[l.countP p - 1]? := by
  rw [prefix_filter p h]
  have hle : l.countP p ≤ l.length := List.countP_le_length
  generalize l.countP p = k at hle
  cases k with
  | zero => simp
  | succ k =>
    simp only [Nat.add_one_ne_zero, if_false, Nat.add_sub_cancel]
    rw [List.getLast?_eq_getElem?]
    simp [List.length_take, Nat.min_eq_left hle]

end prefixPred

/-- type class of a value under the SortKey order: None, number (numeric value), str -/
inductive NV where
  | none
  | num (i : Int)
  | str (s : String)

def norm : Val → NV
  | .none => .none
  | .bool b => .num (if b then 1 else 0)
  | .int i => .num i
  | .str s => .str s

/-- ascending strict order: None < numbers (numerically) < str (code points) -/
def nlt : NV → NV → Bool
  | .none, .none => false
  | .none, _ => true
  | .num _, .none => false
  | .num x, .num y => decide (x < y)
  | .num _, .str _ => true
  | .str _, .none => false
  | .str _, .num _ => false
  | .str s, .str t => decide (s < t)

theorem nlt_irrefl (a : NV) : nlt a a = false := by
  cases a <;> simp [nlt]

theorem nlt_asymm {a b : NV} (h : nlt a b = true) : nlt b a = false := by
  cases a <;> cases b <;> simp_all [nlt]
  case num.num => omega
  case str.str => exact String.not_lt.mp (String.lt_asymm h)

theorem nlt_negtrans {a b c : NV} (h1 : nlt a b = false) (h2 : nlt b c = false) : nlt a c = false := by
  cases a <;> cases b <;> cases c <;> simp_all [nlt]
  case num.num.num => omega
  case str.str.str => exact String.le_trans h2 h1

/-- the component order with the '-' flag applied -/
def clt (desc : Bool) (a b : Val) : Bool :=
  if desc then nlt (norm b) (norm a) else nlt (norm a) (norm b)

theorem clt_irrefl (d : Bool) (a : Val) : clt d a a = false := by
  cases d <;> simp [clt, nlt_irrefl]

theorem clt_asymm {d : Bool} {a b : Val} (h : clt d a b = true) : clt d b a = false := by
  cases d <;> simp_all [clt] <;> exact nlt_asymm h

theorem clt_negtrans {d : Bool} {a b c : Val} (h1 : clt d a b = false) (h2 : clt d b c = false) :
    clt d a c = false := by
  cases d <;> simp_all [clt]
  case false => exact nlt_negtrans h1 h2
  case true => exact nlt_negtrans h2 h1

theorem clt_of_clt_of_not {d : Bool} {a b c : Val} (h1 : clt d a b = true) (h2 : clt d c b = false) :
    clt d a c = true :=
  (Bool.not_eq_false _).mp fun h => Bool.eq_false_iff.mp (clt_negtrans h h2) h1

theorem clt_of_not_of_clt {d : Bool} {a b c : Val} (h1 : clt d b a = false) (h2 : clt d b c = true) :
    clt d a c = true :=
  (Bool.not_eq_false _).mp fun h => Bool.eq_false_iff.mp (clt_negtrans h1 h) h2

/-- Python `<` succeeds exactly inside one class of comparable values -/
def NV.lt? : NV → NV → Option Bool
  | .num x, .num y => some (decide (x < y))
  | .str s, .str t => some (decide (s < t))
  | _, _ => Option.none

theorem pyLt_eq (a b : Val) : pyLt a b = (norm a).lt? (norm b) := by
  cases a <;> cases b <;> rfl

/-- the TypeError fallback ranks the classes None < number < str; the type name only tells `bool`
    from `int`, which never reach the fallback -/
theorem fallback_eq (a : Val) : fallback a =
    match norm a with
    | .none => (0, 1, "NoneType")
    | .num _ => (1, 0, typeName a)
    | .str _ => (1, 1, "str") := by
  cases a <;> rfl

theorem cmp1_nlt (d : Bool) (a b : Val) :
    cmp1 d a b =
      if nlt (norm a) (norm b) then some (!d) else if nlt (norm b) (norm a) then some d else none := by
  unfold cmp1
  rw [pyLt_eq a b, pyLt_eq b a, fallback_eq a, fallback_eq b]
  generalize typeName a = ta, typeName b = tb
  generalize norm a = x, norm b = y
  cases x <;> cases y
  -- inside one class `<` succeeds both ways and the `except` branch is dead
  case num.num i j => by_cases h1 : i < j <;> by_cases h2 : j < i <;> simp [NV.lt?, nlt, h1, h2]
  case str.str s t => by_cases h1 : s < t <;> by_cases h2 : t < s <;> simp [NV.lt?, nlt, h1, h2]
  -- across classes `<` raises and the fallback triples differ in a rank component
  all_goals simp [NV.lt?, nlt, tupLt]

theorem cmp1_eq (d : Bool) (a b : Val) :
    cmp1 d a b = if clt d a b then some true else if clt d b a then some false else none := by
  rw [cmp1_nlt]
  unfold clt
  cases d
  · rfl
  · -- descending: the two tests come in the other order, and at most one of them holds
    cases h : nlt (norm a) (norm b) <;> cases h' : nlt (norm b) (norm a) <;> try rfl
    rw [nlt_asymm h] at h'
    cases h'

theorem clt_congr {d : Bool} {a b : Val} (h1 : clt d a b = false) (h2 : clt d b a = false) (x : Val) :
    clt d a x = clt d b x ∧ clt d x a = clt d x b := by
  constructor
  · cases hax : clt d a x <;> cases hbx : clt d b x <;> try rfl
    · exact absurd (clt_of_not_of_clt h2 hbx) (Bool.eq_false_iff.mp hax)
    · exact absurd (clt_of_not_of_clt h1 hax) (Bool.eq_false_iff.mp hbx)
  · cases hxa : clt d x a <;> cases hxb : clt d x b <;> try rfl
    · exact absurd (clt_of_clt_of_not hxb h1) (Bool.eq_false_iff.mp hxa)
    · exact absurd (clt_of_clt_of_not hxa h2) (Bool.eq_false_iff.mp hxb)

theorem loop_cons (d : Bool) (spec : List Bool) (a b : Val) (as bs : List Val) :
    keyLtLoop (a :: as) (b :: bs) (d :: spec) =
      if clt d a b then some true else if clt d b a then some false else keyLtLoop as bs spec := by
  rw [keyLtLoop, cmp1_eq]
  cases clt d a b <;> cases clt d b a <;> simp

theorem loop_nil_left (bs : List Val) (spec : List Bool) : keyLtLoop [] bs spec = none := by
  simp [keyLtLoop]

theorem loop_nil_right (as : List Val) (spec : List Bool) : keyLtLoop as [] spec = none := by
  cases as <;> simp [keyLtLoop]

theorem loop_nil_spec (as bs : List Val) : keyLtLoop as bs [] = none := by
  cases as <;> cases bs <;> simp [keyLtLoop]

theorem loop_self (spec : List Bool) : ∀ a : List Val, keyLtLoop a a spec = none := by
  induction spec with
  | nil => intro a; exact loop_nil_spec a a
  | cons d spec ih =>
    intro a
    cases a with
    | nil => exact loop_nil_left _ _
    | cons a0 as =>
      rw [loop_cons]
      simp [clt_irrefl, ih]

theorem loop_swap (spec : List Bool) : ∀ a b : List Val,
    keyLtLoop b a spec = (keyLtLoop a b spec).map (fun r => !r) := by
  induction spec with
  | nil => intro a b; simp [loop_nil_spec]
  | cons d spec ih =>
    intro a b
    cases a with
    | nil => simp [loop_nil_left, loop_nil_right]
    | cons a0 as =>
      cases b with
      | nil => simp [loop_nil_left, loop_nil_right]
      | cons b0 bs =>
        rw [loop_cons, loop_cons]
        cases hab : clt d a0 b0 with
        | true => simp [clt_asymm hab]
        | false =>
          cases hba : clt d b0 a0 with
          | true => simp
          | false => simpa using ih as bs

/-- `a ≤ b` carries over to comparisons with `x`; `x` may have ANY length (search values). -/
theorem loop_mono (spec : List Bool) : ∀ a b x : List Val, a.length = b.length →
    keyLtLoop a b spec ≠ some false →
    (keyLtLoop b x spec ≠ some false → keyLtLoop a x spec ≠ some false) ∧
    (keyLtLoop b x spec = some true → keyLtLoop a x spec = some true) := by
  induction spec with
  | nil => intro a b x _ _; simp [loop_nil_spec]
  | cons d spec ih =>
    intro a b x hlen hab
    cases a with
    | nil =>
      obtain rfl : b = [] := List.length_eq_zero_iff.mp hlen.symm
      simp [loop_nil_left]
    | cons a0 as =>
      cases b with
      | nil => simp at hlen
      | cons b0 bs =>
        cases x with
        | nil => simp [loop_nil_right]
        | cons x0 xs =>
          rw [loop_cons] at hab
          rw [loop_cons, loop_cons]
          cases h1 : clt d a0 b0 with
          | true =>
            have key : clt d x0 b0 = false → clt d a0 x0 = true := fun h => clt_of_clt_of_not h1 h
            constructor
            · intro hbx
              cases h3 : clt d x0 b0 with
              | false => simp [key h3]
              | true => simp [clt_asymm h3, h3] at hbx
            · intro hbx
              cases h3 : clt d x0 b0 with
              | false => simp [key h3]
              | true => simp [clt_asymm h3, h3] at hbx
          | false =>
            cases h2 : clt d b0 a0 with
            | true => simp [h1, h2] at hab
            | false =>
              simp only [h1, h2, Bool.false_eq_true, if_false] at hab
              obtain ⟨e1, e2⟩ := clt_congr h1 h2 x0
              rw [e1, e2]
              have hlen' : as.length = bs.length := by simpa using hlen
              obtain ⟨i1, i2⟩ := ih as bs xs hlen' hab
              cases clt d b0 x0 with
              | true => simp
              | false =>
                cases clt d x0 b0 with
                | true => simp
                | false => simpa using ⟨i1, i2⟩

theorem RowId.lt_irrefl (a : RowId) : a.lt a = false := by
  cases a <;> simp [RowId.lt]

theorem RowId.lt_asymm {a b : RowId} (h : a.lt b = true) : b.lt a = false := by
  cases a <;> cases b <;> simp_all [RowId.lt]
  case id.id => omega

theorem RowId.lt_trans {a b c : RowId} (h1 : a.lt b = true) (h2 : b.lt c = true) : a.lt c = true := by
  cases a <;> cases b <;> cases c <;> simp_all [RowId.lt]
  case id.id.id => omega

theorem RowId.lt_negtrans {a b c : RowId} (h1 : a.lt b = false) (h2 : b.lt c = false) :
    a.lt c = false := by
  cases a <;> cases b <;> cases c <;> simp_all [RowId.lt]
  case id.id.id => omega

theorem RowId.lt_total {m n : Nat} (h : m ≠ n) : (RowId.id m).lt (.id n) = true ∨ (RowId.id n).lt (.id m) = true := by
  simp only [RowId.lt, decide_eq_true_eq]
  omega

theorem keyLt_true_iff (spec : List Bool) (x y : Key) :
    keyLt spec x y = true ↔ keyLtLoop x.values y.values spec = some true ∨
      (keyLtLoop x.values y.values spec = none ∧ x.rowId.lt y.rowId = true) := by
  unfold keyLt
  rcases keyLtLoop x.values y.values spec with _ | _ | _ <;> simp

theorem keyLt_false_iff (spec : List Bool) (x y : Key) :
    keyLt spec x y = false ↔ keyLtLoop x.values y.values spec = some false ∨
      (keyLtLoop x.values y.values spec = none ∧ x.rowId.lt y.rowId = false) := by
  unfold keyLt
  rcases keyLtLoop x.values y.values spec with _ | _ | _ <;> simp

theorem loop_swap_true {spec : List Bool} {a b : List Val} (h : keyLtLoop a b spec = some true) :
    keyLtLoop b a spec = some false := by
  rw [loop_swap, h]
  rfl

theorem loop_swap_false {spec : List Bool} {a b : List Val} (h : keyLtLoop a b spec = some false) :
    keyLtLoop b a spec = some true := by
  rw [loop_swap, h]
  rfl

theorem loop_swap_none {spec : List Bool} {a b : List Val} (h : keyLtLoop a b spec = none) :
    keyLtLoop b a spec = none := by
  rw [loop_swap, h]
  rfl

theorem loop_le_lt {spec : List Bool} {a b c : List Val} (hl : a.length = b.length)
    (h1 : keyLtLoop a b spec ≠ some false) (h2 : keyLtLoop b c spec = some true) :
    keyLtLoop a c spec = some true := (loop_mono spec a b c hl h1).2 h2

theorem loop_lt_le {spec : List Bool} {a b c : List Val} (hl : a.length = b.length)
    (hl' : b.length = c.length)
    (h1 : keyLtLoop a b spec = some true) (h2 : keyLtLoop b c spec ≠ some false) :
    keyLtLoop a c spec = some true := by
  -- otherwise `c ≤ a < b`, so `c < b`, against `b ≤ c`
  apply Classical.byContradiction
  intro hne
  have hca : keyLtLoop c a spec ≠ some false := fun h => hne (loop_swap_false h)
  exact h2 (loop_swap_true (loop_le_lt (by omega) hca h1))

theorem loop_eq_eq {spec : List Bool} {a b c : List Val} (hl : a.length = b.length)
    (hl' : b.length = c.length)
    (h1 : keyLtLoop a b spec = none) (h2 : keyLtLoop b c spec = none) :
    keyLtLoop a c spec = none := by
  have p1 := (loop_mono spec a b c hl (by rw [h1]; simp)).1 (by rw [h2]; simp)
  have p2 := (loop_mono spec c b a (by omega) (by rw [loop_swap_none h2]; simp)).1
    (by rw [loop_swap_none h1]; simp)
  rcases hac : keyLtLoop a c spec with _ | _ | _
  · rfl
  · exact absurd hac p1
  · exact absurd (loop_swap_true hac) p2

theorem keyLt_irrefl (spec : List Bool) (x : Key) : keyLt spec x x = false := by
  rw [keyLt_false_iff]
  exact Or.inr ⟨loop_self spec _, RowId.lt_irrefl _⟩

theorem keyLt_asymm {spec : List Bool} {x y : Key} (h : keyLt spec x y = true) :
    keyLt spec y x = false := by
  rw [keyLt_true_iff] at h
  rw [keyLt_false_iff]
  rcases h with h | ⟨h, hr⟩
  · exact Or.inl (loop_swap_true h)
  · exact Or.inr ⟨loop_swap_none h, RowId.lt_asymm hr⟩

theorem keyLt_trans {spec : List Bool} {x y z : Key} (hl : x.values.length = y.values.length)
    (hl' : y.values.length = z.values.length)
    (h1 : keyLt spec x y = true) (h2 : keyLt spec y z = true) : keyLt spec x z = true := by
  rw [keyLt_true_iff] at h1 h2 ⊢
  have h2' : keyLtLoop y.values z.values spec ≠ some false := by
    rcases h2 with h | ⟨h, _⟩ <;> simp [h]
  rcases h1 with h1 | ⟨h1, r1⟩
  · exact Or.inl (loop_lt_le hl hl' h1 h2')
  · rcases h2 with h2 | ⟨h2, r2⟩
    · exact Or.inl (loop_le_lt hl (by simp [h1]) h2)
    · exact Or.inr ⟨loop_eq_eq hl hl' h1 h2, RowId.lt_trans r1 r2⟩

theorem keyLt_negtrans {spec : List Bool} {x y z : Key} (hl : x.values.length = y.values.length)
    (hl' : y.values.length = z.values.length)
    (h1 : keyLt spec x y = false) (h2 : keyLt spec y z = false) : keyLt spec x z = false := by
  rw [keyLt_false_iff] at h1 h2 ⊢
  -- read from the other side: `z ≤ y ≤ x` on the values
  have h1' : keyLtLoop y.values x.values spec ≠ some false := by
    rcases h1 with h | ⟨h, _⟩
    · simp [loop_swap_false h]
    · simp [loop_swap_none h]
  rcases h2 with h2 | ⟨h2, r2⟩
  · exact Or.inl (loop_swap_true (loop_lt_le (by omega) (by omega) (loop_swap_false h2) h1'))
  · rcases h1 with h1 | ⟨h1, r1⟩
    · exact Or.inl (loop_swap_true
        (loop_le_lt (by omega) (by simp [loop_swap_none h2]) (loop_swap_false h1)))
    · exact Or.inr ⟨loop_eq_eq hl hl' h1 h2, RowId.lt_negtrans r1 r2⟩

theorem keyLt_total {spec : List Bool} {m n : Nat} (h : m ≠ n) (a b : List Val) :
    keyLt spec ⟨.id m, a⟩ ⟨.id n, b⟩ = true ∨ keyLt spec ⟨.id n, b⟩ ⟨.id m, a⟩ = true := by
  rcases hab : keyLtLoop a b spec with _ | _ | _
  · rcases RowId.lt_total h with r | r
    · exact Or.inl ((keyLt_true_iff ..).mpr (Or.inr ⟨hab, r⟩))
    · exact Or.inr ((keyLt_true_iff ..).mpr (Or.inr ⟨loop_swap_none hab, r⟩))
  · exact Or.inr ((keyLt_true_iff ..).mpr (Or.inl (loop_swap_false hab)))
  · exact Or.inl ((keyLt_true_iff ..).mpr (Or.inl hab))

theorem StrictWeakOrderOn.negtrans {β : Type} {S : β → Prop} {lt : β → β → Bool}
    (h : StrictWeakOrderOn S lt) {a b c : β} (ha : S a) (hb : S b) (hc : S c)
    (h1 : lt a b = false) (h2 : lt b c = false) : lt a c = false := by
  cases hac : lt a c with
  | false => rfl
  | true =>
    -- b is not below a (else b < a < c), and c is not below b (else a < c < b)
    have hba : lt b a = false := by
      cases hba : lt b a with
      | false => rfl
      | true => exact absurd (h.trans b a c hb ha hc hba hac) (Bool.eq_false_iff.mp h2)
    have hcb : lt c b = false := by
      cases hcb : lt c b with
      | false => rfl
      | true => exact absurd (h.trans a c b ha hc hb hac hcb) (Bool.eq_false_iff.mp h1)
    exact absurd hac (Bool.eq_false_iff.mp (h.incomp_trans a b c ha hb hc h1 hba h2 hcb).1)

theorem pySorted_cons {α : Type} (lt : α → α → Bool) (x : α) (l : List α) :
    pySorted lt (x :: l) = insertSorted lt x (pySorted lt l) := rfl

theorem insertSorted_perm {α : Type} (lt : α → α → Bool) (x : α) (l : List α) :
    (insertSorted lt x l).Perm (x :: l) :=
  ins_perm (ins := insertSorted lt x) (r := (lt · · = true)) rfl (fun _ _ => rfl) l

theorem pySorted_perm {α : Type} (lt : α → α → Bool) : ∀ l : List α, (pySorted lt l).Perm l := by
  intro l
  induction l with
  | nil => exact List.Perm.refl _
  | cons x l ih => exact (insertSorted_perm lt x _).trans (List.Perm.cons x ih)

theorem pySorted_pairwise {α : Type} (lt : α → α → Bool) (S : α → Prop)
    (htr : ∀ a b c, S a → S b → S c → lt a b = true → lt b c = true → lt a c = true)
    (has : ∀ a b, S a → S b → lt a b = true → lt b a = false) :
    ∀ l : List α, (∀ a ∈ l, S a) → (pySorted lt l).Pairwise (fun a b => lt b a = false) := by
  intro l
  induction l with
  | nil => intro _; exact List.Pairwise.nil
  | cons x l ih =>
    intro hl
    have hx := hl x List.mem_cons_self
    have hS : ∀ a ∈ pySorted lt l, S a := fun a ha =>
      hl a (List.mem_cons_of_mem _ ((pySorted_perm lt l).mem_iff.mp ha))
    refine ins_pairwise (ins := insertSorted lt x) (r := (lt · · = true)) rfl (fun _ _ => rfl) _
      (fun y hy => has x y hx (hS y hy)) (fun y hy b hb hxy hby => ?_) (fun _ _ h => Bool.eq_false_iff.mpr h)
      (ih fun a ha => hl a (List.mem_cons_of_mem _ ha))
    -- `b < x < y` would put `b` before `y`
    exact Bool.eq_false_iff.mpr fun hbx =>
      Bool.eq_false_iff.mp hby (htr b x y (hS b hb) hx (hS y hy) hbx hxy)

theorem own_index {α β : Type} (lt : β → β → Bool) (key : α → β) (l : List α)
    (hirr : ∀ a ∈ l, lt (key a) (key a) = false)
    (hasym : ∀ a ∈ l, ∀ b ∈ l, lt (key a) (key b) = true → lt (key b) (key a) = false)
    (hs : l.Pairwise (fun a b => lt (key a) (key b) = true)) (i : Nat) (hi : i < l.length) :
    bisectLeft lt key l (key l[i]) 0 l.length = i ∧
    bisectRight lt key l (key l[i]) 0 l.length = i + 1 := by
  rw [List.pairwise_iff_getElem] at hs
  -- in a strictly sorted list the keys compare as the positions do
  have hlt : ∀ a b (ha : a < l.length) (hb : b < l.length),
      lt (key l[a]) (key l[b]) = decide (a < b) := by
    intro a b ha hb
    by_cases hab : a < b
    · simp [hab, hs a b ha hb hab]
    · by_cases hba : b < a
      · simp [hab, hasym _ (List.getElem_mem hb) _ (List.getElem_mem ha) (hs b a hb ha hba)]
      · have : a = b := by omega
        subst this
        simp [hirr _ (List.getElem_mem ha)]
  constructor
  · exact bisectLeft_eq lt key l (key l[i]) i (fun j hj => hlt j i hj hi) 0 l.length
      (by omega) (by omega) (by omega)
  · apply bisectRight_eq lt key l (key l[i]) (i + 1) _ 0 l.length (by omega) (by omega) (by omega)
    intro j hj
    rw [hlt i j hi hj]
    by_cases hij : i < j <;> simp [hij] <;> omega

section find
variable (spec : List Bool) (rs : List Row) (vs : List Val) (n : Nat)

theorem valuesBefore_iff (a b : List Val) :
    valuesBefore spec a b = true ↔ keyLtLoop a b spec = some true := by
  unfold valuesBefore
  rw [keyLt_true_iff]
  simp [RowId.lt]

/-- covers a row against the `-max` probe, the `+max` probe against a row, two keys of one row -/
theorem keyLt_eq_valuesBefore {x y : Key} (h : x.rowId.lt y.rowId = false) :
    keyLt spec x y = valuesBefore spec x.values y.values := by
  unfold valuesBefore keyLt
  rcases keyLtLoop x.values y.values spec with _ | _ | _ <;> simp [h, RowId.lt_irrefl]

theorem loop_le_of_not_lt {a b : Row} (h : keyLt spec (key b) (key a) = false) :
    keyLtLoop a.cells b.cells spec ≠ some false := by
  intro hf
  rw [keyLt_false_iff] at h
  simp [key, loop_swap_false hf] at h

theorem mono_before (hlen : ∀ r ∈ rs, r.cells.length = n)
    (hs : rs.Pairwise (fun a b => keyLt spec (key b) (key a) = false)) :
    rs.Pairwise (fun a b => valuesBefore spec b.cells vs = true → valuesBefore spec a.cells vs = true) := by
  refine List.Pairwise.imp_of_mem ?_ hs
  intro a b ha hb hba hb'
  rw [valuesBefore_iff] at hb' ⊢
  exact loop_le_lt (by rw [hlen a ha, hlen b hb]) (loop_le_of_not_lt spec hba) hb'

theorem mono_not_after (hlen : ∀ r ∈ rs, r.cells.length = n)
    (hs : rs.Pairwise (fun a b => keyLt spec (key b) (key a) = false)) :
    rs.Pairwise (fun a b => (!valuesBefore spec vs b.cells) = true →
      (!valuesBefore spec vs a.cells) = true) := by
  refine List.Pairwise.imp_of_mem ?_ hs
  intro a b ha hb hba hb'
  have hb'' : keyLtLoop b.cells vs spec ≠ some false := by
    intro h
    simp [(valuesBefore_iff spec vs b.cells).mpr (loop_swap_false h)] at hb'
  have := (loop_mono spec a.cells b.cells vs (by rw [hlen a ha, hlen b hb])
    (loop_le_of_not_lt spec hba)).1 hb''
  cases hva : valuesBefore spec vs a.cells with
  | false => rfl
  | true =>
    exact absurd (loop_swap_true ((valuesBefore_iff spec vs a.cells).mp hva)) this

theorem atIndex_pred (k : Nat) (hk : k ≤ rs.length) :
    atIndex rs ((k : Int) + (-1)) = if k = 0 then none else rs[k - 1]? := by
  unfold atIndex
  cases k with
  | zero => simp
  | succ k =>
    have h1 : ((k + 1 : Nat) : Int) + (-1) = (k : Int) := by omega
    rw [h1]
    have : (0 : Int) ≤ k ∧ (k : Int) < rs.length := by omega
    simp [this]

theorem atIndex_nat (k : Nat) : atIndex rs ((k : Int) + 0) = rs[k]? := by
  unfold atIndex
  by_cases h : k < rs.length
  · have : (0 : Int) ≤ k ∧ (k : Int) < rs.length := by omega
    simp [this]
  · have h' : rs.length ≤ k := by omega
    simp [h']

theorem getSortKey_ok (h : spec ≠ []) : getSortKey spec = .ok () := by
  unfold getSortKey
  cases spec with
  | nil => exact absurd rfl h
  | cons _ _ => rfl

theorem probeKey_ok (rid : RowId) (h : vs ≠ []) : probeKey rid vs = .ok ⟨rid, vs⟩ := by
  unfold probeKey
  cases vs with
  | nil => exact absurd rfl h
  | cons _ _ => rfl

theorem bisectLeft_probe (hlen : ∀ r ∈ rs, r.cells.length = n)
    (hs : rs.Pairwise (fun a b => keyLt spec (key b) (key a) = false)) :
    bisectLeft (keyLt spec) key rs ⟨.negMax, vs⟩ 0 rs.length =
      rs.countP (fun r => valuesBefore spec r.cells vs) := by
  apply bisectLeft_eq _ _ _ _ _ _ 0 rs.length (by omega) List.countP_le_length (by omega)
  intro i h
  rw [keyLt_eq_valuesBefore spec (x := key rs[i]) (y := ⟨.negMax, vs⟩) rfl]
  exact prefix_getElem (fun r => valuesBefore spec r.cells vs) (mono_before spec rs vs n hlen hs) i h

theorem bisectRight_probe (hlen : ∀ r ∈ rs, r.cells.length = n)
    (hs : rs.Pairwise (fun a b => keyLt spec (key b) (key a) = false)) :
    bisectRight (keyLt spec) key rs ⟨.posMax, vs⟩ 0 rs.length =
      rs.countP (fun r => !valuesBefore spec vs r.cells) := by
  apply bisectRight_eq _ _ _ _ _ _ 0 rs.length (by omega) List.countP_le_length (by omega)
  intro i h
  rw [keyLt_eq_valuesBefore spec (x := ⟨.posMax, vs⟩) (y := key rs[i]) rfl]
  exact prefix_getElem (fun r => !valuesBefore spec vs r.cells)
    (mono_not_after spec rs vs n hlen hs) i h

theorem find?_and {α : Type} {p q : α → Bool} {l : List α} {f : α}
    (h : l.find? p = some f) (hq : q f = true) : l.find? (fun x => p x && q x) = some f := by
  induction l with
  | nil => simp at h
  | cons a t ih =>
    rw [List.find?_cons] at h ⊢
    cases hpa : p a with
    | true =>
      rw [hpa] at h
      obtain rfl : a = f := Option.some.inj h
      simp [hq]
    | false =>
      rw [hpa] at h
      simp [ih h]

end find

theorem pyEq_refl (a : Val) : pyEq a a = true := by
  cases a <;> simp [pyEq, Val.num?]

theorem groupEq_refl : ∀ g : List Val, groupEq g g = true := by
  intro g
  induction g with
  | nil => rfl
  | cons a t ih => simp [groupEq, pyEq_refl, ih]

end Grist.SortedFind
