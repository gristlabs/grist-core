/-
`moment.Zone` under `ZoneWF` (C34): `bisect_right` returns the partition point of its list (the loop is
proved in GristProofs/Bisect.lean), on a sorted list the number of elements `≤ x`; the model's boolean
check decides `ZoneWF`; `_index` and `_index_dt` never raise and are characterised through the transition
instants `U` and east offsets `E`.
-/
import GristModel.Zone
import GristProofs.Bisect
namespace Grist.Zone

theorem getE_ok {l : List Int} {i : Nat} (h : i < l.length) : getE l i = .ok (l.getD i 0) := by
  unfold getE
  simp [List.getD, h]

theorem getE_err {l : List Int} {i : Nat} (h : l.length ≤ i) : getE l i = .error .indexError := by
  unfold getE
  simp [h]

theorem getD_zipWith (f : Int → Int → Int) : ∀ (a b : List Int) (j : Nat),
    j < a.length → j < b.length → (List.zipWith f a b).getD j 0 = f (a.getD j 0) (b.getD j 0) := by
  intro a
  induction a with
  | nil =>
    intro b j h
    simp at h
  | cons x xs ih =>
    intro b j ha hb
    cases b with
    | nil => simp at hb
    | cons y ys =>
      cases j with
      | zero => simp
      | succ j =>
        simp only [List.zipWith_cons_cons, List.getD_cons_succ]
        exact ih ys j (by simpa using ha) (by simpa using hb)

def SortedLe (a : List Int) : Prop := ∀ i j, i ≤ j → j < a.length → a.getD i 0 ≤ a.getD j 0

theorem bisectLoop (a : List Int) (x : Int) : BisectLoop (bisectGo a x) a x :=
  ⟨fun _ _ => rfl, fun _ _ _ => rfl⟩

/-- `bisect_right` returns the partition point of the list, sorted or not, if it has one. -/
theorem bisectRight_eq {a : List Int} {x : Int} {k : Nat} (h : PartitionPoint a x k) :
    bisectRight a x = k :=
  (bisectLoop a x).eq_partitionPoint h _ 0 _ (Nat.zero_le _) h.1 (Nat.le_refl _) (Nat.le_succ _)

/-- `bisect_right` on a sorted list: the number of elements `≤ x`. -/
theorem bisectRight_spec (a : List Int) (x : Int) (hs : SortedLe a) :
    PartitionPoint a x (bisectRight a x) := by
  obtain ⟨k, hk⟩ := exists_partition (a.getD · 0) x a.length hs
  rwa [bisectRight_eq hk]

theorem lt_of_step (f : Nat → Int) (n : Nat) (h : ∀ j, j + 1 < n → f j < f (j + 1)) :
    ∀ i j, i < j → j < n → f i < f j := by
  intro i j
  induction j with
  | zero =>
    intro h0
    omega
  | succ j ih =>
    intro hij hjn
    by_cases e : i = j
    · subst e
      exact h i hjn
    · have := ih (by omega) (by omega)
      have := h j hjn
      omega

theorem le_of_step (f : Nat → Int) (n : Nat) (h : ∀ j, j + 1 < n → f j < f (j + 1)) :
    ∀ i j, i ≤ j → j < n → f i ≤ f j := by
  intro i j hij hjn
  by_cases e : i = j
  · subst e
    exact Int.le_refl _
  · exact Int.le_of_lt (lt_of_step f n h i j (by omega) hjn)

theorem wfGo_sound : ∀ (us os : List Int), wfGo us os = true →
    os.length = us.length + 1 ∧
    ∀ j, j + 1 < us.length →
      us.getD j 0 < us.getD (j + 1) 0 ∧
      us.getD j 0 - os.getD j 0 * 1000 < us.getD (j + 1) 0 - os.getD (j + 1) 0 * 1000 ∧
      us.getD j 0 - os.getD j 0 * 1000 ≤ us.getD (j + 1) 0 - os.getD (j + 2) 0 * 1000 ∧
      us.getD j 0 - os.getD (j + 2) 0 * 1000 ≤ us.getD (j + 1) 0 - os.getD (j + 1) 0 * 1000 := by
  intro us os
  fun_induction wfGo us os with
  | case1 u0 u1 us o0 o1 o2 os ih =>
    intro h
    simp only [Bool.and_eq_true, decide_eq_true_eq] at h
    obtain ⟨⟨⟨⟨h1, h2⟩, h3⟩, h4⟩, h5⟩ := h
    obtain ⟨il, ih⟩ := ih h5
    refine ⟨by simp only [List.length_cons] at il ⊢; omega, ?_⟩
    intro j hj
    cases j with
    | zero =>
      simp only [List.getD_cons_zero, List.getD_cons_succ]
      exact ⟨h1, h2, h3, h4⟩
    | succ j =>
      simp only [List.getD_cons_succ]
      exact ih j (by simp only [List.length_cons] at hj ⊢; omega)
  | case2 =>
    intro _
    exact ⟨rfl, fun j hj => by simp at hj⟩
  | case3 =>
    intro _
    exact ⟨rfl, fun j hj => by simp at hj⟩
  | case4 =>
    intro h
    simp at h

theorem wfGo_complete : ∀ (us os : List Int),
    os.length = us.length + 1 →
    (∀ j, j + 1 < us.length →
      us.getD j 0 < us.getD (j + 1) 0 ∧
      us.getD j 0 - os.getD j 0 * 1000 < us.getD (j + 1) 0 - os.getD (j + 1) 0 * 1000 ∧
      us.getD j 0 - os.getD j 0 * 1000 ≤ us.getD (j + 1) 0 - os.getD (j + 2) 0 * 1000 ∧
      us.getD j 0 - os.getD (j + 2) 0 * 1000 ≤ us.getD (j + 1) 0 - os.getD (j + 1) 0 * 1000) →
    wfGo us os = true := by
  intro us os
  fun_induction wfGo us os with
  | case1 u0 u1 us o0 o1 o2 os ih =>
    intro hl h
    have h0 := h 0 (by simp)
    simp only [List.getD_cons_zero, List.getD_cons_succ] at h0
    simp only [Bool.and_eq_true, decide_eq_true_eq]
    refine ⟨⟨⟨⟨h0.1, h0.2.1⟩, h0.2.2.1⟩, h0.2.2.2⟩, ih (by simp only [List.length_cons] at hl ⊢; omega) ?_⟩
    intro j hj
    have := h (j + 1) (by simp only [List.length_cons] at hj ⊢; omega)
    simpa only [List.getD_cons_succ] using this
  | case2 =>
    intros
    rfl
  | case3 =>
    intros
    rfl
  | case4 us os h1 h2 h3 =>
    intro hl _
    exfalso
    -- the lengths fit only the three shapes that `wfGo` accepts
    rcases us with _ | ⟨u0, _ | ⟨u1, us⟩⟩
    · rcases os with _ | ⟨o0, _ | ⟨o1, os⟩⟩
      · simp at hl
      · exact h3 o0 rfl rfl
      · simp at hl
    · rcases os with _ | ⟨o0, _ | ⟨o1, _ | ⟨o2, os⟩⟩⟩
      · simp at hl
      · simp at hl
      · exact h2 u0 o0 o1 rfl rfl
      · simp at hl
    · rcases os with _ | ⟨o0, _ | ⟨o1, _ | ⟨o2, os⟩⟩⟩
      · simp at hl
      · simp at hl
      · simp at hl
      · exact h1 u0 u1 us o0 o1 o2 os rfl rfl

theorem zoneWF_iff (z : Zone) : ZoneWF z ↔ zoneWFb z = true := by
  -- `U z j + E z j` unfolds to `untils[j] + -(offsets[j] * 1000)`, i.e. `untils[j] - offsets[j] * 1000`
  -- by definition: the fields of `ZoneWF` are the conjuncts checked by `wfGo` as they stand
  constructor
  · intro h
    exact wfGo_complete _ _ h.len fun j hj =>
      ⟨h.untils_lt j hj, h.ou_lt j hj, h.end_le_start j hj, h.gap_le_period j hj⟩
  · intro h
    obtain ⟨hl, hj⟩ := wfGo_sound _ _ h
    exact ⟨hl, fun j h => (hj j h).1, fun j h => (hj j h).2.1, fun j h => (hj j h).2.2.1,
      fun j h => (hj j h).2.2.2⟩

theorem untils_sorted {z : Zone} (h : ZoneWF z) : SortedLe z.untils :=
  fun i j hij hj => le_of_step (U z) z.untils.length h.untils_lt i j hij hj

theorem offsetUntils_length {z : Zone} (h : ZoneWF z) : (offsetUntils z).length = z.untils.length := by
  simp only [offsetUntils, List.length_zipWith, h.len]
  omega

theorem offsetUntils_getD {z : Zone} (h : ZoneWF z) (j : Nat) (hj : j < z.untils.length) :
    (offsetUntils z).getD j 0 = U z j + E z j := by
  unfold offsetUntils
  rw [getD_zipWith _ _ _ _ hj (by rw [h.len]; omega)]
  rfl

theorem offsetUntils_sorted {z : Zone} (h : ZoneWF z) : SortedLe (offsetUntils z) := by
  intro i j hij hj
  rw [offsetUntils_length h] at hj
  rw [offsetUntils_getD h i (by omega), offsetUntils_getD h j hj]
  exact le_of_step (fun j => U z j + E z j) z.untils.length h.ou_lt i j hij hj

theorem index_spec {z : Zone} (h : ZoneWF z) (ts : Int) :
    index z ts ≤ z.untils.length ∧
    (∀ j, j < index z ts → U z j ≤ ts) ∧
    (∀ j, index z ts ≤ j → j < z.untils.length → ts < U z j) :=
  bisectRight_spec z.untils ts (untils_sorted h)

/-- It is enough to compare with the two neighbouring transitions. -/
theorem index_eq_of_neighbours {z : Zone} (h : ZoneWF z) (ts : Int) (k : Nat) (hk : k ≤ z.untils.length)
    (h1 : 0 < k → U z (k - 1) ≤ ts) (h2 : k < z.untils.length → ts < U z k) :
    index z ts = k := by
  refine bisectRight_eq ⟨hk, fun j hj => ?_, fun j hkj hj => ?_⟩
  · show U z j ≤ ts
    have := le_of_step (U z) z.untils.length h.untils_lt j (k - 1) (by omega) (by omega)
    have := h1 (by omega)
    omega
  · show ts < U z j
    have := le_of_step (U z) z.untils.length h.untils_lt k j hkj hj
    have := h2 (by omega)
    omega

theorem eastAt_ok {z : Zone} (h : ZoneWF z) (i : Nat) (hi : i ≤ z.untils.length) :
    eastAt z i = .ok (E z i) := by
  unfold eastAt
  rw [getE_ok (by rw [h.len]; omega)]
  rfl

theorem ouIndex_spec {z : Zone} (h : ZoneWF z) (wall : Int) :
    bisectRight (offsetUntils z) wall ≤ z.untils.length ∧
    (∀ j, j < bisectRight (offsetUntils z) wall → U z j + E z j ≤ wall) ∧
    (∀ j, bisectRight (offsetUntils z) wall ≤ j → j < z.untils.length → wall < U z j + E z j) := by
  obtain ⟨a, b, c⟩ := bisectRight_spec (offsetUntils z) wall (offsetUntils_sorted h)
  rw [offsetUntils_length h] at a c
  refine ⟨a, ?_, ?_⟩
  · intro j hj
    rw [← offsetUntils_getD h j (by omega)]
    exact b j hj
  · intro j hj hjn
    rw [← offsetUntils_getD h j hjn]
    exact c j hj hjn

/-- `_index_dt` under `ZoneWF`: no `IndexError`. -/
theorem indexDt_eq {z : Zone} (h : ZoneWF z) (wall : Int) (favor : Option Int) :
    indexDt z wall favor = .ok
      (let i := bisectRight (offsetUntils z) wall
       if i < z.untils.length ∧ wall ≥ U z i + E z (i + 1) ∧ some (E z (i + 1)) = favor
       then i + 1 else i) := by
  obtain ⟨hle, _, _⟩ := ouIndex_spec h wall
  unfold indexDt
  simp only [offsetUntils_length h]
  by_cases hi : bisectRight (offsetUntils z) wall < z.untils.length
  · simp only [hi, if_true, true_and]
    rw [getE_ok hi, getE_ok (by rw [h.len]; omega)]
    simp only [U, E, bind, Except.bind, pure, Except.pure]
    have e : ∀ a b : Int, a - b * 1000 = a + -(b * 1000) := fun _ _ => Int.sub_eq_add_neg
    simp only [e]
    generalize bisectRight (offsetUntils z) wall = i
    by_cases c1 : wall ≥ z.untils.getD i 0 + -(z.offsets.getD (i + 1) 0 * 1000)
    · by_cases c2 : some (-(z.offsets.getD (i + 1) 0 * 1000)) = favor
      · simp only [c1, c2, if_true, and_self]
      · simp only [c1, c2, if_true, if_false, and_false]
    · simp only [c1, if_false, false_and]
  · simp only [hi, if_false, false_and]
    rfl

end Grist.Zone
