/-
Proofs for C37 (sandbox/grist/textbuilder.py).  Defines what the statements of GristProps/C37.lean are
written in (`applyPatches`, `Patch.Fits`, `Ordered`, `shift`, `lastEnd`, `tablesOf`, `Traces`, `OffTraces`);
proves what the Replacer loop does with a copied segment and where the Combiner's search ends.
-/
import GristModel.Textbuilder
import GristProofs.Bisect
namespace Grist.Textbuilder

/-! ## Specification vocabulary -/

/-- Replace `t[start:end]` by `new_text` (positions are natural numbers here). -/
def splice (t : Str) (p : Patch) : Str :=
  t.take p.start.toNat ++ p.newText ++ t.drop p.end_.toNat

/-- "Applying the patches directly": one at a time, the LAST patch of the (ascending) list first,
    so that the positions of the earlier ones are not disturbed. -/
def applyPatches (t : Str) (ps : List Patch) : Str := ps.foldr (fun p acc => splice acc p) t

/-- The patch is a well-formed patch of `t`: in range and `old_text` is what is there. -/
def Patch.Fits (t : Str) (p : Patch) : Prop :=
  0 ≤ p.start ∧ p.start ≤ p.end_ ∧ p.end_ ≤ t.length ∧ slice t p.start p.end_ = p.oldText

def Ordered (ps : List Patch) : Prop := ps.Pairwise (fun p q => p.end_ ≤ q.start)

/-- Total change of length caused by a list of patches. -/
def shift : List Patch → Int
  | [] => 0
  | p :: ps => ((p.newText.length : Int) - (p.end_ - p.start)) + shift ps

/-- End (input coordinate) of the last patch of the list, `a` if there is none. -/
def lastEnd (a : Int) : List Patch → Int
  | [] => a
  | p :: ps => lastEnd p.end_ ps

/-- The tables of a Replacer whose sorted patches all validate. -/
def tablesOf (t : Str) (sorted : List Patch) : Tables :=
  ⟨(rLoop t RState.init sorted).inOffs, (rLoop t RState.init sorted).outOffs,
   (rLoop t RState.init sorted).out ++ sliceFrom t (rLoop t RState.init sorted).inPos⟩

/-- "The corresponding source characters": `Traces b p s v q` — the patch `p` of the text produced by `b` lies, at every Replacer on the
    way down, inside a segment copied from the input, and at every Combiner inside one part; `q` is
    the same patch in the coordinates of the leaf `Text(s, v)` it comes from. -/
inductive Traces : Builder → Patch → Str → Nat → Patch → Prop
  | text (s : Str) (v : Nat) (p : Patch) : Traces (.text s v) p s v p
  | replacer (inner : Builder) (ps : List Patch) (t : Str) (pre post : List Patch) (x y : Int)
      (p : Patch) (s : Str) (v : Nat) (q : Patch) :
      getText inner = .ok t → (∀ r ∈ ps, r.Fits t) → sortPatches ps = pre ++ post →
      Ordered (pre ++ post) →
      lastEnd 0 pre ≤ x → x ≤ y → (∀ r ∈ post, y ≤ r.start) → y ≤ t.length →
      (∀ r ∈ post, r.start = y → r.newText = [] → r.end_ = r.start) →
      p.start = x + shift pre → p.end_ = y + shift pre →
      Traces inner ⟨x, y, p.oldText, p.newText⟩ s v q →
      Traces (.replacer inner ps) p s v q
  | combiner (bpre : List Builder) (b : Builder) (bpost : List Builder) (tpre : List Str) (tb : Str)
      (p : Patch) (s : Str) (v : Nat) (q : Patch) :
      getTexts bpre = .ok tpre → getText b = .ok tb →
      ((joinStrs tpre).length : Int) ≤ p.start → p.end_ ≤ (joinStrs tpre).length + tb.length →
      ((joinStrs tpre).length : Int) < p.end_ → p.start < (joinStrs tpre).length + tb.length →
      Traces b ⟨p.start - (joinStrs tpre).length, p.end_ - (joinStrs tpre).length, p.oldText, p.newText⟩ s v q →
      Traces (.combiner (bpre ++ b :: bpost)) p s v q

/-- `OffTraces b X x`: `b` is a chain of Replacers; at each of them the position lies in a copied
    segment (not at the start of a remaining pure deletion); `X` is the position in `b`'s text, `x`
    the corresponding position in the text of the chain's input (the first non-Replacer). -/
inductive OffTraces : Builder → Int → Int → Prop
  | last (inner : Builder) (ps : List Patch) (t : Str) (pre post : List Patch) (x : Int) :
      (∀ i p, inner ≠ .replacer i p) →
      getText inner = .ok t → (∀ r ∈ ps, r.Fits t) → sortPatches ps = pre ++ post →
      Ordered (pre ++ post) → lastEnd 0 pre ≤ x → (∀ r ∈ post, x ≤ r.start) →
      (∀ r ∈ post, r.start = x → r.newText = [] → r.end_ = r.start) →
      OffTraces (.replacer inner ps) (x + shift pre) x
  | step (i2 : Builder) (p2 ps : List Patch) (t : Str) (pre post : List Patch) (x1 x : Int) :
      getText (.replacer i2 p2) = .ok t → (∀ r ∈ ps, r.Fits t) → sortPatches ps = pre ++ post →
      Ordered (pre ++ post) → lastEnd 0 pre ≤ x1 → (∀ r ∈ post, x1 ≤ r.start) →
      (∀ r ∈ post, r.start = x1 → r.newText = [] → r.end_ = r.start) →
      OffTraces (.replacer i2 p2) x1 x →
      OffTraces (.replacer (.replacer i2 p2) ps) (x1 + shift pre) x

/-- The result is neither an AssertionError (Text's assert) nor an IndexError. -/
def Safe (r : Except Err MapBack) : Prop := r ≠ .error .assertionError ∧ r ≠ .error .indexError

theorem shift_append : ∀ (a b : List Patch), shift (a ++ b) = shift a + shift b := by
  intro a
  induction a with
  | nil =>
    intro b
    simp [shift]
  | cons p ps ih =>
    intro b
    simp only [List.cons_append, shift, ih]
    omega

theorem lastEnd_append_singleton : ∀ (a : List Patch) (d : Patch) (z : Int),
    lastEnd z (a ++ [d]) = d.end_ := by
  intro a
  induction a with
  | nil =>
    intro d z
    rfl
  | cons p ps ih =>
    intro d z
    simp only [List.cons_append, lastEnd]
    exact ih d _

/-! ## Python slices on natural positions -/

theorem pyIdx_nat (n a : Nat) : pyIdx n (a : Int) = min a n := by
  simp only [pyIdx, Int.not_lt.mpr (Int.natCast_nonneg a), if_false, Int.toNat_natCast]

theorem slice_nat (t : Str) (a b : Nat) : slice t a b = (t.take b).drop a := by
  unfold slice
  rw [pyIdx_nat, pyIdx_nat, ← List.take_eq_take_min]
  rcases Nat.le_total a t.length with ha | ha
  · rw [Nat.min_eq_left ha]
  · rw [Nat.min_eq_right ha, List.drop_eq_nil_of_le (List.length_take_le' ..),
      List.drop_eq_nil_of_le (Nat.le_trans (List.length_take_le' ..) ha)]

theorem sliceFrom_nat (t : Str) (a : Nat) : sliceFrom t a = t.drop a := by
  unfold sliceFrom
  rw [pyIdx_nat]
  rcases Nat.le_total a t.length with ha | ha
  · rw [Nat.min_eq_left ha]
  · rw [Nat.min_eq_right ha, List.drop_eq_nil_of_le (Nat.le_refl _), List.drop_eq_nil_of_le ha]

theorem drop_take_glue {α} : ∀ (a b : Nat) (l : List α), a ≤ b → (l.take b).drop a ++ l.drop b = l.drop a
  | 0, _, _, _ => List.take_append_drop ..
  | _ + 1, _ + 1, [], _ => rfl
  | a + 1, b + 1, _ :: xs, h => drop_take_glue a b xs (Nat.le_of_succ_le_succ h)

theorem slice_right (A S : Str) (i j : Nat) :
    slice (A ++ S) ((A.length + i : Nat) : Int) ((A.length + j : Nat) : Int) = slice S i j := by
  rw [slice_nat, slice_nat, List.take_length_add_append, List.drop_length_add_append]

theorem slice_middle (A S R : Str) (i j : Nat) (hj : j ≤ S.length) :
    slice (A ++ S ++ R) ((A.length + i : Nat) : Int) ((A.length + j : Nat) : Int) = slice S i j := by
  rw [List.append_assoc, slice_right, slice_nat, slice_nat, List.take_append_of_le_length hj]

theorem slice_exact (A S R : Str) :
    slice (A ++ S ++ R) (A.length : Nat) ((A ++ S).length : Nat) = S := by
  rw [slice_nat, List.take_left, List.drop_left]

/-! ## Python slices on non-negative integer positions -/

theorem slice_glue (t : Str) (a b c : Int) (h0 : 0 ≤ a) (hab : a ≤ b) (hbc : b ≤ c) :
    slice t a b ++ slice t b c = slice t a c := by
  obtain ⟨a, rfl⟩ := Int.eq_ofNat_of_zero_le h0
  obtain ⟨b, rfl⟩ := Int.eq_ofNat_of_zero_le (Int.le_trans h0 hab)
  obtain ⟨c, rfl⟩ := Int.eq_ofNat_of_zero_le (Int.le_trans (Int.le_trans h0 hab) hbc)
  rw [slice_nat, slice_nat, slice_nat, ← drop_take_glue a b (t.take c) (Int.ofNat_le.mp hab),
    List.take_take, Nat.min_eq_left (Int.ofNat_le.mp hbc)]

theorem slice_glue_from (t : Str) (a b : Int) (h0 : 0 ≤ a) (hab : a ≤ b) :
    slice t a b ++ sliceFrom t b = sliceFrom t a := by
  obtain ⟨a, rfl⟩ := Int.eq_ofNat_of_zero_le h0
  obtain ⟨b, rfl⟩ := Int.eq_ofNat_of_zero_le (Int.le_trans h0 hab)
  rw [slice_nat, sliceFrom_nat, sliceFrom_nat, drop_take_glue a b t (Int.ofNat_le.mp hab)]

theorem slice_length (t : Str) (a b : Int) (h0 : 0 ≤ a) (hab : a ≤ b) (hb : b ≤ t.length) :
    ((slice t a b).length : Int) = b - a := by
  obtain ⟨a, rfl⟩ := Int.eq_ofNat_of_zero_le h0
  obtain ⟨b, rfl⟩ := Int.eq_ofNat_of_zero_le (Int.le_trans h0 hab)
  rw [slice_nat, List.length_drop, List.length_take, Nat.min_eq_left (Int.ofNat_le.mp hb),
    Int.ofNat_sub (Int.ofNat_le.mp hab)]

theorem slice_slice (t : Str) (a b i j : Nat) (h : a + j ≤ b) :
    slice (slice t a b) i j = slice t ((a + i : Nat) : Int) ((a + j : Nat) : Int) := by
  rw [slice_nat, slice_nat, slice_nat]
  rw [List.take_drop, List.take_take, Nat.min_eq_left h, List.drop_drop]

/-- A window `[x, y)` of the stretch `t[a:y]` copied behind `A` sits `d = |A| - a` further. -/
theorem slice_copied (A R t : Str) (a x y d : Int) (h0 : 0 ≤ a) (hax : a ≤ x) (hxy : x ≤ y)
    (hy : y ≤ t.length) (hA : (A.length : Int) = a + d) :
    slice (A ++ slice t a y ++ R) (x + d) (y + d) = slice t x y := by
  obtain ⟨a, rfl⟩ := Int.eq_ofNat_of_zero_le h0
  obtain ⟨x, rfl⟩ := Int.eq_ofNat_of_zero_le (Int.le_trans h0 hax)
  obtain ⟨y, rfl⟩ := Int.eq_ofNat_of_zero_le (Int.le_trans (Int.le_trans h0 hax) hxy)
  have hax := Int.ofNat_le.mp hax
  have hxy := Int.ofNat_le.mp hxy
  have e1 : (x : Int) + d = ((A.length + (x - a) : Nat) : Int) := by omega
  have e2 : (y : Int) + d = ((A.length + (y - a) : Nat) : Int) := by omega
  have hlen : y - a ≤ (slice t a y).length := by
    rw [slice_nat, List.length_drop, List.length_take, Nat.min_eq_left (Int.ofNat_le.mp hy)]
    exact Nat.le_refl _
  rw [e1, e2, slice_middle A _ R _ _ hlen, slice_slice t a y _ _ (by omega),
    Nat.add_sub_cancel' hax, Nat.add_sub_cancel' (Nat.le_trans hax hxy)]

/-! ## bisect_right -/

theorem bisectLoop (a : List Int) (x : Int) : BisectLoop (bisectGo a x) a x :=
  ⟨fun _ _ => rfl, fun _ _ _ => rfl⟩

/-- The list need not be sorted (the code also searches tables of overlapping patches). -/
theorem bisectRight_partition (pre post : List Int) (x : Int)
    (h1 : ∀ y ∈ pre, y ≤ x) (h2 : ∀ y ∈ post, x < y) :
    bisectRight (pre ++ post) x = pre.length :=
  (bisectLoop _ x).eq_partitionPoint (partitionPoint_append h1 h2) _ 0 _ (Nat.zero_le _)
    (by rw [List.length_append]; exact Nat.le_add_right ..) (Nat.le_refl _) (Nat.le_succ _)

theorem bisectRight_le (a : List Int) (x : Int) : bisectRight a x ≤ a.length :=
  (bisectLoop a x).le _ 0 _ (Nat.zero_le _)

theorem sorted_partition (x : Int) : ∀ (a : List Int), a.Pairwise (· ≤ ·) →
    ∃ pre post, a = pre ++ post ∧ (∀ y ∈ pre, y ≤ x) ∧ (∀ y ∈ post, x < y) := by
  intro a
  induction a with
  | nil =>
    intro _
    exact ⟨[], [], rfl, nofun, nofun⟩
  | cons z zs ih =>
    intro hs
    have hs' := List.pairwise_cons.mp hs
    by_cases hz : z ≤ x
    · obtain ⟨pre, post, he, h1, h2⟩ := ih hs'.2
      exact ⟨z :: pre, post, by rw [he]; rfl, List.forall_mem_cons.mpr ⟨hz, h1⟩, h2⟩
    · have hz := Int.not_le.mp hz
      exact ⟨[], z :: zs, rfl, nofun,
        List.forall_mem_cons.mpr ⟨hz, fun y hy => Int.lt_of_lt_of_le hz (hs'.1 y hy)⟩⟩

theorem bisectRight_spec (a : List Int) (hs : a.Pairwise (· ≤ ·)) (x : Int) :
    ∃ pre post, a = pre ++ post ∧ pre.length = bisectRight a x ∧
      (∀ y ∈ pre, y ≤ x) ∧ (∀ y ∈ post, x < y) := by
  obtain ⟨pre, post, he, h1, h2⟩ := sorted_partition x a hs
  exact ⟨pre, post, he, by rw [he, bisectRight_partition pre post x h1 h2], h1, h2⟩

/-! ## The Replacer loop: produced text -/

theorem rStep_inPos (t : Str) (st : RState) (p : Patch) : (rStep t st p).inPos = p.end_ := by
  unfold rStep
  split <;> rfl

theorem rStep_outPos (t : Str) (st : RState) (p : Patch) :
    (rStep t st p).outPos = st.outPos + (p.start - st.inPos) + (p.newText.length : Int) := by
  unfold rStep
  split <;> rfl

theorem rStep_out (t : Str) (st : RState) (p : Patch) :
    (rStep t st p).out = st.out ++ slice t st.inPos p.start ++ p.newText := by
  unfold rStep
  split <;> rfl

/-- The text produced from input position `a` on. -/
def buildFrom (t : Str) : Int → List Patch → Str
  | a, [] => sliceFrom t a
  | a, p :: ps => slice t a p.start ++ p.newText ++ buildFrom t p.end_ ps

theorem rLoop_out (t : Str) : ∀ (ps : List Patch) (st : RState),
    (rLoop t st ps).out ++ sliceFrom t (rLoop t st ps).inPos = st.out ++ buildFrom t st.inPos ps := by
  intro ps
  induction ps with
  | nil =>
    intro st
    rfl
  | cons p ps ih =>
    intro st
    simp only [rLoop, buildFrom]
    rw [ih, rStep_out, rStep_inPos]
    simp only [List.append_assoc]

theorem rLoop_append (t : Str) : ∀ (a b : List Patch) (st : RState),
    rLoop t st (a ++ b) = rLoop t (rLoop t st a) b := by
  intro a
  induction a with
  | nil =>
    intro b st
    rfl
  | cons p ps ih =>
    intro b st
    exact ih b _

theorem rLoop_inPos (t : Str) : ∀ (ps : List Patch) (st : RState),
    (rLoop t st ps).inPos = lastEnd st.inPos ps := by
  intro ps
  induction ps with
  | nil =>
    intro st
    rfl
  | cons p ps ih =>
    intro st
    simp only [rLoop, lastEnd]
    rw [ih, rStep_inPos]

theorem rLoop_shift (t : Str) : ∀ (ps : List Patch) (st : RState),
    (rLoop t st ps).outPos - (rLoop t st ps).inPos = st.outPos - st.inPos + shift ps := by
  intro ps
  induction ps with
  | nil =>
    intro st
    exact (Int.add_zero _).symm
  | cons p ps ih =>
    intro st
    simp only [rLoop, shift]
    rw [ih, rStep_outPos, rStep_inPos]
    omega

theorem rLoop_init_pos (t : Str) (pre : List Patch) :
    (rLoop t RState.init pre).inPos = lastEnd 0 pre ∧
    (rLoop t RState.init pre).outPos = lastEnd 0 pre + shift pre := by
  have h1 : (rLoop t RState.init pre).inPos = lastEnd 0 pre := rLoop_inPos t pre _
  have h2 : (rLoop t RState.init pre).outPos - (rLoop t RState.init pre).inPos = 0 - 0 + shift pre :=
    rLoop_shift t pre _
  exact ⟨h1, by omega⟩

/-- `Ordered` is what provides `st.inPos ≤ p.start` at every iteration. -/
theorem rLoop_invariant (t : Str) (P : RState → Prop) (Q : Patch → Prop)
    (step : ∀ st p, P st → Q p → st.inPos ≤ p.start → P (rStep t st p)) :
    ∀ (ps : List Patch) (st : RState), P st → (∀ p ∈ ps, Q p) → (∀ p ∈ ps, st.inPos ≤ p.start) →
      Ordered ps → P (rLoop t st ps) := by
  intro ps
  induction ps with
  | nil =>
    intro st h _ _ _
    exact h
  | cons p rest ih =>
    intro st hP hQ hlo hord
    have hQ' := List.forall_mem_cons.mp hQ
    have hord' := List.pairwise_cons.mp hord
    exact ih _ (step st p hP hQ'.1 (hlo p List.mem_cons_self)) hQ'.2
      (fun q hq => by rw [rStep_inPos]; exact hord'.1 q hq) hord'.2

theorem buildFrom_skip (t : Str) (a b : Int) (h0 : 0 ≤ a) (hab : a ≤ b) (ps : List Patch)
    (h : ∀ q ∈ ps, b ≤ q.start) : buildFrom t a ps = slice t a b ++ buildFrom t b ps := by
  cases ps with
  | nil => exact (slice_glue_from t a b h0 hab).symm
  | cons q rest =>
    simp only [buildFrom]
    rw [← slice_glue t a b q.start h0 hab (h q List.mem_cons_self)]
    simp only [List.append_assoc]

theorem splice_append (A X B : Str) (p : Patch) (hs : p.start = A.length)
    (he : p.end_ = ((A ++ X).length : Nat)) : splice (A ++ X ++ B) p = A ++ p.newText ++ B := by
  unfold splice
  rw [hs, he, Int.toNat_natCast, Int.toNat_natCast, List.drop_left, List.append_assoc A X, List.take_left]

theorem applyPatches_eq_buildFrom (t : Str) : ∀ (ps : List Patch) (a : Int),
    (∀ p ∈ ps, p.Fits t) → Ordered ps → 0 ≤ a → (∀ p ∈ ps, a ≤ p.start) →
    applyPatches t ps = slice t 0 a ++ buildFrom t a ps := by
  intro ps
  induction ps with
  | nil =>
    intro a _ _ h0 _
    exact (slice_glue_from t 0 a (Int.le_refl _) h0).symm
  | cons p rest ih =>
    intro a hfit hord h0 hlo
    obtain ⟨_, hse, hel, _⟩ := hfit p List.mem_cons_self
    have has := hlo p List.mem_cons_self
    have h0s := Int.le_trans h0 has
    have hord' := List.pairwise_cons.mp hord
    have ih' := ih p.end_ (fun q hq => hfit q (List.mem_cons_of_mem _ hq)) hord'.2
      (Int.le_trans h0s hse) hord'.1
    have hls := slice_length t 0 p.start (Int.le_refl _) h0s (Int.le_trans hse hel)
    have hle := slice_length t p.start p.end_ h0s hse hel
    show splice (applyPatches t rest) p = _
    rw [ih', ← slice_glue t 0 p.start p.end_ (Int.le_refl _) h0s hse,
      splice_append _ _ _ p (by omega) (by rw [List.length_append]; omega),
      ← slice_glue t 0 a p.start (Int.le_refl _) h0 has]
    simp only [buildFrom, List.append_assoc]

/-! ## The Replacer loop: text of a copied segment -/

structure TextInv (st : RState) : Prop where
  len : (st.out.length : Int) = st.outPos
  nonneg : 0 ≤ st.inPos

theorem rStep_textInv (t : Str) (st : RState) (p : Patch) (h : TextInv st)
    (hp : p.start ≤ p.end_ ∧ p.end_ ≤ t.length) (h1 : st.inPos ≤ p.start) : TextInv (rStep t st p) := by
  refine ⟨?_, by rw [rStep_inPos]; exact Int.le_trans (Int.le_trans h.nonneg h1) hp.1⟩
  rw [rStep_out, rStep_outPos, List.length_append, List.length_append, Int.natCast_add,
    Int.natCast_add, h.len, slice_length t _ _ h.nonneg h1 (Int.le_trans hp.1 hp.2)]

/-- `pre`/`post`: the sorted patches before/after the copied segment that `[x, y)` lies in. -/
theorem outText_copied (t : Str) (pre post : List Patch) (x y : Int)
    (hfit : ∀ p ∈ pre ++ post, 0 ≤ p.start ∧ p.start ≤ p.end_ ∧ p.end_ ≤ t.length)
    (hord : Ordered (pre ++ post))
    (hlo : lastEnd 0 pre ≤ x) (hxy : x ≤ y) (hhi : ∀ q ∈ post, y ≤ q.start) (hlen : y ≤ t.length) :
    slice ((rLoop t RState.init (pre ++ post)).out ++
           sliceFrom t (rLoop t RState.init (pre ++ post)).inPos) (x + shift pre) (y + shift pre)
      = slice t x y := by
  rw [rLoop_append, rLoop_out]
  have hinv := rLoop_invariant t TextInv _ (rStep_textInv t) pre RState.init ⟨rfl, Int.le_refl _⟩
    (fun p hp => (hfit p (List.mem_append_left _ hp)).2)
    (fun p hp => (hfit p (List.mem_append_left _ hp)).1) (List.pairwise_append.mp hord).1
  obtain ⟨hin, hout⟩ := rLoop_init_pos t pre
  have hl := hinv.len
  have hn := hinv.nonneg
  rw [hin] at hn ⊢
  rw [hout] at hl
  rw [buildFrom_skip t _ y hn (Int.le_trans hlo hxy) post hhi, ← List.append_assoc]
  exact slice_copied _ _ t _ x y _ hn hlo hxy hlen hl

/-! ## The Replacer loop: offset tables -/

theorem rStep_offs_changing (t : Str) (st : RState) (p : Patch)
    (h : (p.newText.length : Int) ≠ p.end_ - p.start) :
    (rStep t st p).inOffs = st.inOffs ++ [p.end_] ∧
    (rStep t st p).outOffs = st.outOffs ++ [(rStep t st p).outPos] := by
  unfold rStep
  simp only [h, ne_eq, not_false_eq_true, if_true, and_self]

theorem rStep_offs_same (t : Str) (st : RState) (p : Patch)
    (h : (p.newText.length : Int) = p.end_ - p.start) :
    (rStep t st p).inOffs = st.inOffs ∧ (rStep t st p).outOffs = st.outOffs := by
  unfold rStep
  simp only [h, ne_eq, not_true_eq_false, if_false, and_self]

/-- The last pair of offsets is "in phase" with the current positions; no output offset is ahead. -/
structure TableInv (st : RState) : Prop where
  ex : ∃ ib ob bi bo, st.inOffs = ib ++ [bi] ∧ st.outOffs = ob ++ [bo] ∧ ib.length = ob.length ∧
        st.inPos - bi = st.outPos - bo
  le : ∀ y ∈ st.outOffs, y ≤ st.outPos

theorem TableInv_init : TableInv RState.init :=
  ⟨⟨[], [], 0, 0, rfl, rfl, rfl, rfl⟩, fun _ hy => Int.le_of_eq (List.mem_singleton.mp hy)⟩

theorem rStep_tableInv (t : Str) (st : RState) (p : Patch) (hinv : TableInv st)
    (h1 : st.inPos ≤ p.start) : TableInv (rStep t st p) := by
  obtain ⟨⟨ib, ob, bi, bo, hi, ho, hl, hph⟩, hle⟩ := hinv
  have hop := rStep_outPos t st p
  have hip := rStep_inPos t st p
  have hmono : st.outPos ≤ (rStep t st p).outPos := by omega
  by_cases hc : (p.newText.length : Int) = p.end_ - p.start
  · obtain ⟨e1, e2⟩ := rStep_offs_same t st p hc
    refine ⟨⟨ib, ob, bi, bo, e1 ▸ hi, e2 ▸ ho, hl, by omega⟩, ?_⟩
    intro y hy
    exact Int.le_trans (hle y (e2 ▸ hy)) hmono
  · obtain ⟨e1, e2⟩ := rStep_offs_changing t st p hc
    refine ⟨⟨_, _, _, _, e1, e2, by rw [hi, ho, List.length_append, List.length_append, hl]; rfl,
      by omega⟩, ?_⟩
    intro y hy
    rcases List.mem_append.mp (e2 ▸ hy) with h | h
    · exact Int.le_trans (hle y h) hmono
    · exact Int.le_of_eq (List.mem_singleton.mp h)

/-- One iteration (patch `[s, e)`, `n` new characters; `a`, `o` the positions before, `a'`, `o'`
    after) seen from an output position `X` with input coordinate `a + (X - o)`. -/
theorem rStep_arith (a o X s e n a' o' : Int) (hx : a + (X - o) ≤ s) (hn : 0 ≤ n)
    (ho : o' = o + (s - a) + n) (ha : a' = e) :
    a' + (X - o') ≤ e ∧ (a' + (X - o') = e → n = 0 ∧ s = a + (X - o)) ∧
      (X < o' ∨ (n = 0 ∧ s = a + (X - o))) := by
  omega

/-- What the rest of the loop appends to the output offsets is beyond `X`; `xin`, in the comments
    below, is `X` in input coordinates, `st.inPos + (X - st.outPos)`. -/
theorem rLoop_ext (t : Str) (X : Int) : ∀ (post : List Patch) (st : RState),
    Ordered post →
    (∀ q ∈ post, st.inPos + (X - st.outPos) ≤ q.start) →
    (∀ q ∈ post, q.start = st.inPos + (X - st.outPos) → q.newText = [] → q.end_ = q.start) →
    ∃ ei eo, (rLoop t st post).inOffs = st.inOffs ++ ei ∧ (rLoop t st post).outOffs = st.outOffs ++ eo ∧
      ei.length = eo.length ∧ ∀ y ∈ eo, X < y := by
  intro post
  induction post with
  | nil =>
    intro st _ _ _
    exact ⟨[], [], (List.append_nil _).symm, (List.append_nil _).symm, rfl, nofun⟩
  | cons q rest ih =>
    intro st hord hhi hdel
    have hord' := List.pairwise_cons.mp hord
    obtain ⟨k1, k2, k3⟩ := rStep_arith _ _ X _ _ _ _ _ (hhi q List.mem_cons_self)
      (Int.natCast_nonneg _) (rStep_outPos t st q) (rStep_inPos t st q)
    -- a patch that inserts nothing at `xin` is, by `hdel`, a no-op there
    have hnoop : (q.newText.length : Int) = 0 → q.start = st.inPos + (X - st.outPos) → q.end_ = q.start :=
      fun hz hqs => hdel q List.mem_cons_self hqs (List.length_eq_zero_iff.mp (Int.ofNat_eq_zero.mp hz))
    obtain ⟨ei, eo, h1, h2, h3, h4⟩ := ih (rStep t st q)
      hord'.2 (fun r hr => Int.le_trans k1 (hord'.1 r hr))
      (by
        intro r hr hrs hrn
        have heq := Int.le_antisymm k1 (hrs ▸ hord'.1 r hr)
        obtain ⟨hz, hqs⟩ := k2 heq
        exact hdel r (List.mem_cons_of_mem _ hr) (hrs.trans (heq.trans ((hnoop hz hqs).trans hqs))) hrn)
    simp only [rLoop]
    by_cases hc : (q.newText.length : Int) = q.end_ - q.start
    · obtain ⟨e1, e2⟩ := rStep_offs_same t st q hc
      exact ⟨ei, eo, by rw [h1, e1], by rw [h2, e2], h3, h4⟩
    · obtain ⟨e1, e2⟩ := rStep_offs_changing t st q hc
      refine ⟨q.end_ :: ei, (rStep t st q).outPos :: eo, by rw [h1, e1, List.append_assoc]; rfl,
        by rw [h2, e2, List.append_assoc]; rfl, congrArg (· + 1) h3, List.forall_mem_cons.mpr ⟨?_, h4⟩⟩
      -- `q` changes the length, so it is not a no-op at `xin`
      rcases k3 with h | ⟨hz, hqs⟩
      · exact h
      · exact absurd (by rw [hz, hnoop hz hqs, Int.sub_self]) hc

theorem pyGet_mid (l1 : List Int) (v : Int) (l2 : List Int) (n : Nat) (hn : n = l1.length) :
    pyGet (l1 ++ [v] ++ l2) (n : Int) = .ok v := by
  subst hn
  simp only [pyGet, Int.not_lt.mpr (Int.natCast_nonneg _), if_false, Int.toNat_natCast,
    List.append_assoc, List.getElem?_append_right (Nat.le_refl _), Nat.sub_self,
    List.singleton_append, List.getElem?_cons_zero]

theorem getInputPos_of_split (ib ob : List Int) (bi bo : Int) (ei eo : List Int) (txt : Str) (X : Int)
    (hl : ib.length = ob.length) (h1 : ∀ y ∈ ob ++ [bo], y ≤ X) (h2 : ∀ y ∈ eo, X < y) :
    getInputPos ⟨ib ++ [bi] ++ ei, ob ++ [bo] ++ eo, txt⟩ X = .ok (bi + (X - bo)) := by
  unfold getInputPos
  have hidx : ((bisectRight (ob ++ [bo] ++ eo) X : Nat) : Int) - 1 = ((ob.length : Nat) : Int) := by
    rw [bisectRight_partition (ob ++ [bo]) eo X h1 h2, List.length_append, Int.natCast_add]
    exact Int.add_sub_cancel ..
  simp only [hidx]
  rw [pyGet_mid ob bo eo ob.length rfl, pyGet_mid ib bi ei ob.length hl.symm]

/-- The tables do not depend on the text; `hdel` excludes `x` at the start of a remaining deletion. -/
theorem getInputPos_copied (t : Str) (pre post : List Patch) (x : Int) (txt : Str)
    (h0 : ∀ p ∈ pre, 0 ≤ p.start) (hord : Ordered (pre ++ post))
    (hlo : lastEnd 0 pre ≤ x) (hhi : ∀ q ∈ post, x ≤ q.start)
    (hdel : ∀ q ∈ post, q.start = x → q.newText = [] → q.end_ = q.start) :
    getInputPos ⟨(rLoop t RState.init (pre ++ post)).inOffs,
                 (rLoop t RState.init (pre ++ post)).outOffs, txt⟩ (x + shift pre) = .ok x := by
  rw [rLoop_append]
  have hordA := List.pairwise_append.mp hord
  obtain ⟨⟨ib, ob, bi, bo, hi, ho, hl, hph⟩, hle⟩ :=
    rLoop_invariant t TableInv (fun _ => True) (fun st p h _ => rStep_tableInv t st p h) pre RState.init TableInv_init
      (fun _ _ => trivial) h0 hordA.1
  obtain ⟨hin, hout⟩ := rLoop_init_pos t pre
  have hxin : (rLoop t RState.init pre).inPos + (x + shift pre - (rLoop t RState.init pre).outPos) = x := by
    omega
  obtain ⟨ei, eo, e1, e2, e3, e4⟩ := rLoop_ext t (x + shift pre) post (rLoop t RState.init pre) hordA.2.1
    (by rw [hxin]; exact hhi) (by rw [hxin]; exact hdel)
  rw [e1, e2, hi, ho, getInputPos_of_split ib ob bi bo ei eo txt (x + shift pre) hl
    (fun y hy => Int.le_trans (hle y (ho ▸ hy)) (by omega)) e4]
  exact congrArg _ (by omega)

/-! ## Replacer: construction and map-back step -/

theorem mem_sortPatches (ps : List Patch) (p : Patch) : p ∈ sortPatches ps ↔ p ∈ ps :=
  (List.mergeSort_perm ps Patch.le).mem_iff

theorem validPatch_iff (t : Str) (p : Patch) : validPatch t p = true ↔ slice t p.start p.end_ = p.oldText := by
  unfold validPatch
  simp

theorem replacerBuild_ok (t : Str) (ps : List Patch)
    (h : ∀ p ∈ ps, slice t p.start p.end_ = p.oldText) :
    replacerBuild t ps = .ok (tablesOf t (sortPatches ps)) := by
  unfold replacerBuild
  have : (sortPatches ps).all (validPatch t) = true := by
    rw [List.all_eq_true]
    intro p hp
    exact (validPatch_iff t p).mpr (h p ((mem_sortPatches ps p).mp hp))
  simp only [this, if_true]
  rfl

theorem replacerBuild_error (t : Str) (ps : List Patch) (p : Patch) (hp : p ∈ ps)
    (h : slice t p.start p.end_ ≠ p.oldText) : replacerBuild t ps = .error .valueError := by
  unfold replacerBuild
  have : ¬ ((sortPatches ps).all (validPatch t) = true) := by
    rw [List.all_eq_true]
    intro hall
    exact h ((validPatch_iff t p).mp (hall p ((mem_sortPatches ps p).mpr hp)))
  simp [this]

theorem replacerBuild_inv (t : Str) (ps : List Patch) (tb : Tables) (h : replacerBuild t ps = .ok tb) :
    tb = tablesOf t (sortPatches ps) ∧ ∀ p ∈ ps, slice t p.start p.end_ = p.oldText := by
  unfold replacerBuild at h
  by_cases hall : (sortPatches ps).all (validPatch t) = true
  · simp only [hall, if_true] at h
    refine ⟨by cases h; rfl, ?_⟩
    intro p hp
    rw [List.all_eq_true] at hall
    exact (validPatch_iff t p).mp (hall p ((mem_sortPatches ps p).mpr hp))
  · simp [hall] at h

theorem tablesOf_text (t : Str) (sorted : List Patch)
    (hfit : ∀ p ∈ sorted, p.Fits t) (hord : Ordered sorted) :
    (tablesOf t sorted).outText = applyPatches t sorted := by
  rw [applyPatches_eq_buildFrom t sorted 0 hfit hord (Int.le_refl _) (fun p hp => (hfit p hp).1)]
  exact rLoop_out t sorted RState.init

theorem replacerInPatch_copied (t : Str) (pre post : List Patch) (x y : Int) (p : Patch)
    (hfit : ∀ r ∈ pre ++ post, r.Fits t) (hord : Ordered (pre ++ post))
    (hlo : lastEnd 0 pre ≤ x) (hxy : x ≤ y) (hhi : ∀ q ∈ post, y ≤ q.start) (hlen : y ≤ t.length)
    (hdel : ∀ q ∈ post, q.start = y → q.newText = [] → q.end_ = q.start)
    (hs : p.start = x + shift pre) (he : p.end_ = y + shift pre)
    (hold : slice (tablesOf t (pre ++ post)).outText p.start p.end_ = p.oldText) :
    replacerInPatch t (tablesOf t (pre ++ post)) p = .ok ⟨x, y, p.oldText, p.newText⟩ ∧
    slice t x y = p.oldText := by
  have hfit' : ∀ r ∈ pre ++ post, 0 ≤ r.start ∧ r.start ≤ r.end_ ∧ r.end_ ≤ t.length :=
    fun r hr => ⟨(hfit r hr).1, (hfit r hr).2.1, (hfit r hr).2.2.1⟩
  have htxt := outText_copied t pre post x y hfit' hord hlo hxy hhi hlen
  have h0 : ∀ r ∈ pre, 0 ≤ r.start := fun r hr => (hfit r (List.mem_append_left _ hr)).1
  have hx := getInputPos_copied t pre post x (tablesOf t (pre ++ post)).outText h0 hord hlo
    (fun q hq => Int.le_trans hxy (hhi q hq))
    (fun q hq hqx hn => hdel q hq (Int.le_antisymm (hqx.symm ▸ hxy) (hhi q hq)) hn)
  have hy := getInputPos_copied t pre post y (tablesOf t (pre ++ post)).outText h0 hord
    (Int.le_trans hlo hxy) hhi hdel
  have hsl : slice t x y = p.oldText := by
    rw [← htxt, ← hs, ← he]
    exact hold
  refine ⟨?_, hsl⟩
  unfold replacerInPatch
  have hv : validPatch (tablesOf t (pre ++ post)).outText p = true := (validPatch_iff _ _).mpr hold
  simp only [hv, Bool.not_true, Bool.false_eq_true, if_false]
  have e1 : getInputPos (tablesOf t (pre ++ post)) p.start = .ok x := by
    rw [hs]
    exact hx
  have e2 : getInputPos (tablesOf t (pre ++ post)) p.end_ = .ok y := by
    rw [he]
    exact hy
  rw [e1, e2]
  simp only [hsl]

theorem replacerInPatch_facts (t : Str) (tb : Tables) (p q : Patch)
    (h : replacerInPatch t tb p = .ok q) :
    slice t q.start q.end_ = q.oldText ∧ q.newText = p.newText ∧
    slice tb.outText p.start p.end_ = p.oldText := by
  unfold replacerInPatch at h
  by_cases hv : validPatch tb.outText p = true
  · simp only [hv, Bool.not_true, Bool.false_eq_true, if_false] at h
    split at h
    · cases h
    · split at h
      · cases h
      · cases h
        exact ⟨rfl, rfl, (validPatch_iff _ _).mp hv⟩
  · simp [hv] at h

/-! ## Tables never make `get_input_pos` fail -/

theorem rLoop_offs_len (t : Str) : ∀ (ps : List Patch) (st : RState),
    st.inOffs.length = st.outOffs.length → 0 < st.outOffs.length →
    (rLoop t st ps).inOffs.length = (rLoop t st ps).outOffs.length ∧ 0 < (rLoop t st ps).outOffs.length := by
  intro ps
  induction ps with
  | nil =>
    intro st h1 h2
    exact ⟨h1, h2⟩
  | cons p rest ih =>
    intro st h1 h2
    simp only [rLoop]
    by_cases hc : (p.newText.length : Int) = p.end_ - p.start
    · obtain ⟨e1, e2⟩ := rStep_offs_same t st p hc
      exact ih _ (by rw [e1, e2]; exact h1) (by rw [e2]; exact h2)
    · obtain ⟨e1, e2⟩ := rStep_offs_changing t st p hc
      exact ih _ (by rw [e1, e2]; simp [h1]) (by rw [e2]; simp)

theorem pyGet_ok (l : List Int) (i : Int) (h1 : -1 ≤ i) (h2 : i < l.length) (h3 : 0 < l.length) :
    ∃ v, pyGet l i = .ok v := by
  unfold pyGet
  by_cases hi : i < 0
  · have : i = -1 := by omega
    subst this
    simp only [hi, if_true]
    have hj : ¬ ((-1 : Int) + l.length < 0) := by omega
    simp only [hj, if_false]
    have : ((-1 : Int) + l.length).toNat < l.length := by omega
    rw [List.getElem?_eq_getElem this]
    exact ⟨_, rfl⟩
  · simp only [hi, if_false]
    have : i.toNat < l.length := by omega
    rw [List.getElem?_eq_getElem this]
    exact ⟨_, rfl⟩

theorem getInputPos_ok (tb : Tables) (X : Int) (h1 : tb.inOffs.length = tb.outOffs.length)
    (h2 : 0 < tb.outOffs.length) : ∃ v, getInputPos tb X = .ok v := by
  unfold getInputPos
  have hb := bisectRight_le tb.outOffs X
  obtain ⟨o, ho⟩ := pyGet_ok tb.outOffs ((bisectRight tb.outOffs X : Int) - 1) (by omega) (by omega) h2
  obtain ⟨i, hi⟩ := pyGet_ok tb.inOffs ((bisectRight tb.outOffs X : Int) - 1) (by omega) (by omega) (by omega)
  simp only [ho, hi]
  exact ⟨_, rfl⟩

theorem replacerInPatch_errors (t : Str) (sorted : List Patch) (p : Patch) (e : Err)
    (h : replacerInPatch t (tablesOf t sorted) p = .error e) : e = .valueError := by
  have hl := rLoop_offs_len t sorted RState.init rfl (by simp [RState.init])
  obtain ⟨v1, hv1⟩ := getInputPos_ok (tablesOf t sorted) p.start hl.1 hl.2
  obtain ⟨v2, hv2⟩ := getInputPos_ok (tablesOf t sorted) p.end_ hl.1 hl.2
  unfold replacerInPatch at h
  rw [hv1, hv2] at h
  split at h
  · cases h
    rfl
  · cases h

/-! ## Combiner -/

theorem joinStrs_append (a b : List Str) : joinStrs (a ++ b) = joinStrs a ++ joinStrs b :=
  List.flatten_append

theorem joinStrs_cons (a : Str) (b : List Str) : joinStrs (a :: b) = a ++ joinStrs b :=
  List.flatten_cons

theorem joinStrs_mid (tpre : List Str) (part : Str) (tpost : List Str) :
    joinStrs (tpre ++ [part] ++ tpost) = joinStrs tpre ++ part ++ joinStrs tpost := by
  rw [joinStrs_append, joinStrs_append, joinStrs_cons]
  exact congrArg (joinStrs tpre ++ · ++ joinStrs tpost) (List.append_nil part)

theorem combOffsets_append : ∀ (a b : List Str) (o : Int),
    combOffsets o (a ++ b) = combOffsets o a ++ combOffsets (o + (joinStrs a).length) b := by
  intro a
  induction a with
  | nil =>
    intro b o
    exact congrArg (combOffsets · b) (Int.add_zero o).symm
  | cons x xs ih =>
    intro b o
    simp only [List.cons_append, combOffsets, ih, joinStrs_cons, List.length_append, Int.natCast_add,
      Int.add_assoc]

theorem combOffsets_length : ∀ (l : List Str) (o : Int), (combOffsets o l).length = l.length := by
  intro l
  induction l with
  | nil =>
    intro o
    rfl
  | cons x xs ih =>
    intro o
    exact congrArg (· + 1) (ih _)

theorem combOffsets_bounds : ∀ (l : List Str) (o : Int), ∀ y ∈ combOffsets o l,
    o ≤ y ∧ y ≤ o + (joinStrs l).length := by
  intro l
  induction l with
  | nil =>
    intro o y hy
    cases hy
  | cons x xs ih =>
    intro o y hy
    rw [joinStrs_cons, List.length_append]
    rcases List.mem_cons.mp hy with rfl | hin
    · omega
    · have := ih _ y hin
      omega

theorem combOffsets_sorted : ∀ (l : List Str) (o : Int), (combOffsets o l).Pairwise (· ≤ ·) := by
  intro l
  induction l with
  | nil =>
    intro o
    exact List.Pairwise.nil
  | cons x xs ih =>
    intro o
    refine List.pairwise_cons.mpr ⟨fun y hy => ?_, ih _⟩
    exact Int.le_trans (Int.le_add_of_nonneg_right (Int.natCast_nonneg _)) (combOffsets_bounds xs _ y hy).1

theorem combOffsets_split (tpre : List Str) (part : Str) (tpost : List Str) :
    combOffsets 0 (tpre ++ [part] ++ tpost) =
      combOffsets 0 tpre ++ [((joinStrs tpre).length : Int)] ++
        combOffsets ((joinStrs tpre).length + part.length) tpost := by
  rw [combOffsets_append, combOffsets_append]
  simp only [combOffsets, joinStrs, List.length_flatten, Int.zero_add, List.flatten_append, List.flatten_cons,
    List.flatten_nil, List.append_nil, List.length_append, Int.natCast_add, List.append_assoc, List.cons_append,
    List.nil_append]

theorem natCast_succ_sub_one (n : Nat) : ((n + 1 : Nat) : Int) - 1 = n := by omega

theorem bisect_combOffsets (tpre : List Str) (part : Str) (tpost : List Str) (X : Int) :
    bisectRight (combOffsets 0 (tpre ++ [part] ++ tpost)) X = tpre.length + 1 ↔
      ((joinStrs tpre).length : Int) ≤ X ∧ (tpost ≠ [] → X < (joinStrs tpre).length + part.length) := by
  constructor
  · intro hk
    obtain ⟨pre, post, hsplit, hl, hle, hgt⟩ := bisectRight_spec _ (combOffsets_sorted _ 0) X
    rw [combOffsets_split] at hsplit
    obtain ⟨hpre, hpost⟩ := List.append_inj hsplit
      (by rw [List.length_append, combOffsets_length, hl, hk]; rfl)
    refine ⟨hle _ (hpre ▸ List.mem_append_right _ (List.mem_singleton_self _)), fun hne => hgt _ ?_⟩
    cases tpost with
    | nil => exact absurd rfl hne
    | cons z zs => exact hpost ▸ List.mem_cons_self
  · intro ⟨h1, h2⟩
    rw [combOffsets_split, bisectRight_partition _ _ X, List.length_append, combOffsets_length]
    · rfl
    · intro y hy
      rcases List.mem_append.mp hy with h | h
      · exact Int.le_trans (combOffsets_bounds tpre 0 y h).2 (by rw [Int.zero_add]; exact h1)
      · rw [List.mem_singleton.mp h]
        exact h1
    · intro y hy
      cases tpost with
      | nil => cases hy
      | cons z zs => exact Int.lt_of_lt_of_le (h2 (List.cons_ne_nil _ _)) (combOffsets_bounds _ _ y hy).1

theorem combLocate_inside (tpre : List Str) (part : Str) (tpost : List Str) (p : Patch)
    (h1 : ((joinStrs tpre).length : Int) ≤ p.start)
    (h2 : p.end_ ≤ (joinStrs tpre).length + part.length)
    (h3 : ((joinStrs tpre).length : Int) < p.end_)
    (h4 : p.start < (joinStrs tpre).length + part.length)
    (hold : slice (joinStrs (tpre ++ [part] ++ tpost)) p.start p.end_ = p.oldText) :
    combLocate (tpre ++ [part] ++ tpost) p =
      .ok (tpre.length, ⟨p.start - (joinStrs tpre).length, p.end_ - (joinStrs tpre).length,
                         p.oldText, p.newText⟩) := by
  unfold combLocate
  have hv : validPatch (joinStrs (tpre ++ [part] ++ tpost)) p = true := (validPatch_iff _ _).mpr hold
  simp only [hv, Bool.not_true, Bool.false_eq_true, if_false]
  rw [(bisect_combOffsets tpre part tpost _).mpr ⟨h1, fun _ => h4⟩,
    (bisect_combOffsets tpre part tpost _).mpr ⟨Int.le_sub_one_of_lt h3, fun _ => Int.sub_one_lt_of_le h2⟩,
    combOffsets_split]
  simp only [Nat.succ_ne_zero, ne_eq, not_true_eq_false, or_self, if_false, natCast_succ_sub_one,
    pyGet_mid _ _ _ tpre.length (combOffsets_length tpre 0).symm, Nat.add_sub_cancel]

/-- For the last part (`K = []`) the range may reach beyond the text. -/
theorem slice_inside_part (J part K : Str) (s e : Int)
    (h1 : (J.length : Int) ≤ s) (h3 : (J.length : Int) ≤ e) (h2 : e ≤ J.length + part.length ∨ K = []) :
    slice part (s - J.length) (e - J.length) = slice (J ++ part ++ K) s e := by
  obtain ⟨s', hs⟩ := Int.eq_ofNat_of_zero_le (Int.sub_nonneg_of_le h1)
  obtain ⟨e', he⟩ := Int.eq_ofNat_of_zero_le (Int.sub_nonneg_of_le h3)
  obtain rfl : s = ((J.length + s' : Nat) : Int) := by omega
  obtain rfl : e = ((J.length + e' : Nat) : Int) := by omega
  rw [hs, he]
  rcases h2 with h2 | rfl
  · exact (slice_middle J part K s' e' (by omega)).symm
  · rw [List.append_nil]
    exact (slice_right J part s' e').symm

theorem slice_part_of_joined (tpre : List Str) (part : Str) (tpost : List Str) (p : Patch)
    (h1 : ((joinStrs tpre).length : Int) ≤ p.start)
    (h2 : p.end_ ≤ (joinStrs tpre).length + part.length) (h3 : ((joinStrs tpre).length : Int) < p.end_)
    (hold : slice (joinStrs (tpre ++ [part] ++ tpost)) p.start p.end_ = p.oldText) :
    slice part (p.start - (joinStrs tpre).length) (p.end_ - (joinStrs tpre).length) = p.oldText := by
  rw [slice_inside_part (joinStrs tpre) part (joinStrs tpost) _ _ h1 (Int.le_of_lt h3) (Or.inl h2),
    ← joinStrs_mid, hold]

theorem exists_split_at {α} (l : List α) (k : Nat) (hk : k < l.length) :
    ∃ a x b, l = a ++ [x] ++ b ∧ a.length = k :=
  ⟨l.take k, l[k], l.drop (k + 1),
    by rw [List.append_assoc, List.singleton_append, ← List.drop_eq_getElem_cons hk, List.take_append_drop],
    List.length_take_of_le (Nat.le_of_lt hk)⟩

theorem combLocate_sound (texts : List Str) (p : Patch) (i : Nat) (q : Patch)
    (h : combLocate texts p = .ok (i, q)) :
    ∃ tpre part tpost, texts = tpre ++ [part] ++ tpost ∧ i = tpre.length ∧
      q = ⟨p.start - (joinStrs tpre).length, p.end_ - (joinStrs tpre).length, p.oldText, p.newText⟩ ∧
      slice part q.start q.end_ = q.oldText ∧
      slice (joinStrs texts) p.start p.end_ = p.oldText := by
  unfold combLocate at h
  have hv : validPatch (joinStrs texts) p = true := by
    cases hv : validPatch (joinStrs texts) p with
    | true => rfl
    | false => simp [hv] at h
  simp only [hv, Bool.not_true, Bool.false_eq_true, if_false] at h
  have hold := (validPatch_iff _ _).mp hv
  have hklen := bisectRight_le (combOffsets 0 texts) p.start
  rw [combOffsets_length] at hklen
  generalize hk : bisectRight (combOffsets 0 texts) p.start = k at h hklen
  generalize hk2 : bisectRight (combOffsets 0 texts) (p.end_ - 1) = k2 at h
  split at h
  · cases h
  rename_i hc
  obtain ⟨k, rfl⟩ : ∃ k', k = k' + 1 := ⟨k - 1, by omega⟩
  obtain rfl : k2 = k + 1 := by omega
  obtain ⟨tpre, part, tpost, rfl, htl⟩ := exists_split_at texts k hklen
  subst htl
  obtain ⟨a1, _⟩ := (bisect_combOffsets tpre part tpost _).mp hk
  obtain ⟨a2, b2⟩ := (bisect_combOffsets tpre part tpost _).mp hk2
  rw [combOffsets_split, natCast_succ_sub_one,
    pyGet_mid _ _ _ tpre.length (combOffsets_length tpre 0).symm] at h
  obtain ⟨rfl, rfl⟩ := Prod.mk.inj (Except.ok.inj h)
  refine ⟨tpre, part, tpost, rfl, rfl, rfl, ?_, hold⟩
  rw [← hold, joinStrs_mid]
  refine slice_inside_part _ part _ _ _ a1 (by omega) ?_
  cases tpost with
  | nil => exact Or.inr rfl
  | cons z zs => exact Or.inl (by have := b2 (List.cons_ne_nil _ _); omega)

theorem combLocate_spanning (tpre tpost : List Str) (p : Patch) (hne : tpost ≠ [])
    (h1 : p.start < (joinStrs tpre).length) (h2 : ((joinStrs tpre).length : Int) ≤ p.end_ - 1) :
    combLocate (tpre ++ tpost) p = .error .valueError := by
  unfold combLocate
  split
  · rfl
  dsimp only
  split
  · rfl
  -- if both searches ended at the same place, the offsets would split into those `≤ start` and
  -- those `> end - 1`; the offset of the first part of `tpost` is neither
  rename_i hc
  exfalso
  have heq := Decidable.of_not_not fun h => hc (Or.inr (Or.inr h))
  have hsorted := combOffsets_sorted (tpre ++ tpost) 0
  obtain ⟨pre1, post1, hsplit1, hl1, hle1, _⟩ := bisectRight_spec _ hsorted p.start
  obtain ⟨pre2, post2, hsplit2, hl2, _, hgt2⟩ := bisectRight_spec _ hsorted (p.end_ - 1)
  obtain ⟨rfl, rfl⟩ := List.append_inj (hsplit1.symm.trans hsplit2) (by rw [hl1, hl2, heq])
  have hmem : ((joinStrs tpre).length : Int) ∈ pre1 ++ post1 := by
    rw [← hsplit1, combOffsets_append, Int.zero_add]
    cases tpost with
    | nil => exact absurd rfl hne
    | cons z zs => exact List.mem_append_right _ List.mem_cons_self
  rcases List.mem_append.mp hmem with h | h
  · exact absurd (hle1 _ h) (Int.not_le.mpr h1)
  · exact absurd h2 (Int.not_le.mpr (hgt2 _ h))

theorem combLocate_errors (texts : List Str) (p : Patch) (e : Err)
    (h : combLocate texts p = .error e) : e = .valueError := by
  unfold combLocate at h
  cases hv : validPatch (joinStrs texts) p with
  | false =>
    simp only [hv, Bool.not_false, if_true, Except.error.injEq] at h
    exact h.symm
  | true =>
    simp only [hv, Bool.not_true, Bool.false_eq_true, if_false] at h
    by_cases hc : bisectRight (combOffsets 0 texts) p.start = 0 ∨
        bisectRight (combOffsets 0 texts) (p.end_ - 1) = 0 ∨
        bisectRight (combOffsets 0 texts) p.start ≠ bisectRight (combOffsets 0 texts) (p.end_ - 1)
    · simp only [hc, if_true] at h
      cases h
      rfl
    · simp only [hc, if_false] at h
      have hb := bisectRight_le (combOffsets 0 texts) p.start
      obtain ⟨v, hv⟩ := pyGet_ok (combOffsets 0 texts)
        ((bisectRight (combOffsets 0 texts) p.start : Int) - 1) (by omega) (by omega) (by omega)
      rw [hv] at h
      cases h

/-! ## Builder trees -/

theorem getText_replacer (inner : Builder) (ps : List Patch) (hnr : ∀ s b, inner = .raw s b → False) :
    getText (.replacer inner ps) =
      match getText inner with
      | .error e => .error e
      | .ok t =>
        match replacerBuild t ps with
        | .error e => .error e
        | .ok tb => .ok tb.outText := by
  rw [getText]
  · rfl
  · exact hnr

theorem getText_replacer_ok (inner : Builder) (ps : List Patch) (T : Str)
    (h : getText (.replacer inner ps) = .ok T) :
    ∃ t tb, getText inner = .ok t ∧ replacerBuild t ps = .ok tb ∧ T = tb.outText := by
  have hnr : ∀ s b, inner = .raw s b → False := by
    intro s b e
    subst e
    cases h
  rw [getText_replacer inner ps hnr] at h
  split at h
  · cases h
  · rename_i t ht
    split at h
    · cases h
    · rename_i tb hb
      exact ⟨t, tb, ht, hb, (Except.ok.inj h).symm⟩

theorem getText_combiner_ok (parts : List Builder) (T : Str) (h : getText (.combiner parts) = .ok T) :
    ∃ ts, getTexts parts = .ok ts ∧ T = joinStrs ts := by
  rw [getText] at h
  split at h
  · cases h
  · rename_i ts hts
    cases h
    exact ⟨ts, hts, rfl⟩

theorem getTexts_cons_ok (b : Builder) (bs : List Builder) (ts : List Str)
    (h : getTexts (b :: bs) = .ok ts) :
    ∃ t ts', getText b = .ok t ∧ getTexts bs = .ok ts' ∧ ts = t :: ts' := by
  rw [getTexts] at h
  split at h
  · cases h
  · rename_i t ht
    split at h
    · cases h
    · rename_i ts' hts
      cases h
      exact ⟨t, ts', ht, hts, rfl⟩

theorem getTexts_append_ok : ∀ (a b : List Builder) (ts : List Str), getTexts (a ++ b) = .ok ts →
    ∃ ta tb, getTexts a = .ok ta ∧ getTexts b = .ok tb ∧ ts = ta ++ tb := by
  intro a
  induction a with
  | nil =>
    intro b ts h
    exact ⟨[], ts, rfl, h, rfl⟩
  | cons x xs ih =>
    intro b ts h
    obtain ⟨t, ts', ht, hts, rfl⟩ := getTexts_cons_ok x (xs ++ b) ts h
    obtain ⟨ta, tb, h1, h2, rfl⟩ := ih b ts' hts
    exact ⟨t :: ta, tb, by rw [getTexts, ht, h1], h2, rfl⟩

theorem getTexts_append_of_ok : ∀ (a b : List Builder) (ta tb : List Str),
    getTexts a = .ok ta → getTexts b = .ok tb → getTexts (a ++ b) = .ok (ta ++ tb) := by
  intro a
  induction a with
  | nil =>
    intro b ta tb h1 h2
    cases h1
    exact h2
  | cons x xs ih =>
    intro b ta tb h1 h2
    obtain ⟨t, ts', ht, hts', rfl⟩ := getTexts_cons_ok x xs ta h1
    rw [List.cons_append, getTexts, ht, ih b ts' tb hts' h2]
    rfl

theorem getTexts_length : ∀ (bs : List Builder) (ts : List Str), getTexts bs = .ok ts →
    ts.length = bs.length
  | [], _, h => by
    cases h
    rfl
  | b :: bs, ts, h => by
    obtain ⟨t, ts', _, hts, rfl⟩ := getTexts_cons_ok b bs ts h
    exact congrArg (· + 1) (getTexts_length bs ts' hts)

theorem getTexts_mid (bpre : List Builder) (b : Builder) (bpost : List Builder)
    (tpre : List Str) (tb : Str) (tpost : List Str)
    (h1 : getTexts bpre = .ok tpre) (h2 : getText b = .ok tb) (h3 : getTexts bpost = .ok tpost) :
    getTexts (bpre ++ b :: bpost) = .ok (tpre ++ [tb] ++ tpost) := by
  rw [List.append_assoc]
  exact getTexts_append_of_ok bpre (b :: bpost) tpre (tb :: tpost) h1 (by rw [getTexts, h2, h3])

theorem mapBackNth_append (bpre : List Builder) (b : Builder) (bpost : List Builder) (q : Patch) :
    mapBackNth (bpre ++ b :: bpost) bpre.length q = mapBack b q := by
  induction bpre with
  | nil => simp [mapBackNth]
  | cons x xs ih =>
    simp only [List.cons_append, List.length_cons, mapBackNth]
    exact ih

theorem mapBack_replacer_eq (inner : Builder) (ps : List Patch) (p : Patch) (t : Str) (tb : Tables)
    (q : Patch) (h1 : getText inner = .ok t) (h2 : replacerBuild t ps = .ok tb)
    (h3 : replacerInPatch t tb p = .ok q) :
    mapBack (.replacer inner ps) p = mapBack inner q := by
  rw [mapBack]
  simp only [h1, h2, h3]

theorem mapBack_combiner_eq (parts : List Builder) (p : Patch) (ts : List Str) (i : Nat) (q : Patch)
    (h1 : getTexts parts = .ok ts) (h2 : combLocate ts p = .ok (i, q)) :
    mapBack (.combiner parts) p = mapBackNth parts i q := by
  rw [mapBack]
  simp only [h1, h2]

theorem combiner_mapBack_inside (bpre : List Builder) (b : Builder) (bpost : List Builder)
    (tpre : List Str) (tb : Str) (tpost : List Str) (p : Patch)
    (h1 : getTexts bpre = .ok tpre) (h2 : getText b = .ok tb) (h3 : getTexts bpost = .ok tpost)
    (r1 : ((joinStrs tpre).length : Int) ≤ p.start) (r2 : p.end_ ≤ (joinStrs tpre).length + tb.length)
    (r3 : ((joinStrs tpre).length : Int) < p.end_) (r4 : p.start < (joinStrs tpre).length + tb.length)
    (hold : slice (joinStrs tpre ++ tb ++ joinStrs tpost) p.start p.end_ = p.oldText) :
    mapBack (.combiner (bpre ++ b :: bpost)) p =
      mapBack b ⟨p.start - (joinStrs tpre).length, p.end_ - (joinStrs tpre).length, p.oldText, p.newText⟩ := by
  rw [mapBack_combiner_eq _ p _ _ _ (getTexts_mid bpre b bpost tpre tb tpost h1 h2 h3)
      (combLocate_inside tpre tb tpost p r1 r2 r3 r4 (joinStrs_mid tpre tb tpost ▸ hold)),
    getTexts_length bpre tpre h1, mapBackNth_append]

theorem mapBack_traces {b : Builder} {p : Patch} {s : Str} {v : Nat} {q : Patch}
    (h : Traces b p s v q) : ∀ (T : Str), getText b = .ok T → slice T p.start p.end_ = p.oldText →
    mapBack b p = .ok (some (s, v, q)) ∧ q.oldText = p.oldText ∧ q.newText = p.newText ∧
    q.end_ - q.start = p.end_ - p.start ∧ slice s q.start q.end_ = p.oldText := by
  induction h with
  | text s v p =>
    intro T hT hold
    simp only [getText, Except.ok.injEq] at hT
    subst hT
    refine ⟨?_, rfl, rfl, rfl, hold⟩
    rw [mapBack]
    simp [hold]
  | replacer inner ps t pre post x y p s v q ht hfit hsort hord hlo hxy hhi hlen hdel hs he _ ih =>
    intro T hT hold
    obtain ⟨t', tb, ht', hb, rfl⟩ := getText_replacer_ok inner ps T hT
    rw [ht] at ht'
    cases ht'
    have hb' := replacerBuild_ok t ps (fun r hr => (hfit r hr).2.2.2)
    rw [hb] at hb'
    cases hb'
    rw [hsort] at hold
    have hfit' : ∀ r ∈ pre ++ post, r.Fits t := by
      intro r hr
      rw [← hsort] at hr
      exact hfit r ((mem_sortPatches ps r).mp hr)
    obtain ⟨hin, hsl⟩ := replacerInPatch_copied t pre post x y p hfit' hord hlo hxy hhi hlen hdel hs he hold
    rw [← hsort] at hin
    obtain ⟨g1, g2, g3, g4, g5⟩ := ih t ht hsl
    rw [mapBack_replacer_eq inner ps p t _ _ ht hb hin]
    exact ⟨g1, g2, g3, g4.trans (by rw [hs, he]; exact (Int.add_sub_add_right ..).symm), g5⟩
  | combiner bpre b bpost tpre tb p s v q hpre hb h1 h2 h3 h4 _ ih =>
    intro T hT hold
    obtain ⟨ts, hts, rfl⟩ := getText_combiner_ok _ T hT
    obtain ⟨ta, tr, ha, hr, rfl⟩ := getTexts_append_ok bpre (b :: bpost) ts hts
    obtain ⟨tb', tpost, hb', hpost, rfl⟩ := getTexts_cons_ok b bpost tr hr
    obtain rfl : ta = tpre := Except.ok.inj (ha.symm.trans hpre)
    obtain rfl : tb' = tb := Except.ok.inj (hb'.symm.trans hb)
    rw [List.append_cons] at hold
    obtain ⟨g1, g2, g3, g4, g5⟩ := ih tb' hb (slice_part_of_joined ta tb' tpost p h1 h2 h3 hold)
    rw [combiner_mapBack_inside bpre b bpost ta tb' tpost p hpre hb hpost h1 h2 h3 h4
      (joinStrs_mid ta tb' tpost ▸ hold)]
    exact ⟨g1, g2, g3, g4.trans (Int.add_sub_add_right p.end_ (-_) p.start), g5⟩

theorem combLocate_newText (ts : List Str) (p : Patch) (i : Nat) (q : Patch)
    (h : combLocate ts p = .ok (i, q)) : q.newText = p.newText := by
  obtain ⟨_, _, _, _, _, hq, _, _⟩ := combLocate_sound ts p i q h
  rw [hq]

mutual

theorem mapBack_sound : ∀ (b : Builder) (p : Patch) (s : Str) (v : Nat) (q : Patch),
    mapBack b p = .ok (some (s, v, q)) →
    Leaf b s v ∧ slice s q.start q.end_ = q.oldText ∧ q.newText = p.newText
  | .text s0 v0, p, s, v, q, h => by
    rw [mapBack] at h
    split at h
    · rename_i hc
      simp only [Except.ok.injEq, Option.some.injEq, Prod.mk.injEq] at h
      obtain ⟨rfl, rfl, rfl⟩ := h
      exact ⟨Leaf.text _ _, by simpa using hc, rfl⟩
    · cases h
  | .raw s0 bts, p, s, v, q, h => by
    rw [mapBack] at h
    split at h <;> cases h
  | .replacer inner ps, p, s, v, q, h => by
    rw [mapBack] at h
    split at h
    · cases h
    · rename_i t ht
      split at h
      · cases h
      · rename_i tb hb
        split at h
        · cases h
        · rename_i q' hq'
          obtain ⟨g1, g2, g3⟩ := mapBack_sound inner q' s v q h
          exact ⟨Leaf.replacer g1, g2, by rw [g3, (replacerInPatch_facts t tb p q' hq').2.1]⟩
  | .combiner parts, p, s, v, q, h => by
    rw [mapBack] at h
    split at h
    · cases h
    · rename_i ts hts
      split at h
      · cases h
      · rename_i i q' hq'
        obtain ⟨b, hb, g1, g2, g3⟩ := mapBackNth_sound parts i q' s v q h
        exact ⟨Leaf.combiner hb g1, g2, by rw [g3, combLocate_newText ts p i q' hq']⟩

theorem mapBackNth_sound : ∀ (bs : List Builder) (i : Nat) (p : Patch) (s : Str) (v : Nat) (q : Patch),
    mapBackNth bs i p = .ok (some (s, v, q)) →
    ∃ b ∈ bs, Leaf b s v ∧ slice s q.start q.end_ = q.oldText ∧ q.newText = p.newText
  | [], _, _, _, _, _, h => nomatch h
  | b :: _, 0, p, s, v, q, h => ⟨b, List.mem_cons_self, mapBack_sound b p s v q h⟩
  | _ :: bs, i + 1, p, s, v, q, h =>
    have ⟨b', hb', g⟩ := mapBackNth_sound bs i p s v q h
    ⟨b', List.mem_cons_of_mem _ hb', g⟩
end

mutual

theorem mapBack_safe : ∀ (b : Builder) (p : Patch) (T : Str), getText b = .ok T →
    slice T p.start p.end_ = p.oldText → Safe (mapBack b p)
  | .text s0 v0, p, T, hT, hold => by
    simp only [getText, Except.ok.injEq] at hT
    subst hT
    rw [mapBack]
    simp [hold, Safe]
  | .raw s0 bts, p, T, hT, hold => by
    rw [mapBack]
    cases bts <;> simp [Safe]
  | .replacer inner ps, p, T, hT, hold => by
    obtain ⟨t, tb, ht, hb, rfl⟩ := getText_replacer_ok inner ps T hT
    obtain ⟨htb, _⟩ := replacerBuild_inv t ps tb hb
    rw [mapBack]
    simp only [ht, hb]
    cases hq : replacerInPatch t tb p with
    | error e =>
      rw [htb] at hq
      have := replacerInPatch_errors t _ p e hq
      subst this
      simp [Safe]
    | ok q =>
      simp only
      exact mapBack_safe inner q t ht (replacerInPatch_facts t tb p q hq).1
  | .combiner parts, p, T, hT, hold => by
    obtain ⟨ts, hts, rfl⟩ := getText_combiner_ok parts T hT
    rw [mapBack]
    simp only [hts]
    cases hq : combLocate ts p with
    | error e =>
      have := combLocate_errors ts p e hq
      subst this
      simp [Safe]
    | ok iq =>
      obtain ⟨i, q⟩ := iq
      simp only
      obtain ⟨tpre, part, tpost, hsplit, hi, _, hfit, _⟩ := combLocate_sound ts p i q hq
      exact mapBackNth_safe parts i q ts hts part (by rw [hsplit, hi]; simp) hfit

theorem mapBackNth_safe : ∀ (bs : List Builder) (i : Nat) (q : Patch) (ts : List Str),
    getTexts bs = .ok ts → ∀ (part : Str), ts[i]? = some part →
    slice part q.start q.end_ = q.oldText → Safe (mapBackNth bs i q)
  | [], _, _, _, hts, _, hpart, _ => by
    cases hts
    cases hpart
  | b :: bs, 0, q, ts, hts, part, hpart, hfit => by
    obtain ⟨t, ts', ht, _, rfl⟩ := getTexts_cons_ok b bs ts hts
    cases hpart
    exact mapBack_safe b q _ ht hfit
  | b :: bs, i + 1, q, ts, hts, part, hpart, hfit => by
    obtain ⟨t, ts', _, hts', rfl⟩ := getTexts_cons_ok b bs ts hts
    exact mapBackNth_safe bs i q ts' hts' part hpart hfit
end

/-! ## `sorted(patches)` of a set of pairwise non-overlapping patches is ascending -/

theorem Patch.le_iff (p q : Patch) : Patch.le p q = true ↔
    p.start < q.start ∨ (p.start = q.start ∧ (p.end_ < q.end_ ∨ (p.end_ = q.end_ ∧
      ((p.oldText ≠ q.oldText ∧ p.oldText ≤ q.oldText) ∨ (p.oldText = q.oldText ∧ p.newText ≤ q.newText))))) := by
  unfold Patch.le strLe
  by_cases h1 : p.start = q.start
  · by_cases h2 : p.end_ = q.end_
    · by_cases h3 : p.oldText = q.oldText
      · simp [h1, h2, h3]
      · simp [h1, h2, h3]
    · simp [h1, h2]
  · simp [h1]

theorem Patch.le_trans' (a b c : Patch) (h1 : Patch.le a b = true) (h2 : Patch.le b c = true) :
    Patch.le a c = true := by
  rw [Patch.le_iff] at h1 h2 ⊢
  rcases h1 with h1 | ⟨e1, h1⟩
  · rcases h2 with h2 | ⟨e2, _⟩
    · left
      omega
    · left
      omega
  · rcases h2 with h2 | ⟨e2, h2⟩
    · left
      omega
    · right
      refine ⟨by omega, ?_⟩
      rcases h1 with h1 | ⟨f1, h1⟩
      · rcases h2 with h2 | ⟨f2, _⟩
        · left
          omega
        · left
          omega
      · rcases h2 with h2 | ⟨f2, h2⟩
        · left
          omega
        · right
          refine ⟨by omega, ?_⟩
          rcases h1 with ⟨n1, l1⟩ | ⟨g1, l1⟩
          · rcases h2 with ⟨n2, l2⟩ | ⟨g2, l2⟩
            · left
              refine ⟨?_, List.le_trans l1 l2⟩
              intro heq
              rw [heq] at l1
              exact n2 (List.le_antisymm l2 l1)
            · left
              rw [← g2]
              exact ⟨n1, l1⟩
          · rcases h2 with ⟨n2, l2⟩ | ⟨g2, l2⟩
            · left
              rw [g1]
              exact ⟨n2, l2⟩
            · right
              exact ⟨g1.trans g2, List.le_trans l1 l2⟩

theorem Patch.le_total' (a b : Patch) : (Patch.le a b || Patch.le b a) = true := by
  rw [Bool.or_eq_true, Patch.le_iff, Patch.le_iff]
  by_cases h1 : a.start < b.start
  · left
    left
    exact h1
  by_cases h1' : b.start < a.start
  · right
    left
    exact h1'
  have e1 : a.start = b.start := by omega
  by_cases h2 : a.end_ < b.end_
  · left
    right
    exact ⟨e1, Or.inl h2⟩
  by_cases h2' : b.end_ < a.end_
  · right
    right
    exact ⟨e1.symm, Or.inl h2'⟩
  have e2 : a.end_ = b.end_ := by omega
  by_cases h3 : a.oldText = b.oldText
  · rcases List.le_total a.newText b.newText with h | h
    · left
      right
      exact ⟨e1, Or.inr ⟨e2, Or.inr ⟨h3, h⟩⟩⟩
    · right
      right
      exact ⟨e1.symm, Or.inr ⟨e2.symm, Or.inr ⟨h3.symm, h⟩⟩⟩
  · rcases List.le_total a.oldText b.oldText with h | h
    · left
      right
      exact ⟨e1, Or.inr ⟨e2, Or.inl ⟨h3, h⟩⟩⟩
    · right
      right
      exact ⟨e1.symm, Or.inr ⟨e2.symm, Or.inl ⟨fun x => h3 x.symm, h⟩⟩⟩

theorem ordered_sortPatches (ps : List Patch) (hse : ∀ p ∈ ps, p.start ≤ p.end_)
    (hdis : ps.Pairwise (fun p q => p.end_ ≤ q.start ∨ q.end_ ≤ p.start)) :
    Ordered (sortPatches ps) := by
  unfold Ordered sortPatches
  have hle : (ps.mergeSort Patch.le).Pairwise (fun p q => Patch.le p q = true) :=
    List.pairwise_mergeSort Patch.le_trans' Patch.le_total' ps
  have hperm := List.mergeSort_perm ps Patch.le
  have hdis' : (ps.mergeSort Patch.le).Pairwise (fun p q => p.end_ ≤ q.start ∨ q.end_ ≤ p.start) :=
    (hperm.pairwise_iff Or.symm).mpr hdis
  have hboth := hle.and hdis'
  refine hboth.imp_of_mem ?_
  intro p q hp hq ⟨h1, h2⟩
  have hp' := hse p (hperm.mem_iff.mp hp)
  have hq' := hse q (hperm.mem_iff.mp hq)
  rw [Patch.le_iff] at h1
  rcases h2 with h2 | h2
  · exact h2
  · rcases h1 with h1 | ⟨e1, h1⟩
    · omega
    · rcases h1 with h1 | ⟨f1, _⟩ <;> omega

/-- The first component of the tuples already decides the comparison. -/
theorem sortPatches_eq_of_perm {l s : List Patch} (hs : s.Pairwise (fun p q => p.start < q.start))
    (hp : l.Perm s) : sortPatches l = s := by
  have hinj : ∀ ⦃a⦄, a ∈ s → ∀ ⦃b⦄, b ∈ s → a.start = b.start → a = b :=
    List.Pairwise.forall_of_forall_of_flip (fun _ _ _ => rfl)
      (hs.imp fun h e => absurd e (Int.ne_of_lt h)) (hs.imp fun h e => absurd e.symm (Int.ne_of_lt h))
  have hp' := (List.mergeSort_perm l Patch.le).trans hp
  refine hp'.eq_of_pairwise (fun a b ha hb hab hba => hinj (hp'.subset ha) hb ?_)
    (List.pairwise_mergeSort Patch.le_trans' Patch.le_total' l)
    (hs.imp fun h => (Patch.le_iff _ _).mpr (Or.inl h))
  rw [Patch.le_iff] at hab hba
  omega

/-! ## `Replacer.map_back_offset` through a chain of Replacers -/

theorem getInputPos_tablesOf (t : Str) (ps pre post : List Patch) (x : Int)
    (hfit : ∀ r ∈ ps, r.Fits t) (hsort : sortPatches ps = pre ++ post) (hord : Ordered (pre ++ post))
    (hlo : lastEnd 0 pre ≤ x) (hhi : ∀ r ∈ post, x ≤ r.start)
    (hdel : ∀ r ∈ post, r.start = x → r.newText = [] → r.end_ = r.start) :
    getInputPos (tablesOf t (sortPatches ps)) (x + shift pre) = .ok x := by
  rw [hsort]
  have hfit' : ∀ r ∈ pre ++ post, r.Fits t := by
    intro r hr
    rw [← hsort] at hr
    exact hfit r ((mem_sortPatches ps r).mp hr)
  exact getInputPos_copied t pre post x _ (fun p hp => (hfit' p (by simp [hp])).1) hord hlo hhi hdel

theorem mapBackOffset_traces {b : Builder} {X x : Int} (h : OffTraces b X x) :
    mapBackOffset b X = .ok x := by
  induction h with
  | last inner ps t pre post x hnr ht hfit hsort hord hlo hhi hdel =>
    have hb := replacerBuild_ok t ps (fun r hr => (hfit r hr).2.2.2)
    have hpos := getInputPos_tablesOf t ps pre post x hfit hsort hord hlo hhi hdel
    rw [mapBackOffset]
    simp only [ht, hb, hpos]
  | step i2 p2 ps t pre post x1 x ht hfit hsort hord hlo hhi hdel _ ih =>
    have hb := replacerBuild_ok t ps (fun r hr => (hfit r hr).2.2.2)
    have hpos := getInputPos_tablesOf t ps pre post x1 hfit hsort hord hlo hhi hdel
    rw [mapBackOffset]
    simp only [ht, hb, hpos]
    exact ih

end Grist.Textbuilder
