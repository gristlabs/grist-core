/-
The `series` loop of GristModel/Schedule.lean (C35) as list algebra, with `add_to` opaque.  A finished
run returns `want` of the candidate stream `occFrom`; `Progress` gives termination within `count + 2`
passes; under `InOrder` the result is the first `count` candidates in `[start, end]`.
-/
import GristModel.Schedule
namespace Grist.Schedule

/-- values produced by one pass over the slots at boundary `dtime` -/
def outsAt (sch : Sched) (dtime : Int) : List Int := sch.slots.map (·.addTo dtime)

-- left reducible, `simp`, `omega` and `decide` unfold every candidate time down to the divisions of
-- `civilFromDays` (fifteen times the work)
attribute [local irreducible] Delta.addTo

/-- the `k`-th boundary: `dtime = self._interval.add_to(dtime)` applied `k` times -/
def iterB (sch : Sched) (b : Int) : Nat → Int
  | 0 => b
  | k + 1 => sch.interval.addTo (iterB sch b k)

/-- all candidate times of the first `K` passes, in generation order -/
def occFrom (sch : Sched) (b : Int) : Nat → List Int
  | 0 => []
  | K + 1 => outsAt sch b ++ occFrom sch (sch.interval.addTo b) K

/-- `out > end_dtime` is false -/
def upTo (stop : Option Int) (t : Int) : Bool := !pastEnd stop t

theorem upTo_none (t : Int) : upTo none t = true := rfl
theorem upTo_some (e t : Int) : upTo (some e) t = decide (t ≤ e) := by
  simp only [upTo, pastEnd]
  by_cases h : e < t <;> simp [h] <;> omega

@[simp] theorem iterB_zero (sch : Sched) (b : Int) : iterB sch b 0 = b := rfl
theorem iterB_succ' (sch : Sched) (b : Int) (k : Nat) :
    iterB sch b (k + 1) = sch.interval.addTo (iterB sch b k) := rfl
theorem iterB_one (sch : Sched) (b : Int) : iterB sch b 1 = sch.interval.addTo b := rfl

theorem iterB_succ (sch : Sched) (b : Int) (k : Nat) :
    iterB sch b (k + 1) = iterB sch (sch.interval.addTo b) k := by
  induction k with
  | zero => rfl
  | succ k ih => rw [iterB_succ' sch b (k + 1), ih, ← iterB_succ']

/-- what the generator computes from the stream of candidates, without any assumption:
    skip those before `start`, stop at the first one after `end`, stop after `c` results. -/
def want (start : Int) (stop : Option Int) (c : Nat) (l : List Int) : List Int :=
  ((l.filter (fun t => decide (start ≤ t))).takeWhile (upTo stop)).take c

theorem occFrom_eq_flatMap (sch : Sched) (b : Int) (K : Nat) :
    occFrom sch b K = (List.range K).flatMap (fun k => outsAt sch (iterB sch b k)) := by
  induction K generalizing b with
  | zero => rfl
  | succ K ih =>
    rw [occFrom, ih, List.range_succ_eq_map, List.flatMap_cons, List.flatMap_map, iterB_zero]
    congr 1
    have : (fun k => outsAt sch (iterB sch (sch.interval.addTo b) k))
        = ((fun k => outsAt sch (iterB sch b k)) ∘ Nat.succ) := by
      funext k
      show outsAt sch (iterB sch (sch.interval.addTo b) k) = outsAt sch (iterB sch b (k + 1))
      rw [iterB_succ]
    rw [this]
    rfl

theorem mem_occFrom {sch : Sched} {b : Int} {K : Nat} {x : Int} :
    x ∈ occFrom sch b K ↔ ∃ k, k < K ∧ ∃ s ∈ sch.slots, x = s.addTo (iterB sch b k) := by
  rw [occFrom_eq_flatMap]
  simp only [List.mem_flatMap, List.mem_range, outsAt, List.mem_map]
  constructor
  · rintro ⟨k, hk, s, hs, rfl⟩
    exact ⟨k, hk, s, hs, rfl⟩
  · rintro ⟨k, hk, s, hs, rfl⟩
    exact ⟨k, hk, s, hs, rfl⟩

theorem want_skip (start : Int) (stop : Option Int) (c : Nat) (x : Int) (l : List Int)
    (h : x < start) : want start stop c (x :: l) = want start stop c l := by
  simp only [want]
  rw [List.filter_cons_of_neg (by simpa using h)]

theorem want_stop (start : Int) (stop : Option Int) (c : Nat) (x : Int) (l : List Int)
    (h : start ≤ x) (h2 : pastEnd stop x = true) : want start stop c (x :: l) = [] := by
  simp only [want]
  rw [List.filter_cons_of_pos (by simpa using h), List.takeWhile_cons_of_neg (by simp [upTo, h2])]
  simp

theorem want_yield (start : Int) (stop : Option Int) (c : Nat) (x : Int) (l : List Int)
    (h : start ≤ x) (h2 : pastEnd stop x = false) :
    want start stop (c + 1) (x :: l) = x :: want start stop c l := by
  simp only [want]
  rw [List.filter_cons_of_pos (by simpa using h), List.takeWhile_cons_of_pos (by simp [upTo, h2])]
  simp

theorem pass_spec (start : Int) (stop : Option Int) (dtime : Int) (later : List Int) :
    ∀ (slots : List Delta) (c : Nat),
      ((pass start stop dtime slots c).2.2 = true →
        want start stop c (slots.map (·.addTo dtime) ++ later) = (pass start stop dtime slots c).1) ∧
      ((pass start stop dtime slots c).2.2 = false →
        want start stop c (slots.map (·.addTo dtime) ++ later)
          = (pass start stop dtime slots c).1
            ++ want start stop (pass start stop dtime slots c).2.1 later) := by
  intro slots
  induction slots with
  | nil =>
    intro c
    simp [pass]
  | cons s rest ih =>
    intro c
    simp only [pass, List.map_cons, List.cons_append]
    by_cases hc : c = 0
    · subst hc
      simp [want]
    · rw [if_neg hc]
      by_cases h1 : s.addTo dtime < start
      · rw [if_pos h1, want_skip _ _ _ _ _ h1]
        exact ih c
      · rw [if_neg h1]
        have hge : start ≤ s.addTo dtime := by omega
        by_cases h2 : pastEnd stop (s.addTo dtime) = true
        · rw [if_pos h2, want_stop _ _ _ _ _ hge h2]
          simp
        · rw [if_neg h2]
          have h2' : pastEnd stop (s.addTo dtime) = false := by simpa using h2
          obtain ⟨c', rfl⟩ : ∃ c', c = c' + 1 := ⟨c - 1, by omega⟩
          rw [want_yield _ _ _ _ _ hge h2', Nat.add_sub_cancel]
          have := ih c'
          constructor
          · intro h
            rw [this.1 h]
          · intro h
            rw [this.2 h]
            rfl

theorem pass_count_le (start : Int) (stop : Option Int) (dtime : Int) :
    ∀ (slots : List Delta) (c : Nat), (pass start stop dtime slots c).2.1 ≤ c := by
  intro slots
  induction slots with
  | nil =>
    intro c
    simp [pass]
  | cons s rest ih =>
    intro c
    simp only [pass]
    split
    · simp
    · split
      · exact ih c
      · split
        · simp
        · have := ih (c - 1)
          simp only
          omega

theorem pass_progress (start : Int) (stop : Option Int) (dtime : Int) :
    ∀ (slots : List Delta) (c : Nat), slots ≠ [] →
      (∀ s ∈ slots, start ≤ s.addTo dtime) →
      (pass start stop dtime slots c).2.2 = true ∨ (pass start stop dtime slots c).2.1 < c := by
  intro slots
  induction slots with
  | nil =>
    intro c h
    exact absurd rfl h
  | cons s rest ih =>
    intro c _ hall
    simp only [pass]
    by_cases hc : c = 0
    · simp [hc]
    · rw [if_neg hc]
      have h1 : ¬ s.addTo dtime < start := by
        have := hall s (by simp)
        omega
      rw [if_neg h1]
      split
      · simp
      · right
        have := pass_count_le start stop dtime rest (c - 1)
        simp only
        omega

theorem seriesFuel_spec (sch : Sched) (start : Int) (stop : Option Int) :
    ∀ (f : Nat) (dtime : Int) (c : Nat) (r : List Int),
      seriesFuel sch start stop f dtime c = some r →
      ∀ K, f ≤ K → r = want start stop c (occFrom sch dtime K) := by
  intro f
  induction f with
  | zero =>
    intro dtime c r h
    simp [seriesFuel] at h
  | succ f ih =>
    intro dtime c r h K hK
    obtain ⟨K', rfl⟩ : ∃ K', K = K' + 1 := ⟨K - 1, by omega⟩
    simp only [seriesFuel] at h
    have ps := pass_spec start stop dtime (occFrom sch (sch.interval.addTo dtime) K') sch.slots c
    simp only [occFrom, outsAt]
    by_cases hs : (pass start stop dtime sch.slots c).2.2 = true
    · rw [if_pos hs] at h
      rw [ps.1 hs]
      exact (Option.some.inj h).symm
    · have hs' : (pass start stop dtime sch.slots c).2.2 = false := by simpa using hs
      rw [if_neg hs] at h
      rw [ps.2 hs']
      cases hrec : seriesFuel sch start stop f (sch.interval.addTo dtime)
          (pass start stop dtime sch.slots c).2.1 with
      | none =>
        rw [hrec] at h
        simp at h
      | some r' =>
        rw [hrec] at h
        simp only [Option.map_some, Option.some.injEq] at h
        rw [← h, ih _ _ _ hrec K' (by omega)]

theorem seriesFuel_mono (sch : Sched) (start : Int) (stop : Option Int) :
    ∀ (f : Nat) (dtime : Int) (c : Nat) (r : List Int),
      seriesFuel sch start stop f dtime c = some r →
      ∀ f', f ≤ f' → seriesFuel sch start stop f' dtime c = some r := by
  intro f
  induction f with
  | zero =>
    intro dtime c r h
    simp [seriesFuel] at h
  | succ f ih =>
    intro dtime c r h f' hf
    obtain ⟨g, rfl⟩ : ∃ g, f' = g + 1 := ⟨f' - 1, by omega⟩
    simp only [seriesFuel] at h ⊢
    split
    · rename_i hs
      rw [if_pos hs] at h
      exact h
    · rename_i hs
      rw [if_neg hs] at h
      cases hrec : seriesFuel sch start stop f (sch.interval.addTo dtime)
          (pass start stop dtime sch.slots c).2.1 with
      | none =>
        rw [hrec] at h
        simp at h
      | some r' =>
        rw [hrec] at h
        rw [ih _ _ _ hrec g (by omega)]
        exact h

/-- candidates of all passes from `b` on are at or after `start` -/
def Progress (sch : Sched) (start : Int) (b : Int) : Prop :=
  ∀ k, ∀ s ∈ sch.slots, start ≤ s.addTo (iterB sch b k)

theorem Progress.next {sch : Sched} {start b : Int} (h : Progress sch start b) :
    Progress sch start (sch.interval.addTo b) := fun k s hs => by
  have := h (k + 1) s hs
  rwa [iterB_succ] at this

theorem seriesFuel_terminates_progress (sch : Sched) (start : Int) (stop : Option Int)
    (hne : sch.slots ≠ []) :
    ∀ (f : Nat) (dtime : Int) (c : Nat), c < f → Progress sch start dtime →
      (seriesFuel sch start stop f dtime c).isSome = true := by
  intro f
  induction f with
  | zero =>
    intro dtime c h
    omega
  | succ f ih =>
    intro dtime c hc hp
    simp only [seriesFuel]
    split
    · rfl
    · rename_i hs
      have := pass_progress start stop dtime sch.slots c hne (fun s hs => hp 0 s hs)
      rcases this with h | h
      · exact absurd h hs
      · have := ih (sch.interval.addTo dtime) (pass start stop dtime sch.slots c).2.1 (by omega) hp.next
        rw [Option.isSome_map]
        exact this

/-- The first pass may yield nothing (all its candidates before `start`); each later one ends the run
    or uses up a wanted result: `count + 2` passes are enough. -/
theorem seriesFuel_terminates (sch : Sched) (start : Int) (stop : Option Int)
    (hne : sch.slots ≠ []) (b : Int) (c : Nat) (hp : Progress sch start (sch.interval.addTo b)) :
    (seriesFuel sch start stop (c + 2) b c).isSome = true := by
  simp only [seriesFuel]
  split
  · rfl
  · have := pass_count_le start stop b sch.slots c
    rw [Option.isSome_map]
    exact seriesFuel_terminates_progress sch start stop hne (c + 1) _ _ (by omega) hp

theorem series_terminates (sch : Sched) (start : Int) (stop : Option Int) (count : Int)
    (hne : sch.slots ≠ [])
    (hp : Progress sch start (sch.interval.addTo (roundDown start sch.unit)))
    (fuel : Nat) (hf : count.toNat + 2 ≤ fuel) :
    (series sch start stop count fuel).isSome = true := by
  obtain ⟨r, hr⟩ := Option.isSome_iff_exists.mp
    (seriesFuel_terminates sch start stop hne (roundDown start sch.unit) count.toNat hp)
  unfold series
  rw [seriesFuel_mono sch start stop _ _ _ _ hr fuel hf]
  rfl

/-- on a strictly increasing list "skip < start, stop at first > end" is a plain filter -/
theorem takeWhile_filter_sorted (start : Int) (stop : Option Int) :
    ∀ l : List Int, l.Pairwise (· < ·) →
      (l.filter (fun t => decide (start ≤ t))).takeWhile (upTo stop)
        = l.filter (fun t => decide (start ≤ t) && upTo stop t) := by
  intro l
  induction l with
  | nil =>
    intro _
    rfl
  | cons x xs ih =>
    intro hp
    rw [List.pairwise_cons] at hp
    by_cases h1 : start ≤ x
    · rw [List.filter_cons_of_pos (by simpa using h1)]
      by_cases h2 : upTo stop x = true
      · rw [List.takeWhile_cons_of_pos h2, List.filter_cons_of_pos (by simp [h1, h2]), ih hp.2]
      · rw [List.takeWhile_cons_of_neg h2, List.filter_cons_of_neg (by simp [h2])]
        symm
        rw [List.filter_eq_nil_iff]
        intro y hy
        have hxy := hp.1 y hy
        cases stop with
        | none => simp [upTo_none] at h2
        | some e =>
          rw [upTo_some] at h2 ⊢
          simp only [decide_eq_true_eq] at h2
          simp
          omega
    · rw [List.filter_cons_of_neg (by simpa using h1), List.filter_cons_of_neg (by simp [h1])]
      exact ih hp.2

/-- "slots listed in increasing order and falling within one interval", read on the model: in
    every pass the candidates are strictly increasing and lie in `[boundary, next boundary)`. -/
def InOrder (sch : Sched) (b : Int) : Prop :=
  ∀ k, (outsAt sch (iterB sch b k)).Pairwise (· < ·) ∧
    ∀ x ∈ outsAt sch (iterB sch b k), iterB sch b k ≤ x ∧ x < iterB sch b (k + 1)

theorem InOrder.next {sch : Sched} {b : Int} (h : InOrder sch b) :
    InOrder sch (sch.interval.addTo b) := fun k => by
  have := h (k + 1)
  rwa [iterB_succ, iterB_succ sch b (k + 1)] at this

theorem occFrom_nil (sch : Sched) (hs : sch.slots = []) : ∀ (K : Nat) (b : Int), occFrom sch b K = [] := by
  intro K
  induction K with
  | zero =>
    intro b
    rfl
  | succ K ih =>
    intro b
    simp [occFrom, outsAt, hs, ih]

theorem occFrom_ge {sch : Sched} : ∀ (K : Nat) (b : Int), InOrder sch b →
    ∀ y ∈ occFrom sch b K, b ≤ y := by
  intro K
  induction K with
  | zero =>
    intro b _ y hy
    simp [occFrom] at hy
  | succ K ih =>
    intro b h y hy
    simp only [occFrom, List.mem_append] at hy
    rcases hy with hy | hy
    · have := ((h 0).2 y hy).1
      rwa [iterB_zero] at this
    · have h2 := ih _ h.next y hy
      by_cases hs : sch.slots = []
      · rw [occFrom_nil sch hs] at hy
        simp at hy
      · obtain ⟨s, rest, hsl⟩ := List.exists_cons_of_ne_nil hs
        have hm : s.addTo b ∈ outsAt sch b := by simp [outsAt, hsl]
        have := (h 0).2 _ hm
        rw [iterB_zero, iterB_one] at this
        omega

theorem occFrom_sorted {sch : Sched} : ∀ (K : Nat) (b : Int), InOrder sch b →
    (occFrom sch b K).Pairwise (· < ·) := by
  intro K
  induction K with
  | zero =>
    intro b _
    simp [occFrom]
  | succ K ih =>
    intro b h
    simp only [occFrom]
    rw [List.pairwise_append]
    refine ⟨(h 0).1, ih _ h.next, ?_⟩
    intro x hx y hy
    have h1 := ((h 0).2 x hx).2
    have h2 := occFrom_ge K _ h.next y hy
    rw [iterB_one] at h1
    omega

theorem InOrder.progress {sch : Sched} {b start : Int} (h : InOrder sch b) (hb : start ≤ b) :
    Progress sch start b := by
  intro k
  induction k generalizing b with
  | zero =>
    intro s hs
    have := ((h 0).2 (s.addTo b) (List.mem_map_of_mem hs)).1
    rw [iterB_zero] at this ⊢
    omega
  | succ k ih =>
    intro s hs
    have hm : s.addTo b ∈ outsAt sch b := List.mem_map_of_mem hs
    have := (h 0).2 _ hm
    rw [iterB_zero, iterB_one] at this
    rw [iterB_succ]
    exact ih h.next (by omega) s hs

/-- The property on the model: ordered slots, second boundary after `start`. -/
theorem seriesFuel_ordered (sch : Sched) (start : Int) (stop : Option Int) (b : Int) (c : Nat)
    (hne : sch.slots ≠ []) (hord : InOrder sch b) (hb : start ≤ sch.interval.addTo b)
    (fuel K : Nat) (hf : c + 2 ≤ fuel) (hK : c + 2 ≤ K) :
    seriesFuel sch start stop fuel b c =
      some (((occFrom sch b K).filter (fun t => decide (start ≤ t) && upTo stop t)).take c) := by
  have ht := seriesFuel_terminates sch start stop hne b c (hord.next.progress hb)
  obtain ⟨r, hr⟩ := Option.isSome_iff_exists.mp ht
  rw [seriesFuel_mono sch start stop _ _ _ _ hr fuel hf]
  rw [seriesFuel_spec sch start stop _ _ _ _ hr K hK]
  simp only [want]
  rw [takeWhile_filter_sorted start stop _ (occFrom_sorted K b hord)]

theorem take_sorted_complete (l : List Int) (c : Nat) (hl : l.Pairwise (· < ·)) (x : Int)
    (hx : x ∈ l) : x ∈ l.take c ∨ ((l.take c).length = c ∧ ∀ y ∈ l.take c, y < x) := by
  rw [← List.take_append_drop c l] at hx hl
  rw [List.mem_append] at hx
  rcases hx with hx | hx
  · exact Or.inl hx
  · right
    constructor
    · rw [List.length_take]
      have : 0 < (l.drop c).length := List.length_pos_of_mem hx
      rw [List.length_drop] at this
      omega
    · intro y hy
      exact (List.pairwise_append.mp hl).2.2 y hy x hx

theorem take_filter_exact (L : List Int) (P : Int → Bool) (c : Nat) (hL : L.Pairwise (· < ·)) :
    ((L.filter P).take c).Pairwise (· < ·) ∧ ((L.filter P).take c).length ≤ c ∧
    (∀ x ∈ (L.filter P).take c, x ∈ L ∧ P x = true) ∧
    (∀ x ∈ L, P x = true → x ∈ (L.filter P).take c ∨
      (((L.filter P).take c).length = c ∧ ∀ y ∈ (L.filter P).take c, y < x)) := by
  have hF : (L.filter P).Pairwise (· < ·) := hL.filter P
  refine ⟨hF.sublist (List.take_sublist c _), List.length_take_le c _, ?_, ?_⟩
  · intro x hx
    exact List.mem_filter.mp (List.mem_of_mem_take hx)
  · intro x hx hP
    exact take_sorted_complete _ c hF x (List.mem_filter.mpr ⟨hx, hP⟩)

/-- The same as a set: a candidate in `[start, end]` missing from the result is later than all of
    it, and the result is then full. -/
theorem seriesFuel_exact (sch : Sched) (start : Int) (stop : Option Int) (b : Int) (c : Nat)
    (hne : sch.slots ≠ []) (hord : InOrder sch b) (hb : start ≤ sch.interval.addTo b) :
    ∃ r : List Int,
      (∀ fuel, c + 2 ≤ fuel → seriesFuel sch start stop fuel b c = some r) ∧
      r.Pairwise (· < ·) ∧ r.length ≤ c ∧
      (∀ x ∈ r, start ≤ x ∧ upTo stop x = true ∧
        ∃ k : Nat, ∃ s ∈ sch.slots, x = s.addTo (iterB sch b k)) ∧
      (∀ (k : Nat) (s : Delta), s ∈ sch.slots → start ≤ s.addTo (iterB sch b k) →
        upTo stop (s.addTo (iterB sch b k)) = true →
        s.addTo (iterB sch b k) ∈ r ∨ (r.length = c ∧ ∀ y ∈ r, y < s.addTo (iterB sch b k))) := by
  let P : Int → Bool := fun t => decide (start ≤ t) && upTo stop t
  have key : ∀ K, c + 2 ≤ K → ((occFrom sch b K).filter P).take c
      = ((occFrom sch b (c + 2)).filter P).take c := by
    intro K hK
    have h1 := seriesFuel_ordered sch start stop b c hne hord hb (c + 2) K (Nat.le_refl _) hK
    have h2 := seriesFuel_ordered sch start stop b c hne hord hb (c + 2) (c + 2) (Nat.le_refl _)
      (Nat.le_refl _)
    rw [h1] at h2
    exact Option.some.inj h2
  refine ⟨((occFrom sch b (c + 2)).filter P).take c, ?_, ?_, ?_, ?_, ?_⟩
  · intro fuel hf
    exact seriesFuel_ordered sch start stop b c hne hord hb fuel (c + 2) hf (Nat.le_refl _)
  · exact (take_filter_exact _ P c (occFrom_sorted _ b hord)).1
  · exact (take_filter_exact _ P c (occFrom_sorted _ b hord)).2.1
  · intro x hx
    obtain ⟨hm, hP⟩ := (take_filter_exact _ P c (occFrom_sorted _ b hord)).2.2.1 x hx
    simp only [P, Bool.and_eq_true, decide_eq_true_eq] at hP
    obtain ⟨k, _, s, hs, rfl⟩ := mem_occFrom.mp hm
    exact ⟨hP.1, hP.2, k, s, hs, rfl⟩
  · intro k s hs h1 h2
    have hK : c + 2 ≤ max (c + 2) (k + 1) := Nat.le_max_left _ _
    have hm : s.addTo (iterB sch b k) ∈ occFrom sch b (max (c + 2) (k + 1)) :=
      mem_occFrom.mpr ⟨k, by have := Nat.le_max_right (c + 2) (k + 1); omega, s, hs, rfl⟩
    have := (take_filter_exact _ P c (occFrom_sorted (max (c + 2) (k + 1)) b hord)).2.2.2 _ hm
      (by simp only [P, Bool.and_eq_true, decide_eq_true_eq]; exact ⟨h1, h2⟩)
    rw [key _ hK] at this
    exact this

theorem pass_all_before (start : Int) (stop : Option Int) (dtime : Int) (c : Nat) (hc : c ≠ 0) :
    ∀ slots : List Delta, (∀ s ∈ slots, s.addTo dtime < start) →
      pass start stop dtime slots c = ([], c, false) := by
  intro slots
  induction slots with
  | nil =>
    intro _
    rfl
  | cons s rest ih =>
    intro h
    simp only [pass]
    rw [if_neg hc, if_pos (h s (by simp))]
    exact ih (fun s' hs' => h s' (by simp [hs']))

theorem seriesFuel_stuck (sch : Sched) (start : Int) (stop : Option Int) (b : Int) (c : Nat)
    (hc : c ≠ 0) (hfix : sch.interval.addTo b = b) (hall : ∀ s ∈ sch.slots, s.addTo b < start) :
    ∀ fuel, seriesFuel sch start stop fuel b c = none := by
  intro fuel
  induction fuel with
  | zero => rfl
  | succ f ih =>
    simp only [seriesFuel]
    rw [pass_all_before start stop b c hc sch.slots hall]
    simp only [Bool.false_eq_true, if_false, hfix, ih, Option.map_none]

end Grist.Schedule
