/-
`applyAll` keeps `WF`/`Normal` and respects `Same`; replaying the undo list of a run reversed restores
the document (`runActs_undo_WF`); an engine run `stepDocs` is such a run (`stepDocs_ok`).
-/
import GristProofs.DocUndoCongr
namespace Grist.Doc

theorem applyAll_cons_ok {d : Doc} {a : DocAction} {rest : List DocAction} {x : Doc}
    (h : applyAll d (a :: rest) = .ok x) : ∃ D U, Post d a D U ∧ applyAll D rest = .ok x := by
  simp only [applyAll] at h
  cases hr : docAction d {} a with
  | error e => simp [hr] at h
  | ok r =>
    simp only [hr] at h
    exact ⟨r.doc, r.undo, post_of_ok hr, h⟩

theorem applyAll_WF {l : List DocAction} {d d' : Doc} (hwf : WF d) (hn : Normal d)
    (hl : ∀ a ∈ l, a.rowsPositive ∧ a.colsDistinct) (h : applyAll d l = .ok d') : WF d' ∧ Normal d' := by
  induction l generalizing d with
  | nil =>
    simp only [applyAll, Except.ok.injEq] at h
    subst h
    exact ⟨hwf, hn⟩
  | cons a rest ih =>
    obtain ⟨D, U, hp, hrest⟩ := applyAll_cons_ok h
    have ha := hl a (by simp)
    have := post_WF_Normal hwf ha.1 ha.2 hp
    exact ih this.1 (this.2.1 hn) (fun b hb => hl b (List.mem_cons_of_mem _ hb)) hrest

theorem applyAll_congr {l : List DocAction} {d1 d2 x : Doc} (hw1 : WF d1) (hw2 : WF d2)
    (hs : Same d1 d2) (hl : ∀ a ∈ l, a.rowsPositive ∧ a.colsDistinct) (h : applyAll d1 l = .ok x) :
    ∃ y, applyAll d2 l = .ok y ∧ Same x y := by
  induction l generalizing d1 d2 with
  | nil =>
    simp only [applyAll, Except.ok.injEq] at h
    subst h
    exact ⟨d2, rfl, hs⟩
  | cons a rest ih =>
    obtain ⟨D1, U1, hp1, hrest⟩ := applyAll_cons_ok h
    have ha := hl a (by simp)
    obtain ⟨D2, U2, hp2, hs', _⟩ := post_congr hw1 hw2 hs hp1
    have hw1' := (post_WF_Normal hw1 ha.1 ha.2 hp1).1
    have hw2' := (post_WF_Normal hw2 ha.1 ha.2 hp2).1
    obtain ⟨y, hy, hsy⟩ := ih hw1' hw2' hs' (fun b hb => hl b (List.mem_cons_of_mem _ hb)) hrest
    exact ⟨y, by rw [applyAll_cons_of_post _ hp2]; exact hy, hsy⟩

theorem runActs_cons_ok {d d' : Doc} {a : DocAction} {rest u : List DocAction}
    (h : runActs d (a :: rest) = .ok (d', u)) :
    ∃ r u', docAction d {} a = .ok r ∧ runActs r.doc rest = .ok (d', u') ∧ u = r.undo ++ u' := by
  simp only [runActs] at h
  cases hr : docAction d {} a with
  | error e => simp [hr] at h
  | ok r =>
    simp only [hr] at h
    cases hrest : runActs r.doc rest with
    | error e => simp [hrest] at h
    | ok p =>
      obtain ⟨d1, u1⟩ := p
      simp only [hrest, Except.ok.injEq, Prod.mk.injEq] at h
      obtain ⟨rfl, rfl⟩ := h
      exact ⟨r, u1, rfl, hrest, rfl⟩

theorem runActs_undo_WF {as : List DocAction} {d d' : Doc} {u : List DocAction} (hwf : WF d)
    (hn : Normal d) (hargs : ∀ a ∈ as, a.rowsPositive ∧ a.colsDistinct) (hex : undoExactRun d as)
    (h : runActs d as = .ok (d', u)) :
    WF d' ∧ Normal d' ∧ (∀ x ∈ u, x.rowsPositive ∧ x.colsDistinct) ∧ ∃ d'', applyAll d' u.reverse = .ok d'' ∧ Same d'' d := by
  induction as generalizing d u with
  | nil =>
    simp only [runActs, Except.ok.injEq, Prod.mk.injEq] at h
    obtain ⟨rfl, rfl⟩ := h
    exact ⟨hwf, hn, by simp, d, rfl, Same.refl d⟩
  | cons a rest ih =>
    obtain ⟨r, u', hr, hrest, rfl⟩ := runActs_cons_ok h
    have hp := post_of_ok hr
    have ha := hargs a (by simp)
    have hD := post_WF_Normal hwf ha.1 ha.2 hp
    obtain ⟨hwf', hn', hu', d1, hd1, hs1⟩ := ih hD.1 (hD.2.1 hn)
      (fun b hb => hargs b (List.mem_cons_of_mem _ hb)) (hex.2 r hr) hrest
    have hU := hD.2.2
    refine ⟨hwf', hn', ?_, ?_⟩
    · intro x hx
      rcases List.mem_append.1 hx with hx | hx
      · exact hU x hx
      · exact hu' x hx
    · obtain ⟨d0, hd0, hs0⟩ := post_undo hwf hn ha.1 hex.1 hp
      have hwd1 := applyAll_WF hwf' hn' (fun b hb => hu' b (List.mem_reverse.1 hb)) hd1
      obtain ⟨y, hy, hsy⟩ := applyAll_congr hD.1 hwd1.1 hs1.symm
        (fun b hb => hU b (List.mem_reverse.1 hb)) hd0
      refine ⟨y, ?_, hsy.symm.trans hs0⟩
      rw [List.reverse_append, applyAll_append hd1]
      exact hy

theorem stepDocs_cons (st : EState) (ab : DocAction × Bool) (rest : List (DocAction × Bool)) :
    stepDocs st (ab :: rest) =
      match stepDoc st ab.1 ab.2 with
      | .error e => .error e
      | .ok st1 => stepDocs st1 rest := by
  simp only [stepDocs, List.foldlM_cons]
  cases stepDoc st ab.1 ab.2 <;> rfl

theorem stepDoc_ok {st st1 : EState} {a : DocAction} {dir : Bool} (h : stepDoc st a dir = .ok st1) :
    ∃ r, docAction st.doc {} a = .ok r ∧ st1.doc = r.doc ∧ st1.undo = st.undo ++ r.undo ∧
      st1.stored = st.stored ++ [a] ∧ st1.direct = st.direct ++ [dir] := by
  simp only [stepDoc] at h
  cases hr : docAction st.doc st.summary a with
  | error e => simp [hr] at h
  | ok r0 =>
    simp only [hr, Except.ok.injEq] at h
    subst h
    obtain ⟨r, hr', hd, hu⟩ := ok_of_post {} (post_of_ok hr)
    exact ⟨r, hr', hd.symm, by rw [hu], rfl, rfl⟩

theorem stepDoc_of_post (st : EState) {a : DocAction} (dir : Bool) {D : Doc} {U : List DocAction}
    (h : Post st.doc a D U) :
    ∃ st1, stepDoc st a dir = .ok st1 ∧ st1.doc = D ∧ st1.undo = st.undo ++ U ∧
      st1.stored = st.stored ++ [a] ∧ st1.direct = st.direct ++ [dir] := by
  obtain ⟨r, hr, hd, hu⟩ := ok_of_post st.summary h
  refine ⟨_, by simp only [stepDoc, hr]; rfl, hd, by rw [← hu], rfl, rfl⟩

theorem stepDocs_ok {steps : List (DocAction × Bool)} {st st' : EState}
    (h : stepDocs st steps = .ok st') :
    ∃ u, runActs st.doc (steps.map (·.1)) = .ok (st'.doc, u) ∧ st'.undo = st.undo ++ u ∧
      st'.stored = st.stored ++ steps.map (·.1) ∧ st'.direct = st.direct ++ steps.map (·.2) := by
  induction steps generalizing st with
  | nil =>
    simp only [stepDocs, List.foldlM_nil, pure, Except.pure, Except.ok.injEq] at h
    subst h
    exact ⟨[], rfl, by simp, by simp, by simp⟩
  | cons ab rest ih =>
    rw [stepDocs_cons] at h
    cases h1 : stepDoc st ab.1 ab.2 with
    | error e => simp [h1] at h
    | ok st1 =>
      simp only [h1] at h
      obtain ⟨r, hr, hd, hu, hs, hdir⟩ := stepDoc_ok h1
      obtain ⟨u, hrun, hu', hs', hdir'⟩ := ih h
      refine ⟨r.undo ++ u, ?_, ?_, ?_, ?_⟩
      · simp only [List.map_cons, runActs, hr]
        rw [← hd, hrun]
      · rw [hu', hu, List.append_assoc]
      · rw [hs', hs]
        simp
      · rw [hdir', hdir]
        simp

theorem foldlM_stepDoc_of_applyAll {l : List DocAction} {st : EState} {x : Doc}
    (h : applyAll st.doc l = .ok x) :
    ∃ st2, l.foldlM (fun s a => stepDoc s a true) st = .ok st2 ∧ st2.doc = x ∧
      st2.stored = st.stored ++ l ∧ st2.direct = st.direct ++ l.map (fun _ => true) ∧
      ∃ w, st2.undo = st.undo ++ w := by
  induction l generalizing st with
  | nil =>
    simp only [applyAll, Except.ok.injEq] at h
    exact ⟨st, rfl, h, by simp, by simp, [], by simp⟩
  | cons a rest ih =>
    obtain ⟨D, U, hp, hrest⟩ := applyAll_cons_ok h
    obtain ⟨st1, h1, hd, hu, hs, hdir⟩ := stepDoc_of_post st true hp
    rw [← hd] at hrest
    obtain ⟨st2, h2, hd2, hs2, hdir2, w, hw⟩ := ih hrest
    refine ⟨st2, ?_, hd2, ?_, ?_, U ++ w, ?_⟩
    · simp only [List.foldlM_cons, h1, bind, Except.bind]
      exact h2
    · rw [hs2, hs]
      simp
    · rw [hdir2, hdir]
      simp
    · rw [hw, hu, List.append_assoc]

end Grist.Doc
