/-
The two classes of schedules for which C35 is proved, `FixedWF` and `MonthWF`.  For each: the `k`-th
boundary and its slot times in closed form, hence `InOrder`, and `Progress` from the interval alone.
-/
import GristProofs.Schedule
import GristProofs.ScheduleCivil
namespace Grist.Schedule

/-- The interval of `n-unit: ...` for a fixed-length unit and `n ≥ 1`. -/
structure FixedIv (sch : Sched) (n : Int) : Prop where
  unit_fixed : sch.unit ≠ .years ∧ sch.unit ≠ .months
  n_pos : 1 ≤ n
  interval_eq : sch.interval = { months := 0, us := n * sch.unit.us }

/-- A schedule `n-unit: slots` with a fixed-length unit, `n ≥ 1`, and slots that are plain
    offsets, strictly increasing, inside `[0, n units)`. -/
structure FixedWF (sch : Sched) (n : Int) : Prop extends FixedIv sch n where
  slots_ne : sch.slots ≠ []
  slots_months : ∀ s ∈ sch.slots, s.months = 0
  slots_window : ∀ s ∈ sch.slots, 0 ≤ s.us ∧ s.us < n * sch.unit.us
  slots_sorted : sch.slots.Pairwise (fun a b => a.us < b.us)

/-- An interval of `M ≥ 1` months (`n-month`: `M = n`; `n-year`: `M = 12 n`). -/
structure MonthIv (sch : Sched) (M : Int) : Prop where
  unit_month : sch.unit = .months ∨ (sch.unit = .years ∧ M % 12 = 0)
  m_pos : 1 ≤ M
  interval_eq : sch.interval = { months := M, us := 0 }

/-- A schedule whose interval is `M ≥ 1` months, with slots `(months, offset)` in
    lexicographically increasing order, `months < M`, and an offset of less than 28 days (so that
    it stays inside every month). -/
structure MonthWF (sch : Sched) (M : Int) : Prop extends MonthIv sch M where
  slots_ne : sch.slots ≠ []
  slots_window : ∀ s ∈ sch.slots, 0 ≤ s.months ∧ s.months < M ∧ 0 ≤ s.us ∧ s.us < 28 * usDay
  slots_sorted : sch.slots.Pairwise
    (fun a b => a.months < b.months ∨ (a.months = b.months ∧ a.us < b.us))

theorem dayOf_mono {a b : Int} (h : a ≤ b) : dayOf a ≤ dayOf b := Int.ediv_le_ediv usDay_pos h

theorem fom_usDay_le {i j : Int} (h : i ≤ j) : fom i * usDay ≤ fom j * usDay :=
  Int.mul_le_mul_of_nonneg_right (fom_mono h) (Int.le_of_lt usDay_pos)

/-- an offset of less than 28 days from the first of a month stays before every later month -/
theorem fom_offset_lt {i j x : Int} (h : i < j) (hx : x < 28 * usDay) :
    fom i * usDay + x < fom j * usDay := by
  have s1 := (fom_step i).1
  have s2 := @fom_mono (i + 1) j (by omega)
  have := Int.mul_le_mul_of_nonneg_right (show fom i + 28 ≤ fom j by omega) (Int.le_of_lt usDay_pos)
  rw [Int.add_mul] at this
  omega

theorem natCast_succ_mul (k : Nat) (P : Int) : ((k + 1 : Nat) : Int) * P = (k : Int) * P + P := by
  rw [Int.natCast_succ, Int.add_mul, Int.one_mul]

theorem unit_us_pos {u : TUnit} (h : u ≠ .years ∧ u ≠ .months) : 0 < u.us := by
  cases u
  · exact absurd rfl h.1
  · exact absurd rfl h.2
  all_goals decide

theorem FixedIv.period_ge {sch : Sched} {n : Int} (wf : FixedIv sch n) :
    sch.unit.us ≤ n * sch.unit.us := by
  have h := unit_us_pos wf.unit_fixed
  have := Int.mul_le_mul_of_nonneg_right wf.n_pos (Int.le_of_lt h)
  omega

theorem FixedIv.steps_nonneg {sch : Sched} {n : Int} (wf : FixedIv sch n) (k : Nat) :
    0 ≤ (k : Int) * (n * sch.unit.us) :=
  Int.mul_nonneg (Int.natCast_nonneg k)
    (Int.le_trans (Int.le_of_lt (unit_us_pos wf.unit_fixed)) wf.period_ge)

theorem FixedIv.day_le {sch : Sched} {n : Int} (wf : FixedIv sch n) {b : Int}
    (hb : day1900 ≤ dayOf b) (k : Nat) : day1900 ≤ dayOf (b + (k : Int) * (n * sch.unit.us)) :=
  Int.le_trans hb (dayOf_mono (Int.le_add_of_nonneg_right (wf.steps_nonneg k)))

theorem FixedIv.iterB_eq {sch : Sched} {n : Int} (wf : FixedIv sch n) (b : Int)
    (hb : day1900 ≤ dayOf b) (k : Nat) :
    iterB sch b k = b + (k : Int) * (n * sch.unit.us) := by
  induction k with
  | zero => simp
  | succ k ih =>
    rw [iterB_succ', ih, natCast_succ_mul, wf.interval_eq, addTo_fixed _ _ rfl (wf.day_le hb k)]
    exact (Int.add_assoc _ _ _)

theorem FixedWF.addTo_iterB {sch : Sched} {n : Int} (wf : FixedWF sch n) (b : Int)
    (hb : day1900 ≤ dayOf b) (k : Nat) (s : Delta) (hs : s ∈ sch.slots) :
    s.addTo (iterB sch b k) = b + (k : Int) * (n * sch.unit.us) + s.us := by
  rw [wf.toFixedIv.iterB_eq b hb k, addTo_fixed _ _ (wf.slots_months s hs) (wf.day_le hb k)]

theorem FixedWF.outs_eq {sch : Sched} {n : Int} (wf : FixedWF sch n) (b : Int)
    (hb : day1900 ≤ dayOf b) (k : Nat) :
    outsAt sch (iterB sch b k) =
      sch.slots.map (fun s => b + (k : Int) * (n * sch.unit.us) + s.us) :=
  List.map_congr_left (wf.addTo_iterB b hb k)

theorem FixedWF.inOrder {sch : Sched} {n : Int} (wf : FixedWF sch n) (b : Int)
    (hb : day1900 ≤ dayOf b) : InOrder sch b := by
  intro k
  rw [wf.outs_eq b hb k, wf.toFixedIv.iterB_eq b hb k, wf.toFixedIv.iterB_eq b hb (k + 1), natCast_succ_mul]
  constructor
  · rw [List.pairwise_map]
    exact wf.slots_sorted.imp (by intro a c h; omega)
  · intro x hx
    obtain ⟨s, hs, rfl⟩ := List.mem_map.mp hx
    have := wf.slots_window s hs
    omega

theorem MonthIv.steps_nonneg {sch : Sched} {M : Int} (wf : MonthIv sch M) (k : Nat) :
    0 ≤ (k : Int) * M :=
  Int.mul_nonneg (Int.natCast_nonneg k) (Int.le_trans (by decide) wf.m_pos)

theorem MonthIv.fom_le {sch : Sched} {M : Int} (wf : MonthIv sch M) {i : Int}
    (hb : day1900 ≤ fom i) (k : Nat) : day1900 ≤ fom (i + (k : Int) * M) :=
  Int.le_trans hb (fom_mono (Int.le_add_of_nonneg_right (wf.steps_nonneg k)))

theorem MonthIv.addTo_interval {sch : Sched} {M : Int} (wf : MonthIv sch M) (i : Int)
    (hb : day1900 ≤ fom i) : sch.interval.addTo (fom i * usDay) = fom (i + M) * usDay := by
  rw [wf.interval_eq, addTo_fom _ _ hb]
  exact Int.add_zero _

theorem MonthIv.iterB_eq {sch : Sched} {M : Int} (wf : MonthIv sch M) (i : Int)
    (hb : day1900 ≤ fom i) (k : Nat) :
    iterB sch (fom i * usDay) k = fom (i + (k : Int) * M) * usDay := by
  induction k with
  | zero => simp
  | succ k ih =>
    rw [iterB_succ', ih, natCast_succ_mul, wf.addTo_interval _ (wf.fom_le hb k), Int.add_assoc]

theorem MonthIv.addTo_iterB {sch : Sched} {M : Int} (wf : MonthIv sch M) (i : Int)
    (hb : day1900 ≤ fom i) (k : Nat) (s : Delta) :
    s.addTo (iterB sch (fom i * usDay) k) = fom (i + (k : Int) * M + s.months) * usDay + s.us := by
  rw [wf.iterB_eq i hb k, addTo_fom _ _ (wf.fom_le hb k)]

theorem MonthWF.outs_eq {sch : Sched} {M : Int} (wf : MonthWF sch M) (i : Int)
    (hb : day1900 ≤ fom i) (k : Nat) :
    outsAt sch (iterB sch (fom i * usDay) k) =
      sch.slots.map (fun s => fom (i + (k : Int) * M + s.months) * usDay + s.us) :=
  List.map_congr_left fun s _ => wf.toMonthIv.addTo_iterB i hb k s

theorem MonthWF.inOrder {sch : Sched} {M : Int} (wf : MonthWF sch M) (i : Int)
    (hb : day1900 ≤ fom i) : InOrder sch (fom i * usDay) := by
  intro k
  rw [wf.outs_eq i hb k, wf.toMonthIv.iterB_eq i hb k, wf.toMonthIv.iterB_eq i hb (k + 1),
    natCast_succ_mul,
    ← Int.add_assoc]
  generalize i + (k : Int) * M = j
  constructor
  · rw [List.pairwise_map]
    refine wf.slots_sorted.imp_of_mem ?_
    intro a c ha hc h
    have wa := wf.slots_window a ha
    have wc := wf.slots_window c hc
    rcases h with h | ⟨h1, h2⟩
    · have := @fom_offset_lt (j + a.months) (j + c.months) a.us (by omega) wa.2.2.2
      omega
    · rw [h1]
      omega
  · intro x hx
    obtain ⟨s, hs, rfl⟩ := List.mem_map.mp hx
    have w := wf.slots_window s hs
    have s0 := @fom_usDay_le j (j + s.months) (by omega)
    exact ⟨by omega, fom_offset_lt (by omega) w.2.2.2⟩

theorem floor_multiple (t K : Int) (hK : 0 < K) :
    t - t % K ≤ t ∧ t < t - t % K + K ∧ (t - t % K) % K = 0 := by
  obtain ⟨e, l, u⟩ := Cal.divmod_spec t K hK
  refine ⟨by omega, by omega, ?_⟩
  rw [show t - t % K = K * (t / K) by omega]
  exact Int.mul_emod_right K (t / K)

theorem FixedIv.progress {sch : Sched} {n : Int} (iv : FixedIv sch n) (b start : Int)
    (hb : day1900 ≤ dayOf b) (hs : start ≤ b)
    (hslots : ∀ s ∈ sch.slots, s.months = 0 ∧ 0 ≤ s.us) : Progress sch start b := by
  intro k s hs'
  have hk := iv.steps_nonneg k
  rw [iv.iterB_eq b hb k, addTo_fixed _ _ (hslots s hs').1 (iv.day_le hb k)]
  have := (hslots s hs').2
  omega

theorem MonthIv.progress {sch : Sched} {M : Int} (iv : MonthIv sch M) (i start : Int)
    (hb : day1900 ≤ fom i) (hs : start ≤ fom i * usDay)
    (hslots : ∀ s ∈ sch.slots, 0 ≤ s.months ∧ 0 ≤ s.us) : Progress sch start (fom i * usDay) := by
  intro k s hs'
  have hk := iv.steps_nonneg k
  have w := hslots s hs'
  have hm := @fom_usDay_le i (i + (k : Int) * M + s.months) (by omega)
  rw [iv.iterB_eq i hb k, addTo_fom _ _ (iv.fom_le hb k)]
  omega

end Grist.Schedule
