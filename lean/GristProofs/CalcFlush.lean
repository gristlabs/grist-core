/-
One calc column `(t, c)`: the start document, the engine's document, and the replay of what the flush
stored.  Defines `flushAction`, `mergedChange`, `SameRel` / `EncSame` and `ColView` (the start document
with the cells of one column changed).  Main facts: `changesToActions_stored`, `ColView.replay_sameRel`.
-/
import GristProofs.EngineLists
namespace Grist.Doc

/-- the rows `_changes_to_actions` reports for a column delta: those whose before and after differ
    under `equal_encoding`, sorted -/
def changedRows (delta : List (Nat × Val × Val)) : List Nat :=
  ((delta.filter (fun e => !equalEncoding e.2.1 e.2.2)).map (·.1)).mergeSort (· ≤ ·)

def afterOf (delta : List (Nat × Val × Val)) (r : Nat) : Val :=
  match delta.lookup r with
  | some (_, a) => a
  | none => .null

/-- the stored action a calc flush emits for a delta -/
def flushAction (t c : String) (delta : List (Nat × Val × Val)) : List DocAction :=
  if (changedRows delta).isEmpty then []
  else [updateAction t c (changedRows delta) ((changedRows delta).map (afterOf delta))]

/-- the merged `(first before, last after)` recorded for row `k` by a sequence of changes -/
def mergedChange (chs : List (Nat × Val × Val)) (k : Nat) : Option (Val × Val) :=
  match (chs.filter (·.1 == k)).head?, (chs.filter (·.1 == k)).getLast? with
  | some f, some l => some (f.2.1, l.2.2)
  | _, _ => none

def Col.RelOn (R : Val → Val → Prop) (rows : List Nat) (a b : Col) : Prop :=
  a.info = b.info ∧ ∀ r ∈ rows, R (a.cells r) (b.cells r)

def Table.SameRel (R : Val → Val → Prop) (a b : Table) : Prop :=
  a.rows = b.rows ∧
  ∀ c, match a.findCol? c, b.findCol? c with
    | none, none => True
    | some ca, some cb => Col.RelOn R a.rows ca cb
    | _, _ => False

/-- `Same` (DocSpec) with the equality of cell values replaced by `R` -/
def SameRel (R : Val → Val → Prop) (a b : Doc) : Prop :=
  ∀ t, match findTable? a t, findTable? b t with
    | none, none => True
    | some ta, some tb => Table.SameRel R ta tb
    | _, _ => False

/-- same tables, rows, columns; cell values equal as encoded values (`equal_encoding`) -/
def EncSame (a b : Doc) : Prop := SameRel (fun x y => equalEncoding x y = true) a b

/-- `X` looks like `d` with the cells of column `(t, c)` being `f` (seen through the lookups) -/
structure ColView (d : Doc) (t c : String) (tb : Table) (col : Col) (X : Doc) (f : Nat → Val) :
    Prop where
  other : ∀ t', t' ≠ t → findTable? X t' = findTable? d t'
  tbl : ∃ tbX, findTable? X t = some tbX ∧ tbX.rows = tb.rows ∧
    (∀ c', c' ≠ c → tbX.findCol? c' = tb.findCol? c') ∧
    ∃ colX, tbX.findCol? c = some colX ∧ colX.info = col.info ∧ colX.cells = f

def writeAfters (f : Nat → Val) (chs : List (Nat × Val × Val)) : Nat → Val :=
  chs.foldl (fun f ch => setCell f ch.1 ch.2.2) f

/-- the cells of the calc column after replaying the flush action on the start document -/
def replayCells (col : Col) (chs : List (Nat × Val × Val)) : Nat → Val := fun k =>
  if k ∈ changedRows (addChangesFold [] chs)
  then colSet col.info.type (afterOf (addChangesFold [] chs) k) else col.cells k

theorem replaceCol_id (tb : Table) (c : String) (col : Col) : (tb.replaceCol c col).id = tb.id := rfl
theorem replaceCol_rows (tb : Table) (c : String) (col : Col) :
    (tb.replaceCol c col).rows = tb.rows := rfl

/-! ### cells -/

/-- `stepCalc` keeps the cells and the recorded delta in step: a cell is the last `after` recorded
    for its row, or untouched. -/
theorem writeAfters_eq_delta (chs : List (Nat × Val × Val)) (f : Nat → Val) (k : Nat) :
    writeAfters f chs k = match (addChangesFold [] chs).lookup k with
      | none => f k
      | some (_, a) => a := by
  suffices ∀ (m : List (Nat × Val × Val)) (g : Nat → Val),
      (g k = match m.lookup k with | none => f k | some (_, a) => a) →
      writeAfters g chs k = match (addChangesFold m chs).lookup k with
        | none => f k
        | some (_, a) => a from this [] f rfl
  unfold writeAfters addChangesFold
  induction chs with
  | nil => exact fun m g h => h
  | cons ch chs ih =>
    intro m g h
    refine ih _ _ ?_
    rw [addChange_lookup]
    show (if k = ch.1 then ch.2.2 else g k) = _
    by_cases hk : k = ch.1
    · simp only [hk, ↓reduceIte]
    · simp only [hk, ↓reduceIte]
      exact h

theorem writeCalc_eq {d : Doc} {t c : String} {tb : Table} {col : Col}
    (hT : findTable? d t = some tb) (hC : tb.findCol? c = some col)
    (chs : List (Nat × Val × Val)) :
    writeCalc d t c chs =
      replaceTable d t (tb.replaceCol c { col with cells := writeAfters col.cells chs }) := by
  simp only [writeCalc, hT, hC, writeAfters]

theorem writeAfters_append (f : Nat → Val) (a b : List (Nat × Val × Val)) :
    writeAfters (writeAfters f a) b = writeAfters f (a ++ b) := by
  simp [writeAfters, List.foldl_append]

/-! ### consecutive calc steps on one column merge -/

theorem writeCalc_writeCalc {d : Doc} {t c : String} {tb : Table} {col : Col}
    (hT : findTable? d t = some tb) (hC : tb.findCol? c = some col)
    (chs1 chs2 : List (Nat × Val × Val)) :
    writeCalc (writeCalc d t c chs1) t c chs2 = writeCalc d t c (chs1 ++ chs2) := by
  rw [writeCalc_eq hT hC chs1, writeCalc_eq hT hC (chs1 ++ chs2)]
  have hid : (tb.replaceCol c { col with cells := writeAfters col.cells chs1 }).id = t :=
    (findTable?_some hT).1
  have hcid : ({ col with cells := writeAfters col.cells chs1 } : Col).id = c :=
    (findCol?_some hC).1
  rw [writeCalc_eq (findTable?_replaceTable_self hid hT) (findCol?_replaceCol_self hcid hC) chs2,
    replaceTable_replaceTable hid, replaceCol_replaceCol hcid]
  simp only [writeAfters_append]

theorem filter_ne_filter_ne_append {α β : Type} [DecidableEq α] (m : List (α × β)) (k : α) (v : β) :
    ((m.filter (·.1 != k)) ++ [(k, v)]).filter (·.1 != k) = m.filter (·.1 != k) := by
  simp [List.filter_append, List.filter_filter]

theorem Summary.put_put (s : Summary) (t : String) (a b : TableDelta) :
    (s.put t a).put t b = s.put t b := by
  simp only [Summary.put, filter_ne_filter_ne_append]

theorem Summary.addChanges_addChanges (s : Summary) (t c : String)
    (chs1 chs2 : List (Nat × Val × Val)) :
    (s.addChanges t c chs1).addChanges t c chs2 = s.addChanges t c (chs1 ++ chs2) := by
  unfold Summary.addChanges
  simp only [Summary.get_put, Summary.put_put, lookup_filter_ne_append, ↓reduceIte,
    Option.getD_some, filter_ne_filter_ne_append, List.foldl_append]

theorem stepCalc_stepCalc {st : EState} {t c : String} {tb : Table} {col : Col}
    (hT : findTable? st.doc t = some tb) (hC : tb.findCol? c = some col)
    (chs1 chs2 : List (Nat × Val × Val)) :
    stepCalc (stepCalc st t c chs1) t c chs2 = stepCalc st t c (chs1 ++ chs2) := by
  simp only [stepCalc, writeCalc_writeCalc hT hC, Summary.addChanges_addChanges]

/-! ### the flush of one column delta -/

theorem rootName_of_not_defunct {n : String} (h : isDefunct n = false) : rootName n = n := by
  simp only [isDefunct] at h
  simp [rootName, h]

theorem filterOutGoneRows_nil (s : Summary) (t : String) : s.filterOutGoneRows t [] = [] := by
  unfold Summary.filterOutGoneRows
  split <;> simp

theorem changesToActions_stored (s : Summary) (t c : String) (delta : List (Nat × Val × Val))
    (ht : isDefunct t = false) (hc : isDefunct c = false) :
    (s.changesToActions t c delta).1 =
      if (s.filterOutGoneRows t (changedRows delta)).isEmpty then []
      else [updateAction t c (s.filterOutGoneRows t (changedRows delta))
              ((s.filterOutGoneRows t (changedRows delta)).map (afterOf delta))] := by
  cases delta with
  | nil =>
    rw [Summary.changesToActions, if_pos List.isEmpty_nil]
    simp [changedRows, filterOutGoneRows_nil]
  | cons x delta =>
    rw [Summary.changesToActions, if_neg (by simp)]
    extract_lets changed fullRows defunct td origT origC t' c' valsOf rowsAfter stored
    -- both branches of `is_created` return the same `stored`
    refine (show _ = stored from ?_).trans ?_
    · split <;> rfl
    · simp only [stored, rowsAfter, defunct, t', c', ht, hc, rootName_of_not_defunct ht,
        rootName_of_not_defunct hc, Bool.or_self, Bool.not_false, ↓reduceIte]
      rfl

theorem applyAll_updateAction {d : Doc} {t c : String} {tb : Table} {col : Col}
    (hT : findTable? d t = some tb) (hC : tb.findCol? c = some col)
    (rows : List Nat) (vals : List Val) (hrows : ∀ r ∈ rows, r ∈ tb.rows) :
    applyAll d [updateAction t c rows vals] =
      .ok (replaceTable d t
              (tb.replaceCol c { col with cells := setCells col.info.type col.cells rows vals })) :=
  applyAll_single_of_post (U1 := _) ⟨tb, _, hT, hrows, by simp [hasCol_eq_true, hC],
    by simp [writeCols, hC], rfl, rfl⟩

/-! ### which rows the flush emits, and with which value -/

theorem mem_changedRows {delta : List (Nat × Val × Val)} (hn : (delta.map (·.1)).Nodup) (k : Nat) :
    k ∈ changedRows delta ↔ ∃ b a, delta.lookup k = some (b, a) ∧ equalEncoding b a = false := by
  simp only [changedRows, List.mem_mergeSort, List.mem_map, List.mem_filter]
  constructor
  · rintro ⟨⟨k', b, a⟩, ⟨hm, he⟩, rfl⟩
    exact ⟨b, a, lookup_eq_some_of_mem_nodup hn hm, by simpa using he⟩
  · rintro ⟨b, a, hl, he⟩
    exact ⟨(k, b, a), ⟨mem_of_lookup_eq_some hl, by simpa using he⟩, rfl⟩

theorem addChangesFold_nil_lookup (chs : List (Nat × Val × Val)) (k : Nat) :
    (addChangesFold [] chs).lookup k = mergedChange chs k := by
  rw [addChangesFold_lookup, mergedChange]
  cases h : chs.filter (·.1 == k) with
  | nil => simp
  | cons x xs => simp [List.getLast?_cons]

theorem addChangesFold_nil_nodup (chs : List (Nat × Val × Val)) :
    ((addChangesFold [] chs).map (·.1)).Nodup :=
  addChangesFold_keys_nodup chs [] (by simp)

theorem afterOf_merged {chs : List (Nat × Val × Val)} {k : Nat} {b a : Val}
    (h : mergedChange chs k = some (b, a)) : afterOf (addChangesFold [] chs) k = a := by
  simp [afterOf, addChangesFold_nil_lookup, h]

theorem mem_changedRows_merged (chs : List (Nat × Val × Val)) (k : Nat) :
    k ∈ changedRows (addChangesFold [] chs) ↔
      ∃ b a, mergedChange chs k = some (b, a) ∧ equalEncoding b a = false := by
  rw [mem_changedRows (addChangesFold_nil_nodup chs)]
  simp only [addChangesFold_nil_lookup]

theorem writeAfters_eq_mergedChange (chs : List (Nat × Val × Val)) (f : Nat → Val) (k : Nat) :
    writeAfters f chs k = match mergedChange chs k with
      | none => f k
      | some (_, a) => a := by
  rw [writeAfters_eq_delta, addChangesFold_nil_lookup]

theorem replayCells_eq (col : Col) (chs : List (Nat × Val × Val)) (k : Nat) :
    replayCells col chs k = match mergedChange chs k with
      | none => col.cells k
      | some (b, a) => if equalEncoding b a then col.cells k else colSet col.info.type a := by
  have hm := mem_changedRows_merged chs k
  unfold replayCells
  cases h : mergedChange chs k with
  | none => rw [if_neg (by simp [hm, h])]
  | some p =>
    obtain ⟨b, a⟩ := p
    rw [afterOf_merged h]
    cases he : equalEncoding b a with
    | false =>
      rw [if_pos (hm.mpr ⟨b, a, h, he⟩)]
      simp [he]
    | true =>
      rw [if_neg (by simp [hm, h, he])]
      simp [he]

theorem mergedChange_mem {chs : List (Nat × Val × Val)} {k : Nat} {b a : Val}
    (h : mergedChange chs k = some (b, a)) :
    (∃ f, (chs.filter (·.1 == k)).head? = some f ∧ f.2.1 = b) ∧ ∃ l ∈ chs, l.1 = k ∧ l.2.2 = a := by
  unfold mergedChange at h
  cases hh : (chs.filter (·.1 == k)).head? with
  | none =>
    rw [hh] at h
    simp at h
  | some f =>
    cases hl : (chs.filter (·.1 == k)).getLast? with
    | none =>
      rw [hh, hl] at h
      simp at h
    | some l =>
      rw [hh, hl] at h
      simp only [Option.some.injEq, Prod.mk.injEq] at h
      have := List.mem_of_getLast? hl
      rw [List.mem_filter] at this
      exact ⟨⟨f, rfl, h.1⟩, l, this.1, by simpa using this.2, h.2⟩

/-! ### comparing documents up to a relation on cell values -/

theorem sameRel_eq_iff_same (a b : Doc) : SameRel Eq a b ↔ Same a b := Iff.rfl

theorem equalEncoding_refl (a : Val) : equalEncoding a a = true := by
  cases a <;> simp [equalEncoding]

theorem Table.SameRel.refl {R : Val → Val → Prop} (hR : ∀ v, R v v) (x : Table) :
    Table.SameRel R x x := by
  refine ⟨rfl, fun c => ?_⟩
  cases x.findCol? c with
  | none => trivial
  | some col => exact ⟨rfl, fun r _ => hR _⟩

theorem ColView.self {d : Doc} {t c : String} {tb : Table} {col : Col}
    (hT : findTable? d t = some tb) (hC : tb.findCol? c = some col) :
    ColView d t c tb col d col.cells :=
  ⟨fun _ _ => rfl, tb, hT, rfl, fun _ _ => rfl, col, hC, rfl, rfl⟩

theorem ColView.replace {d : Doc} {t c : String} {tb : Table} {col : Col}
    (hT : findTable? d t = some tb) (hC : tb.findCol? c = some col) (f : Nat → Val) :
    ColView d t c tb col (replaceTable d t (tb.replaceCol c { col with cells := f })) f := by
  have hid : (tb.replaceCol c { col with cells := f }).id = t := by
    rw [replaceCol_id]
    exact (findTable?_some hT).1
  have hcid : ({ col with cells := f } : Col).id = c := (findCol?_some hC).1
  refine ⟨fun t' h => findTable?_replaceTable_ne hid h, _,
    findTable?_replaceTable_self hid hT, rfl, fun c' h => findCol?_replaceCol_ne hcid h,
    _, findCol?_replaceCol_self hcid hC, rfl, rfl⟩

theorem ColView.sameRel {d : Doc} {t c : String} {tb : Table} {col : Col} {X Y : Doc}
    {f g : Nat → Val} {R : Val → Val → Prop} (hX : ColView d t c tb col X f)
    (hY : ColView d t c tb col Y g) (hR : ∀ v, R v v) (hfg : ∀ k ∈ tb.rows, R (f k) (g k)) :
    SameRel R X Y := by
  intro t'
  by_cases ht : t' = t
  · subst ht
    obtain ⟨tbX, hX1, hX2, hX3, colX, hX4, hX5, hX6⟩ := hX.tbl
    obtain ⟨tbY, hY1, hY2, hY3, colY, hY4, hY5, hY6⟩ := hY.tbl
    rw [hX1, hY1]
    refine ⟨hX2.trans hY2.symm, fun c' => ?_⟩
    by_cases hc : c' = c
    · subst hc
      rw [hX4, hY4]
      exact ⟨hX5.trans hY5.symm, fun r hr => hX6 ▸ hY6 ▸ hfg r (hX2 ▸ hr)⟩
    · rw [hX3 c' hc, hY3 c' hc]
      cases tb.findCol? c' with
      | none => trivial
      | some cc => exact ⟨rfl, fun r _ => hR _⟩
  · rw [hX.other t' ht, hY.other t' ht]
    cases findTable? d t' with
    | none => trivial
    | some x => exact Table.SameRel.refl hR x

theorem replayCells_of_no_change (col : Col) (chs : List (Nat × Val × Val))
    (h : changedRows (addChangesFold [] chs) = []) : replayCells col chs = col.cells := by
  funext k
  simp [replayCells, h]

theorem replay_vs_engine_cells (col : Col) (chs : List (Nat × Val × Val))
    (hnorm : ∀ ch ∈ chs, colSet col.info.type ch.2.2 = ch.2.2) (k : Nat) :
    match mergedChange chs k with
    | none => writeAfters col.cells chs k = col.cells k ∧ replayCells col chs k = col.cells k
    | some (b, a) => writeAfters col.cells chs k = a ∧
        replayCells col chs k = if equalEncoding b a then col.cells k else a := by
  have h1 := writeAfters_eq_mergedChange chs col.cells k
  have h2 := replayCells_eq col chs k
  cases h : mergedChange chs k with
  | none =>
    rw [h] at h1 h2
    exact ⟨h1, h2⟩
  | some p =>
    obtain ⟨b, a⟩ := p
    rw [h] at h1 h2
    obtain ⟨_, l, hl1, _, hl3⟩ := mergedChange_mem h
    have := hnorm l hl1
    rw [hl3] at this
    simp only at h1 h2
    rw [this] at h2
    exact ⟨h1, h2⟩

/-- A reflexive `R` relates the replayed and the engine's view as soon as it relates the start cell
    to the last `after` at the rows whose update the flush suppressed. -/
theorem ColView.replay_sameRel {D : Doc} {t c : String} {tb : Table} {col : Col} {X Y : Doc}
    {chs : List (Nat × Val × Val)} {R : Val → Val → Prop}
    (hX : ColView D t c tb col X (replayCells col chs))
    (hY : ColView D t c tb col Y (writeAfters col.cells chs)) (hR : ∀ v, R v v)
    (hnorm : ∀ ch ∈ chs, colSet col.info.type ch.2.2 = ch.2.2)
    (hkeep : ∀ k b a, mergedChange chs k = some (b, a) → equalEncoding b a = true →
      R (col.cells k) a) : SameRel R X Y := by
  refine hX.sameRel hY hR (fun k _ => ?_)
  have := replay_vs_engine_cells col chs hnorm k
  cases hm : mergedChange chs k with
  | none =>
    rw [hm] at this
    rw [this.1, this.2]
    exact hR _
  | some p =>
    obtain ⟨b, a⟩ := p
    rw [hm] at this
    rw [this.1, this.2]
    cases he : equalEncoding b a with
    | false => exact hR _
    | true => exact hkeep k b a hm he

end Grist.Doc
