/-
Recalc: `closure` is closed under readers; every transition preserves `WFState`, `Inv` and `Inv2`
(the latter two by one argument for `CleanInv Q`).  Defines `Doom` and `Inv2`: a circ-marked cell is
*doomed* — its reads reach, through clean prefixes, a clean `circ` cell or a dirty doomed cell — so
by strictness its formula evaluates to `circ` once everything is clean.
-/
import GristProofs.RecalcBase
namespace Grist.Recalc

theorem mem_readersStep {p : Prog} {n : Nat} {s : List Nat} {c : Nat} :
    c ∈ readersStep p n s ↔
      c < n ∧ (c ∈ s ∨ (p.formula c = true ∧ ∃ d ∈ p.deps c, d ∈ s)) := by
  simp [readersStep, List.mem_filter]

/-- `closure` is `n` rounds of `readersStep` on the seed -/
theorem closure_induction {p : Prog} {n : Nat} {s : List Nat} {I : Nat → List Nat → Prop}
    (h0 : I 0 (s.filter (· < n))) (hs : ∀ i a, I i a → I (i + 1) (readersStep p n a)) :
    I n (closure p n s) := by
  have key : ∀ (l : List Nat) i a, I i a →
      I (i + l.length) (l.foldl (fun acc _ => readersStep p n acc) a) := by
    intro l
    induction l with
    | nil =>
      intro i a h
      exact h
    | cons x xs ih =>
      intro i a h
      rw [List.length_cons, Nat.add_comm xs.length, ← Nat.add_assoc]
      exact ih _ _ (hs i a h)
  have := key (List.range n) 0 _ h0
  rwa [List.length_range, Nat.zero_add] at this

def RClosed (p : Prog) (n : Nat) (s : List Nat) : Prop := ∀ x ∈ readersStep p n s, x ∈ s

theorem RClosed.step {p : Prog} {n : Nat} {s : List Nat} (h : RClosed p n s) :
    RClosed p n (readersStep p n s) := by
  intro x hx
  obtain ⟨hlt, hx⟩ := mem_readersStep.mp hx
  refine mem_readersStep.mpr ⟨hlt, ?_⟩
  rcases hx with hx | ⟨hf, d, hd, hds⟩
  · exact (mem_readersStep.mp hx).2
  · exact .inr ⟨hf, d, hd, h d hds⟩

def cnt (n : Nat) (s : List Nat) : Nat := ((List.range n).filter (fun c => s.contains c)).length

theorem filter_length_lt {α : Type} {l : List α} {P Q : α → Bool}
    (hPQ : ∀ x ∈ l, P x = true → Q x = true) (hx : ∃ x ∈ l, Q x = true ∧ P x = false) :
    (l.filter P).length < (l.filter Q).length := by
  have e : l.filter P = (l.filter Q).filter P := by
    rw [List.filter_filter]
    exact List.filter_congr fun x hx => by cases h : P x <;> simp [hPQ x hx, h]
  obtain ⟨x, hxl, hq, hp⟩ := hx
  rw [e]
  exact List.length_filter_lt_length_iff_exists.mpr ⟨x, List.mem_filter.mpr ⟨hxl, hq⟩, by simp [hp]⟩

theorem cnt_lt_of_not_closed {p : Prog} {n : Nat} {s : List Nat} (h : ¬ RClosed p n s) :
    cnt n s < cnt n (readersStep p n s) := by
  have hex : ∃ x, x ∈ readersStep p n s ∧ x ∉ s :=
    Classical.byContradiction (fun hne => h (fun x hx =>
      Classical.byContradiction (fun hn => hne ⟨x, hx, hn⟩)))
  obtain ⟨x, hx, hn⟩ := hex
  refine filter_length_lt (fun x hx hs => ?_)
    ⟨x, List.mem_range.mpr (mem_readersStep.mp hx).1, by simpa using hx, by simpa using hn⟩
  simp only [List.contains_iff_mem] at hs ⊢
  exact mem_readersStep.mpr ⟨List.mem_range.mp hx, .inl hs⟩

/-- Each round of `readersStep` on a set that is not yet closed adds a cell `< n`; so after `n`
    rounds the set is closed, or holds all `n` cells (and then is closed too). -/
theorem closure_rclosed (p : Prog) (n : Nat) (s : List Nat) : RClosed p n (closure p n s) := by
  have h := closure_induction (p := p) (s := s) (I := fun i a => RClosed p n a ∨ i ≤ cnt n a)
    (.inr (Nat.zero_le _)) (fun i a ih => by
      by_cases hc : RClosed p n a
      · exact .inl hc.step
      · have := cnt_lt_of_not_closed hc
        have := ih.resolve_left hc
        exact .inr (by omega))
  refine h.elim id fun h x hx => ?_
  have hle : cnt n (closure p n s) ≤ (List.range n).length := List.length_filter_le _ _
  have hge : (List.range n).length ≤ cnt n (closure p n s) :=
    Nat.le_trans (Nat.le_of_eq List.length_range) h
  have hall := List.length_filter_eq_length_iff.mp (Nat.le_antisymm hle hge)
  simpa using hall x (List.mem_range.mpr (mem_readersStep.mp hx).1)

theorem closure_seed (p : Prog) (n : Nat) (s : List Nat) {x : Nat} (hx : x ∈ s) (hlt : x < n) :
    x ∈ closure p n s :=
  closure_induction (I := fun _ a => x ∈ a) (by simp [hx, hlt])
    fun _ _ ih => mem_readersStep.mpr ⟨hlt, .inl ih⟩

theorem closure_origin (p : Prog) (n : Nat) (s : List Nat) {x : Nat} (hx : x ∈ closure p n s) :
    x < n ∧ (x ∈ s ∨ p.formula x = true) := by
  refine closure_induction (I := fun _ a => ∀ x ∈ a, x < n ∧ (x ∈ s ∨ p.formula x = true))
    (fun x hx => ?_) (fun _ a ih x hx => ?_) x hx
  · have := List.mem_filter.mp hx
    exact ⟨by simpa using this.2, .inl this.1⟩
  · obtain ⟨hlt, hx⟩ := mem_readersStep.mp hx
    exact hx.elim (ih x) fun h => ⟨hlt, .inr h.1⟩

theorem closure_closed (p : Prog) (n : Nat) (s : List Nat) {d k : Nat} (hd : d ∈ closure p n s)
    (hk : k < n) (hf : p.formula k = true) (hdep : d ∈ p.deps k) : k ∈ closure p n s :=
  closure_rclosed p n s k (mem_readersStep.mpr ⟨hk, .inr ⟨hf, d, hdep, hd⟩⟩)

theorem upd_ne {σ : Nat → V} {c k : Nat} {v : V} (h : k ≠ c) : upd σ c v k = σ k := by
  simp [upd, h]

theorem upd_agree_of_not_mem {σ : Nat → V} {c : Nat} {v : V} {l : List Nat} (h : c ∉ l) :
    ∀ d ∈ l, σ d = upd σ c v d :=
  fun d hd => (upd_ne fun e : d = c => h (e ▸ hd)).symm

theorem reads_upd {p : Prog} (hr : p.Respects) {σ : Nat → V} {k c0 : Nat} (v : V)
    (hnr : c0 ∉ p.reads k σ) :
    p.reads k (upd σ c0 v) = p.reads k σ ∧ p.f k (upd σ c0 v) = p.f k σ :=
  hr.2 k σ (upd σ c0 v) (upd_agree_of_not_mem hnr)

theorem Good.upd {p : Prog} (hr : p.Respects) {st : State} {k c0 : Nat} {v : V} {dirty' : List Nat}
    (hg : Good p st k) (hne : k ≠ c0) (hnr : c0 ∉ p.reads k st.σ)
    (hd : ∀ d ∈ p.reads k st.σ, d ∉ dirty') :
    Good p { σ := upd st.σ c0 v, dirty := dirty' } k := by
  obtain ⟨e1, e2⟩ := reads_upd hr v hnr
  refine ⟨?_, ?_⟩
  · rw [e1]
    exact hd
  · rw [e2, ← hg.2]
    exact upd_ne hne

theorem good_eval {p : Prog} (hr : p.Respects) {st : State} {c0 : Nat} (hd : c0 ∈ st.dirty)
    (hb : blocker p st c0 = none) :
    Good p { σ := upd st.σ c0 (p.f c0 st.σ), dirty := st.dirty.filter (· != c0) } c0 := by
  have hb' := blocker_eq_none.mp hb
  obtain ⟨e1, e2⟩ := reads_upd hr (p.f c0 st.σ) fun hm => hb' c0 hm hd
  refine ⟨?_, ?_⟩
  · rw [e1]
    exact fun d hd' hm => hb' d hd' (mem_filter_ne.mp hm).1
  · rw [e2]
    simp [upd]

theorem WFState.filter {p : Prog} {n : Nat} {st : State} (hw : WFState p n st) (c : Nat)
    (σ' : Nat → V) : WFState p n { σ := σ', dirty := st.dirty.filter (· != c) } :=
  ⟨fun k hk => hw.dirty_formula k (mem_filter_ne.mp hk).1,
   List.Nodup.sublist List.filter_sublist hw.dirty_nodup, hw.deps_lt⟩

theorem mem_write_dirty {p : Prog} {n : Nat} {st : State} {c0 k : Nat} :
    k ∈ (List.range n).filter (fun k => st.dirty.contains k ||
        (k != c0 && (closure p n [c0]).contains k)) ↔
      k < n ∧ (k ∈ st.dirty ∨ (k ≠ c0 ∧ k ∈ closure p n [c0])) := by
  simp [List.mem_filter]

theorem WFState.step {p : Prog} {n : Nat} {st st' : State} {e : Ev} (hw : WFState p n st)
    (h : step p n st e = some st') : WFState p n st' := by
  cases e with
  | eval c0 =>
    obtain ⟨_, rfl⟩ := step_eval_iff.mp h
    exact hw.filter _ _
  | circ c0 =>
    obtain ⟨_, rfl⟩ := step_circ_iff.mp h
    exact hw.filter _ _
  | write c0 v =>
    obtain ⟨_, rfl⟩ := step_write_iff.mp h
    refine ⟨fun k hk => ?_, List.Nodup.sublist List.filter_sublist List.nodup_range, hw.deps_lt⟩
    obtain ⟨hlt, hk | ⟨hne, hk⟩⟩ := mem_write_dirty.mp hk
    · exact hw.dirty_formula k hk
    · exact ⟨(closure_origin p n [c0] hk).2.resolve_left (by simpa using hne), hlt⟩

theorem CleanInv.calc {Q : State → Nat → Prop} {p : Prog} (hr : p.Respects) {n : Nat} {st : State}
    (hi : CleanInv Q p n st) {c0 : Nat} {v : V} (hc0 : c0 ∈ st.dirty)
    (hQ : ∀ k, Q st k → Q { σ := upd st.σ c0 v, dirty := st.dirty.filter (· != c0) } k)
    (hself : Good p { σ := upd st.σ c0 v, dirty := st.dirty.filter (· != c0) } c0 ∨
      (v = V.circ ∧ Q { σ := upd st.σ c0 v, dirty := st.dirty.filter (· != c0) } c0)) :
    CleanInv Q p n { σ := upd st.σ c0 v, dirty := st.dirty.filter (· != c0) } := by
  intro k hk hf hnd
  by_cases hkc : k = c0
  · subst hkc
    exact hself.imp_right fun h => ⟨by simp [upd, h.1], h.2⟩
  · have hnd' : k ∉ st.dirty := fun h => hnd (mem_filter_ne.mpr ⟨h, hkc⟩)
    rcases hi k hk hf hnd' with hg | ⟨h1, h2⟩
    · exact .inl (hg.upd hr hkc (fun h => hg.1 c0 h hc0)
        fun d hd hm => hg.1 d hd (mem_filter_ne.mp hm).1)
    · exact .inr ⟨(upd_ne hkc).trans h1, hQ k h2⟩

/-- `write c0 v`: a clean cell outside `closure [c0]` reads nothing inside it (the closure is
    closed under readers), so it stays good; `Q` has to survive for such cells -/
theorem CleanInv.write {Q : State → Nat → Prop} {p : Prog} (hr : p.Respects) {n : Nat} {st : State}
    (hi : CleanInv Q p n st) {c0 : Nat} {v : V} (hnf : p.formula c0 = false) (hlt : c0 < n)
    {D' : List Nat}
    (hD : ∀ k, k ∈ D' ↔ k < n ∧ (k ∈ st.dirty ∨ (k ≠ c0 ∧ k ∈ closure p n [c0])))
    (hQ : ∀ k, k < n → p.formula k = true → k ∉ closure p n [c0] → Q st k →
      Q { σ := upd st.σ c0 v, dirty := D' } k) :
    CleanInv Q p n { σ := upd st.σ c0 v, dirty := D' } := by
  intro k hk hf hnd
  have hkc : k ≠ c0 := by
    rintro rfl
    rw [hnf] at hf
    cases hf
  have hnd0 : k ∉ st.dirty := fun hm => hnd ((hD k).mpr ⟨hk, .inl hm⟩)
  have hncl : k ∉ closure p n [c0] := fun hm => hnd ((hD k).mpr ⟨hk, .inr ⟨hkc, hm⟩⟩)
  have hout : ∀ d ∈ p.reads k st.σ, d ∉ closure p n [c0] :=
    fun d hd hm => hncl (closure_closed p n [c0] hm hk hf (hr.1 _ _ _ hd))
  rcases hi k hk hf hnd0 with hg | ⟨h1, h2⟩
  · refine .inl (hg.upd hr hkc (fun hm => hout c0 hm (closure_seed p n [c0] (by simp) hlt)) ?_)
    intro d hd hm
    exact ((hD d).mp hm).2.elim (hg.1 d hd) fun h' => hout d hd h'.2
  · exact .inr ⟨(upd_ne hkc).trans h1, hQ k hk hf hncl h2⟩

theorem inv_step {p : Prog} (hr : p.Respects) {n : Nat} {st st' : State} {e : Ev}
    (hi : Inv p n st) (h : step p n st e = some st') : Inv p n st' := by
  rw [inv_iff_cleanInv] at hi ⊢
  cases e with
  | eval c0 =>
    obtain ⟨⟨_, _, hd, hb⟩, rfl⟩ := step_eval_iff.mp h
    exact CleanInv.calc hr hi hd (fun _ h => h)
      (.inl (good_eval hr hd hb))
  | circ c0 =>
    obtain ⟨⟨_, hf, hd, hb⟩, rfl⟩ := step_circ_iff.mp h
    exact CleanInv.calc hr hi hd (fun _ h => h)
      (.inr ⟨rfl, reaches_of_blockCycle hr n c0 hf hb⟩)
  | write c0 v =>
    obtain ⟨⟨hnf, hlt⟩, rfl⟩ := step_write_iff.mp h
    exact CleanInv.write hr hi hnf hlt
      (fun _ => mem_write_dirty) (fun _ _ _ _ h => h)

theorem inv_run {p : Prog} (hr : p.Respects) {n : Nat} (es : List Ev) {st st' : State}
    (hw : WFState p n st) (hi : Inv p n st) (h : run p n st es = some st') :
    Inv p n st' ∧ WFState p n st' :=
  run_induction (I := fun s => Inv p n s ∧ WFState p n s) es
    (fun _ _ _ _ hs h => ⟨inv_step hr hs.1 h, hs.2.step h⟩) ⟨hi, hw⟩ h

theorem inv_quiescent {p : Prog} {n : Nat} {st : State} (hi : Inv p n st) (hq : st.dirty = []) :
    ∀ c, c < n → p.formula c = true →
      st.σ c = p.f c st.σ ∨ (st.σ c = V.circ ∧ DependsOnSelf p n c) :=
  fun c hc hf => (hi c hc hf (by simp [hq])).imp_left fun hg => hg.2

/-- `c` is doomed to evaluate to `circ` -/
inductive Doom (p : Prog) (st : State) : Nat → Prop
  | base {c : Nat} {pre : List Nat} {d : Nat} {post : List Nat} :
      p.reads c st.σ = pre ++ d :: post → (∀ x ∈ pre, x ∉ st.dirty) → d ∉ st.dirty →
      st.σ d = V.circ → Doom p st c
  | link {c : Nat} {pre : List Nat} {d : Nat} {post : List Nat} :
      p.reads c st.σ = pre ++ d :: post → (∀ x ∈ pre, x ∉ st.dirty) → d ∈ st.dirty →
      Doom p st d → Doom p st c

/-- the strengthened invariant: a clean formula cell is good, or holds `circ` and is doomed -/
def Inv2 (p : Prog) (n : Nat) (st : State) : Prop :=
  ∀ c, c < n → p.formula c = true → c ∉ st.dirty →
    Good p st c ∨ (st.σ c = V.circ ∧ Doom p st c)

theorem inv2_iff_cleanInv {p : Prog} {n : Nat} {st : State} :
    Inv2 p n st ↔ CleanInv (Doom p) p n st := Iff.rfl

theorem Inv2.of_all_dirty {p : Prog} {n : Nat} {st : State}
    (h : ∀ c, c < n → p.formula c = true → c ∈ st.dirty) : Inv2 p n st :=
  inv2_iff_cleanInv.mpr (.of_all_dirty h)

theorem Doom.f_circ {p : Prog} (hs : p.Strict) {st : State} {c : Nat} (h : Doom p st c)
    (hb : ∀ d ∈ p.reads c st.σ, d ∉ st.dirty) : p.f c st.σ = V.circ := by
  cases h with
  | base hr _ _ hc => exact hs c st.σ ⟨_, hr ▸ List.mem_append_cons_self, hc⟩
  | link hr _ hd _ => exact absurd hd (hb _ (hr ▸ List.mem_append_cons_self))

theorem prefix_calc {p : Prog} (hp : p.PrefixDet) {st : State} {c0 : Nat} (hc0 : c0 ∈ st.dirty)
    (v : V) {c d : Nat} {pre post : List Nat} (hr : p.reads c st.σ = pre ++ d :: post)
    (hpre : ∀ x ∈ pre, x ∉ st.dirty) :
    (∃ post', p.reads c (upd st.σ c0 v) = pre ++ d :: post') ∧
      ∀ x ∈ pre, x ∉ st.dirty.filter (· != c0) :=
  ⟨hp c st.σ (upd st.σ c0 v) pre d post hr (upd_agree_of_not_mem fun hm => hpre c0 hm hc0),
   fun x hx hm => hpre x hx (mem_filter_ne.mp hm).1⟩

theorem Doom.calc {p : Prog} (hp : p.PrefixDet) {st : State} {c0 : Nat} {v : V}
    (hc0 : c0 ∈ st.dirty) (hv : Doom p st c0 → v = V.circ) {c : Nat} (h : Doom p st c) :
    Doom p { σ := upd st.σ c0 v, dirty := st.dirty.filter (· != c0) } c := by
  induction h with
  | @base c pre d post hr hpre hd hc =>
    obtain ⟨⟨post', hr'⟩, hpre'⟩ := prefix_calc hp hc0 v hr hpre
    exact .base hr' hpre' (fun hm => hd (mem_filter_ne.mp hm).1)
      ((upd_ne fun e : d = c0 => hd (e ▸ hc0)).trans hc)
  | @link c pre d post hr hpre hd hdoom ih =>
    obtain ⟨⟨post', hr'⟩, hpre'⟩ := prefix_calc hp hc0 v hr hpre
    by_cases hdc : d = c0
    · subst hdc
      refine .base hr' hpre' (fun hm => (mem_filter_ne.mp hm).2 rfl) ?_
      simp [upd, hv hdoom]
    · exact .link hr' hpre' (mem_filter_ne.mpr ⟨hd, hdc⟩) ih

/-- after the cycle branch marks `c0`, every cell on the blocking chain back to `c0` is doomed -/
theorem doom_of_blockCycle {p : Prog} (hp : p.PrefixDet) {st : State} {c0 : Nat}
    (hc0 : c0 ∈ st.dirty) : ∀ (fuel cur : Nat), blockCycle p st c0 fuel cur = true →
      Doom p { σ := upd st.σ c0 V.circ, dirty := st.dirty.filter (· != c0) } cur := by
  intro fuel
  induction fuel with
  | zero =>
    intro cur h
    cases h
  | succ fuel ih =>
    intro cur h
    simp only [blockCycle] at h
    split at h
    · cases h
    · rename_i d hd
      obtain ⟨_, hdd, pre, post, hr, hpre⟩ := blocker_eq_some hd
      obtain ⟨⟨post', hr'⟩, hpre'⟩ := prefix_calc hp hc0 V.circ hr hpre
      by_cases hdc : d = c0
      · subst hdc
        refine .base hr' hpre' (fun hm => (mem_filter_ne.mp hm).2 rfl) ?_
        simp [upd]
      · have hne : (d == c0) = false := by simpa using hdc
        simp only [hne, Bool.false_or, Bool.and_eq_true] at h
        exact .link hr' hpre' (mem_filter_ne.mpr ⟨hdd, hdc⟩) (ih d h.2)

theorem Doom.write {p : Prog} (hr : p.Respects) {n : Nat} {st : State} (hw : WFState p n st)
    {c0 : Nat} {v : V} {D' : List Nat}
    (hD : ∀ k, k ∈ D' ↔ k < n ∧ (k ∈ st.dirty ∨ (k ≠ c0 ∧ k ∈ closure p n [c0])))
    (hc0 : c0 ∈ closure p n [c0]) {c : Nat} (h : Doom p st c) :
    c < n → p.formula c = true → c ∉ closure p n [c0] →
    Doom p { σ := upd st.σ c0 v, dirty := D' } c := by
  -- `c` reads nothing in `closure [c0]`: its reads are unchanged, the clean ones stay clean
  have key : ∀ {c}, c < n → p.formula c = true → c ∉ closure p n [c0] →
      p.reads c (upd st.σ c0 v) = p.reads c st.σ ∧ c0 ∉ p.reads c st.σ ∧
      (∀ x ∈ p.reads c st.σ, x ∉ closure p n [c0] ∧ (x ∉ st.dirty → x ∉ D')) := by
    intro c hc hf hncl
    have hout : ∀ x ∈ p.reads c st.σ, x ∉ closure p n [c0] :=
      fun x hx hm => hncl (closure_closed p n [c0] hm hc hf (hr.1 _ _ _ hx))
    have hnr : c0 ∉ p.reads c st.σ := fun hm => hout c0 hm hc0
    exact ⟨(reads_upd hr v hnr).1, hnr, fun x hx => ⟨hout x hx, fun hnd hm =>
      ((hD x).mp hm).2.elim hnd fun h' => hout x hx h'.2⟩⟩
  induction h with
  | @base c pre d post hrd hpre hd hcirc =>
    intro hc hf hncl
    obtain ⟨e1, hnr, hcl⟩ := key hc hf hncl
    have hdm : d ∈ p.reads c st.σ := hrd ▸ List.mem_append_cons_self
    exact .base (e1.trans hrd) (fun x hx => (hcl x (hrd ▸ List.mem_append_left _ hx)).2 (hpre x hx))
      ((hcl d hdm).2 hd) ((upd_ne fun e : d = c0 => hnr (e ▸ hdm)).trans hcirc)
  | @link c pre d post hrd hpre hd _ ih =>
    intro hc hf hncl
    obtain ⟨e1, _, hcl⟩ := key hc hf hncl
    obtain ⟨hfd, hdn⟩ := hw.dirty_formula d hd
    exact .link (e1.trans hrd) (fun x hx => (hcl x (hrd ▸ List.mem_append_left _ hx)).2 (hpre x hx))
      ((hD d).mpr ⟨hdn, .inl hd⟩) (ih hdn hfd (hcl d (hrd ▸ List.mem_append_cons_self)).1)

/-- every transition preserves `Inv2` (well-formedness is needed for `write` only) -/
theorem inv2_step {p : Prog} (hr : p.Respects) (hs : p.Strict) (hp : p.PrefixDet) {n : Nat}
    {st st' : State} {e : Ev} (hw : e.isCalc = true ∨ WFState p n st) (hi : Inv2 p n st)
    (h : step p n st e = some st') : Inv2 p n st' := by
  rw [inv2_iff_cleanInv] at hi ⊢
  cases e with
  | eval c0 =>
    obtain ⟨⟨_, _, hd, hb⟩, rfl⟩ := step_eval_iff.mp h
    exact CleanInv.calc hr hi hd
      (fun _ h => h.calc hp hd fun hdoom => hdoom.f_circ hs (blocker_eq_none.mp hb))
      (.inl (good_eval hr hd hb))
  | circ c0 =>
    obtain ⟨⟨_, _, hd, hb⟩, rfl⟩ := step_circ_iff.mp h
    exact CleanInv.calc hr hi hd (fun _ h => h.calc hp hd fun _ => rfl)
      (.inr ⟨rfl, doom_of_blockCycle hp hd n c0 hb⟩)
  | write c0 v =>
    obtain ⟨⟨hnf, hlt⟩, rfl⟩ := step_write_iff.mp h
    have hw := hw.resolve_left (by simp [Ev.isCalc])
    exact CleanInv.write hr hi hnf hlt (fun _ => mem_write_dirty)
      fun k hk hf hncl h => h.write hr hw (fun _ => mem_write_dirty)
        (closure_seed p n [c0] (by simp) hlt) hk hf hncl

theorem inv2_run {p : Prog} (hr : p.Respects) (hs : p.Strict) (hp : p.PrefixDet) {n : Nat}
    (es : List Ev) {st st' : State} (hw : WFState p n st) (hi : Inv2 p n st)
    (h : run p n st es = some st') : Inv2 p n st' :=
  (run_induction (I := fun s => WFState p n s ∧ Inv2 p n s) es
    (fun _ _ _ _ hI h => ⟨hI.1.step h, inv2_step hr hs hp (.inr hI.1) hI.2 h⟩) ⟨hw, hi⟩ h).2

theorem inv2_quiescent {p : Prog} (hs : p.Strict) {n : Nat} {st : State} (hi : Inv2 p n st)
    (hq : st.dirty = []) : ∀ c, c < n → p.formula c = true → st.σ c = p.f c st.σ := by
  intro c hc hf
  rcases hi c hc hf (by simp [hq]) with hg | ⟨h1, h2⟩
  · exact hg.2
  · rw [h1, h2.f_circ hs (by simp [hq])]

end Grist.Recalc
