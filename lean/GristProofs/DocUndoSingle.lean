/-
Replaying the undo actions of one doc action, in reverse, restores the document up to `Same`
(`post_undo`).  For the actions that work in one table this is shown at the table (`TPost.undo_*`: a
`TRun` from the new table back to one that is `Table.Same` as the old) and lifted by `undo_local`;
`written_back`: writing old cells back restores a table.
-/
import GristProofs.DocLocal
namespace Grist.Doc

theorem findTable?_filter_append {d : Doc} {t : String} {nt : Table} (hid : nt.id = t) (t' : String) :
    findTable? (d.filter (fun x => x.id != t) ++ [nt]) t' =
      if t' = t then some nt else findTable? d t' := by
  rw [findTable?_append_single, findTable?_filter_ne, hid]
  by_cases h : t' = t
  · simp [h]
  · simp [h, Ne.symm h]

theorem eq_of_mem_of_id_eq {tb : Table} (hnd : (tb.cols.map (·.id)).Nodup) {x y : Col}
    (hx : x ∈ tb.cols) (hy : y ∈ tb.cols) (h : x.id = y.id) : x = y := by
  have h1 := findCol?_of_mem hnd hx
  have h2 := findCol?_of_mem hnd hy
  rw [h, h2] at h1
  exact (Option.some.inj h1).symm

/-- (prove `hid` by `dsimp only [F]`: for `rfl` the unifier first compares `F x` with `x` field by
    field and unfolds `typeDefault`) -/
theorem tableSame_map {tb tb' : Table} (F : Col → Col) (hid : ∀ x, (F x).id = x.id)
    (hcols : tb'.cols = tb.cols.map F) (hrows : tb'.rows = tb.rows)
    (h : ∀ x ∈ tb.cols, Col.SameOn tb.rows (F x) x) : Table.Same tb' tb := by
  rw [tableSame_iff]
  refine ⟨hrows, fun c => ?_⟩
  have : tb'.findCol? c = (tb.findCol? c).map F := by
    unfold Table.findCol?
    rw [hcols]
    exact find_key_map Col.id F hid
  rw [this, hrows]
  cases hc : tb.findCol? c with
  | none => simp
  | some x => simpa using h x (findCol?_some hc).2

theorem findCol?_swap (tb : Table) (c : String) (col' : Col) (k : String) :
    Table.findCol? { tb with cols := tb.cols.filter (fun x => x.id != c) ++ [col'] } k =
      (if k = c then none else tb.findCol? k).or (if col'.id = k then some col' else none) := by
  rw [findCol?_append_single]
  have := findCol?_filter_ne (tb := tb) (c := c) (c' := k) tb.id tb.rows
  simp only [Table.findCol?] at this
  rw [this]
  rfl

theorem tableSame_swap {tb : Table} {c : String} {col col' : Col} (hc : tb.findCol? c = some col)
    (hid : col'.id = c) (hs : Col.SameOn tb.rows col' col) :
    Table.Same { tb with cols := tb.cols.filter (fun x => x.id != c) ++ [col'] } tb := by
  rw [tableSame_iff]
  refine ⟨rfl, fun c' => ?_⟩
  rw [findCol?_swap]
  by_cases h : c' = c
  · subst h
    simp only [↓reduceIte, hid, Option.none_or, hc]
    exact hs
  · have h' : ¬ col'.id = c' := by
      rw [hid]
      exact fun h' => h h'.symm
    simp only [h, ↓reduceIte, h', Option.or_none]
    exact ORel.refl' _ (fun x _ => Col.SameOn.refl _ x)

theorem table_eta_cols {tb : Table} {l : List Col} (h : l = tb.cols) :
    ({ tb with cols := l } : Table) = tb := by
  subst h
  rfl

theorem colInfoOfPatch_undoPatch (old : ColInfo) (p : ColPatch) :
    colInfoOfPatch (colInfoOfPatch old p) (undoPatch old p) = old := by
  cases old with
  | mk ty isF f rc =>
    cases p with
    | mk pty pisF pf prc =>
      cases pty <;> cases pisF <;> cases pf <;> cases prc <;> rfl

theorem mem_filter_not_contains {a : Nat} {l rows' : List Nat} :
    a ∈ l.filter (fun r => !rows'.contains r) ↔ a ∈ l ∧ a ∉ rows' := by
  simp

/-- Writing old cells back: every entry of `vals` holds cells of a column of `tb` at `rows`, and a
    cell that no entry writes already has its old value (`hkeep`).  Then `tb1` has the columns the
    entries name, and written it shows the same as `tb`.  `Normal` is needed because the old values go
    through `Column.set` once more. -/
theorem written_back {tb tb1 : Table} (hnd : (tb.cols.map (·.id)).Nodup) (hn : tb.Normal)
    (F : Col → Col) (hid : ∀ x, (F x).id = x.id) (hinfo : ∀ x, (F x).info = x.info)
    (hcols : tb1.cols = tb.cols.map F) (hrows : tb1.rows = tb.rows) {rows : List Nat}
    {vals : List (String × List Val)}
    (hvals : ∀ cv ∈ vals, ∃ x ∈ tb.cols, cv = (x.id, rows.map x.cells))
    (hkeep : ∀ x ∈ tb.cols, ∀ r ∈ tb.rows,
      (r ∈ rows ∧ ∃ cv ∈ vals, cv.1 = x.id) ∨ (F x).cells r = x.cells r) :
    (∀ cv ∈ vals, tb1.hasCol cv.1 = true) ∧ Table.Same (tb1.written rows vals) tb := by
  have hids : tb1.cols.map (·.id) = tb.cols.map (·.id) := by
    rw [hcols, List.map_map]
    exact List.map_congr_left fun x _ => hid x
  refine ⟨fun cv hcv => ?_, ?_⟩
  · obtain ⟨x, hx, rfl⟩ := hvals cv hcv
    rw [hasCol_of_map_id_eq hids]
    exact hasCol_of_mem hx
  · refine tableSame_map (fun x => Col.written rows vals (F x)) hid ?_ hrows fun x hx => ?_
    · rw [Table.written, hcols, List.map_map]
      rfl
    refine ⟨hinfo x, fun r hr => ?_⟩
    simp only [Col.written, hid, hinfo]
    have hnot : ¬ (r ∈ rows ∧ ∃ cv ∈ vals, cv.1 = x.id) → (F x).cells r = x.cells r :=
      fun h => (hkeep x hx r hr).resolve_left h
    by_cases hr' : r ∈ rows
    · by_cases hk : ∃ cv ∈ vals, cv.1 = x.id
      · rw [writeCells_const _ _ _ x.cells hr' _ _ _ (.inl hk)]
        · exact hn x hx r
        · intro cv hcv hcvk
          obtain ⟨y, hy, rfl⟩ := hvals cv hcv
          rw [eq_of_mem_of_id_eq hnd hy hx hcvk]
      · rw [writeCells_no_key _ _ _ _ _ fun cv hcv h => hk ⟨cv, hcv, h⟩]
        exact hnot fun h => hk h.2
    · rw [writeCells_not_mem _ _ _ hr']
      exact hnot fun h => hr' h.1

theorem TPost.undo_bulkAdd {tb : Table} {t : String} {rows : List Nat}
    {cols : List (String × List Val)} {o : Option Table} {U : List DocAction} (hwf : tb.WF)
    (hpos : ∀ r ∈ rows, 0 < r) (h : TPost tb (.bulkAdd t rows cols) o U) :
    ∃ tb'', TRun t (o.getD tb) U.reverse tb'' ∧ Table.Same tb'' tb := by
  obtain ⟨hno, _, rfl, rfl⟩ := (TPost.bulkAdd_iff hwf.1 hpos).1 h
  dsimp only [Option.getD_some]
  have h1 := hwf.addRows hpos
  have hrows' : rows.filter (fun r =>
      (Table.written { tb with rows := insertRows rows tb.rows } rows cols).rows.contains r) = rows := by
    rw [List.filter_eq_self]
    intro a ha
    simp only [Table.written_rows, List.contains_iff_mem]
    exact mem_insertRows.2 (.inl ha)
  have hcell : ∀ x ∈ tb.cols, ∀ r ∈ tb.rows,
      (Col.written rows cols x).cells r = x.cells r := by
    intro x _ r hr
    exact writeCells_not_mem _ _ _ (fun h' => hno r h' hr) _ _
  by_cases he : rows = []
  · subst he
    refine ⟨_, .single rfl (.bulkRemove_none (by simp)), ?_⟩
    apply tableSame_map (Col.written [] cols) (fun _ => by dsimp only [Col.written]) rfl (by simp [insertRows])
    intro x hx
    exact ⟨by dsimp only [Col.written], fun r hr => hcell x hx r hr⟩
  · refine ⟨_, .single rfl (.bulkRemove (by rw [hrows']; exact he)), ?_⟩
    rw [hrows']
    apply tableSame_map (fun x => Col.unsetRows rows (Col.written rows cols x))
      (fun _ => by dsimp only [Col.unsetRows, Col.written])
    · simp [Table.removeRows, Table.written, List.map_map, Function.comp_def, Col.unsetRows]
    · simp only [Option.getD_some, Table.removeRows, Table.written_rows]
      apply sorted_ext (h1.2.1.filter _) hwf.2.1
      intro a
      rw [mem_filter_not_contains, mem_insertRows]
      constructor
      · rintro ⟨h | h, h'⟩
        · exact absurd h h'
        · exact h
      · intro h
        exact ⟨.inr h, fun h' => hno a h' h⟩
    · intro x hx
      refine ⟨by dsimp only [Col.unsetRows, Col.written], fun r hr => ?_⟩
      have : ¬ r ∈ rows := fun h' => hno r h' hr
      simp only [Col.unsetRows, List.contains_iff_mem, this, ↓reduceIte]
      exact hcell x hx r hr

theorem TPost.undo_bulkRemove {tb : Table} {t : String} {rows : List Nat} {o : Option Table}
    {U : List DocAction} (hwf : tb.WF) (hn : tb.Normal) (h : TPost tb (.bulkRemove t rows) o U) :
    ∃ tb'', TRun t (o.getD tb) U.reverse tb'' ∧ Table.Same tb'' tb := by
  cases h with
  | bulkRemove_none => exact ⟨_, .nil, Table.Same.refl _⟩
  | bulkRemove hne =>
    generalize hrows' : rows.filter (fun r => tb.rows.contains r) = rows' at hne
    have hsub : ∀ r ∈ rows', r ∈ tb.rows := by
      intro r hr
      rw [← hrows'] at hr
      simpa using (List.mem_filter.1 hr).2
    have hpos : ∀ r ∈ rows', 0 < r := fun r hr => hwf.2.2.1 r (hsub r hr)
    obtain ⟨hk, hsame⟩ := written_back
      (tb1 := { tb.removeRows rows' with rows := insertRows rows' (tb.removeRows rows').rows })
      (rows := rows') (vals := tb.removeUndoVals rows') hwf.1 hn (Col.unsetRows rows')
      (fun _ => by dsimp only [Col.unsetRows]) (fun _ => by dsimp only [Col.unsetRows]) rfl
      (sorted_ext (pairwise_insertRows (hwf.2.1.filter _)) hwf.2.1 fun a => by
        show a ∈ insertRows rows' (tb.rows.filter (fun r => !rows'.contains r)) ↔ a ∈ tb.rows
        rw [mem_insertRows, mem_filter_not_contains]
        exact ⟨fun h => h.elim (hsub a) (·.1), fun h => (Classical.em (a ∈ rows')).imp (fun h' => h') (⟨h, ·⟩)⟩)
      (fun cv hcv => by
        obtain ⟨y, hy, rfl⟩ := List.mem_map.1 hcv
        exact ⟨y, (List.mem_filter.1 hy).1, rfl⟩)
      (fun x hx r _ => by
        by_cases hr' : r ∈ rows'
        · by_cases hd : allDefault x rows' = true
          · refine .inr ?_
            simp only [allDefault, List.all_eq_true, beq_iff_eq] at hd
            simp only [Col.unsetRows, List.contains_iff_mem, hr', ↓reduceIte]
            exact (hd r hr').symm
          · exact .inl ⟨hr', _,
              List.mem_map.2 ⟨x, List.mem_filter.2 ⟨hx, by simpa using hd⟩, rfl⟩, rfl⟩
        · exact .inr (by simp [Col.unsetRows, hr']))
    refine ⟨_, .single rfl ((TPost.bulkAdd_iff (hwf.removeRows rows').1 hpos).2
      ⟨fun x hx hx' => ?_, hk, rfl, rfl⟩), hsame⟩
    simp only [Table.removeRows, List.mem_filter] at hx'
    simp [hx] at hx'

theorem TPost.undo_bulkUpdate {tb : Table} {t : String} {rows : List Nat}
    {cols : List (String × List Val)} {o : Option Table} {U : List DocAction} (hwf : tb.WF)
    (hn : tb.Normal) (h : TPost tb (.bulkUpdate t rows cols) o U) :
    ∃ tb'', TRun t (o.getD tb) U.reverse tb'' ∧ Table.Same tb'' tb := by
  obtain ⟨h1, h2, rfl, rfl⟩ := (TPost.bulkUpdate_iff hwf.1).1 h
  obtain ⟨hk, hsame⟩ := written_back (tb1 := tb.written rows cols) (rows := rows)
    (vals := tb.updUndoVals rows cols) hwf.1 hn (Col.written rows cols)
    (fun _ => by dsimp only [Col.written]) (fun _ => by dsimp only [Col.written]) rfl rfl
    (fun cv hcv => by
      obtain ⟨y, hy, rfl⟩ := List.mem_map.1 hcv
      obtain ⟨col, hcol⟩ := hasCol_eq_true.1 (h2 y hy)
      exact ⟨col, (findCol?_some hcol).2, by simp only [hcol, (findCol?_some hcol).1]⟩)
    (fun x _ r _ => by
      by_cases hr' : r ∈ rows
      · by_cases hk : ∃ cv ∈ cols, cv.1 = x.id
        · obtain ⟨cv, hcv, hcvk⟩ := hk
          exact .inl ⟨hr', _, List.mem_map.2 ⟨cv, hcv, rfl⟩, hcvk⟩
        · exact .inr (congrFun (writeCells_no_key _ _ _ _ _ fun cv hcv h => hk ⟨cv, hcv, h⟩) r)
      · exact .inr (writeCells_not_mem _ _ _ hr' _ _))
  exact ⟨_, .single rfl ((TPost.bulkUpdate_iff (hwf.written (cols := cols) h1).1).2
    ⟨h1, hk, rfl, rfl⟩), hsame⟩

theorem Col.written_of_no_key {rows : List Nat} {cols : List (String × List Val)} {x : Col}
    (h : ∀ cv ∈ cols, cv.1 ≠ x.id) : Col.written rows cols x = x := by
  cases x with
  | mk id info cells =>
    simp only [Col.written, Col.mk.injEq, true_and]
    exact writeCells_no_key _ _ _ _ _ h

theorem TPost.undo_replaceData {tb : Table} {t : String} {rows : List Nat}
    {cols : List (String × List Val)} {o : Option Table} {U : List DocAction} (hwf : tb.WF)
    (hn : tb.Normal) (hpos : ∀ r ∈ rows, 0 < r)
    (hex : ∀ col ∈ tb.cols, col.info.isFormula = true →
      ∀ r ∈ tb.rows, col.cells r = typeDefault col.info.type)
    (h : TPost tb (.replaceData t rows cols) o U) :
    ∃ tb'', TRun t (o.getD tb) U.reverse tb'' ∧ Table.Same tb'' tb := by
  obtain ⟨rfl, rfl⟩ := (TPost.replaceData_iff hwf.1 hpos).1 h
  generalize cols.filter (fun cv => tb.hasCol cv.1) = known
  have hids : ((tb.cleared (insertRows rows [])).written rows known).cols.map (·.id) =
      tb.cols.map (·.id) := by
    rw [Table.written_map_id, Table.cleared_map_id]
  obtain ⟨_, hsame⟩ := written_back
    (tb1 := ((tb.cleared (insertRows rows [])).written rows known).cleared (insertRows tb.rows []))
    (rows := tb.rows) (vals := tb.dataVals) hwf.1 hn
    (fun x => Col.clear (Col.written rows known (Col.clear x)))
    (fun _ => by dsimp only [Col.written, Col.clear]) (fun _ => by dsimp only [Col.written, Col.clear])
    (by simp only [Table.cleared, Table.written, List.map_map]; rfl)
    (insertRows_nil_of_sorted hwf.2.1)
    (fun cv hcv => by
      obtain ⟨y, hy, rfl⟩ := List.mem_map.1 hcv
      exact ⟨y, (List.mem_filter.1 hy).1, rfl⟩)
    (fun x hx r hr => by
      by_cases hform : x.info.isFormula = true
      · exact .inr (hex x hx hform r hr).symm
      · exact .inl ⟨hr, _,
          List.mem_map.2 ⟨x, List.mem_filter.2 ⟨hx, by simpa using hform⟩, rfl⟩, rfl⟩)
  -- the old data names only columns the table still has
  have hfilt : tb.dataVals.filter
      (fun cv => ((tb.cleared (insertRows rows [])).written rows known).hasCol cv.1) = tb.dataVals := by
    rw [List.filter_eq_self]
    intro cv hcv
    obtain ⟨y, hy, rfl⟩ := List.mem_map.1 hcv
    rw [hasCol_of_map_id_eq hids]
    exact hasCol_of_mem (List.mem_filter.1 hy).1
  refine ⟨_, .single rfl ((TPost.replaceData_iff (hids ▸ hwf.1) hwf.2.2.1).2 ⟨rfl, rfl⟩), ?_⟩
  dsimp only [Option.getD_some]
  rw [hfilt]
  exact hsame

theorem TPost.undo_addColumn {tb : Table} {t c : String} {info : ColInfo} {o : Option Table}
    {U : List DocAction} (h : TPost tb (.addColumn t c info) o U) :
    ∃ tb'', TRun t (o.getD tb) U.reverse tb'' ∧ Table.Same tb'' tb := by
  cases h with
  | addColumn h1 =>
  dsimp only [Option.getD_some]
  have hnone := hasCol_eq_false.1 h1
  have hc1 : Table.findCol? { tb with cols := tb.cols ++ [newCol c info] } c = some (newCol c info) := by
    rw [findCol?_append_single]
    simp only [Table.findCol?] at hnone
    simp [hnone, newCol]
  refine ⟨_, .single rfl (.removeColumn hc1), ?_⟩
  have : (tb.cols ++ [newCol c info]).filter (fun x => x.id != c) = tb.cols := by
    rw [filter_ne_append_single Col.id (y := newCol c info) (k := c) rfl,
      filter_ne_eq_self Col.id (findCol?_none.1 hnone)]
  show Table.Same { tb with cols := (tb.cols ++ [newCol c info]).filter (fun x => x.id != c) } tb
  rw [table_eta_cols this]
  exact Table.Same.refl tb

theorem TPost.undo_removeColumn {tb : Table} {t c : String} {o : Option Table}
    {U : List DocAction} (hwf : tb.WF) (hn : tb.Normal)
    (hex : ∀ col, tb.findCol? c = some col → col.info.isFormula = true →
      ∀ r ∈ tb.rows, col.cells r = typeDefault col.info.type)
    (h : TPost tb (.removeColumn t c) o U) :
    ∃ tb'', TRun t (o.getD tb) U.reverse tb'' ∧ Table.Same tb'' tb := by
  cases h with
  | @removeColumn _ _ col hc =>
  dsimp only [Option.getD_some]
  have hcol := findCol?_some hc
  -- reversed, the undo list is AddColumn (an all-default `c` at the end), then perhaps a BulkUpdate
  have hrev : (removeColUndoUpd t c tb col ++ [DocAction.addColumn t c col.info]).reverse =
      DocAction.addColumn t c col.info :: removeColUndoUpd t c tb col := by
    rw [List.reverse_append, removeColUndoUpd]
    split
    · rfl
    · split <;> rfl
  have hcm : Table.hasCol { tb with cols := tb.cols.filter (fun x => x.id != c) } c = false := by
    apply hasCol_eq_false.2
    rw [findCol?_filter_ne]
    simp
  rw [hrev]
  suffices hgo : ∃ tb'', TRun t
      { tb with cols := tb.cols.filter (fun x => x.id != c) ++ [newCol c col.info] }
      (removeColUndoUpd t c tb col) tb'' ∧ Table.Same tb'' tb by
    obtain ⟨tb'', h1, h2⟩ := hgo
    exact ⟨tb'', .cons rfl (.addColumn hcm) h1, h2⟩
  have hwf1 : Table.WF { tb with cols := tb.cols.filter (fun x => x.id != c) ++ [newCol c col.info] } :=
    hwf.swapCol c (col := newCol c col.info) (fun x _ hx => hx) (fun _ _ => rfl)
  -- no BulkUpdate follows if the column was all default or a formula column (all default by `hex`)
  have hsimple : (∀ r ∈ tb.rows, col.cells r = typeDefault col.info.type) →
      Table.Same { tb with cols := tb.cols.filter (fun x => x.id != c) ++ [newCol c col.info] } tb :=
    fun hall => tableSame_swap hc rfl ⟨rfl, fun r hr => (hall r hr).symm⟩
  rw [removeColUndoUpd]
  generalize hnd : tb.rows.filter (fun r => col.cells r != typeDefault col.info.type) = nd
  split
  next he =>
    refine ⟨_, .nil, hsimple fun r hr => ?_⟩
    rw [List.isEmpty_iff] at he
    subst he
    simpa using List.filter_eq_nil_iff.1 hnd r hr
  next =>
    split
    next hform => exact ⟨_, .nil, hsimple (hex col hc hform)⟩
    next =>
      have hsub : ∀ r ∈ nd, r ∈ tb.rows := fun r hr => (List.mem_filter.1 (hnd ▸ hr)).1
      have hkeys : ∀ cv ∈ [(c, nd.map col.cells)],
          Table.hasCol { tb with cols := tb.cols.filter (fun x => x.id != c) ++ [newCol c col.info] }
            cv.1 = true := by
        intro cv hcv
        rw [List.mem_singleton.1 hcv]
        apply hasCol_eq_true.2
        rw [findCol?_swap]
        simp [newCol]
      refine ⟨_, .single rfl ((TPost.bulkUpdate_iff hwf1.1).2 ⟨hsub, hkeys, rfl, rfl⟩), ?_⟩
      dsimp only [Option.getD_some]
      -- the write leaves the other columns alone, so it is a swap of column `c` again
      have heq : Table.written
          { tb with cols := tb.cols.filter (fun x => x.id != c) ++ [newCol c col.info] } nd
          [(c, nd.map col.cells)] =
          { tb with cols := tb.cols.filter (fun x => x.id != c) ++
            [Col.written nd [(c, nd.map col.cells)] (newCol c col.info)] } := by
        simp only [Table.written, List.map_append, List.map_cons, List.map_nil, Table.mk.injEq,
          true_and, and_true, List.append_cancel_right_eq]
        conv =>
          rhs
          rw [← List.map_id (tb.cols.filter (fun x => x.id != c))]
        apply List.map_congr_left
        intro x hx
        apply Col.written_of_no_key
        intro cv hcv
        simp only [List.mem_singleton] at hcv
        subst hcv
        have := (List.mem_filter.1 hx).2
        simp only [bne_iff_ne, ne_eq] at this
        exact fun h' => this h'.symm
      rw [heq]
      apply tableSame_swap hc rfl
      refine ⟨by dsimp only [Col.written, newCol], fun r hr => ?_⟩
      simp only [Col.written, newCol]
      by_cases hr' : r ∈ nd
      · rw [writeCells_const _ _ _ col.cells hr']
        · exact hn col hcol.2 r
        · intro cv hcv _
          simp only [List.mem_singleton] at hcv
          subst hcv
          rfl
        · left
          exact ⟨_, List.mem_singleton.2 rfl, rfl⟩
      · rw [writeCells_not_mem _ _ _ hr']
        rw [← hnd] at hr'
        simp only [List.mem_filter, hr, true_and, bne_iff_ne, ne_eq, Decidable.not_not] at hr'
        exact hr'.symm

theorem col_eta_id {col : Col} {k : String} (h : col.id = k) : ({ col with id := k } : Col) = col := by
  subst h
  rfl

theorem TPost.undo_renameColumn {tb : Table} {t old new : String} {o : Option Table}
    {U : List DocAction} (h : TPost tb (.renameColumn t old new) o U) :
    ∃ tb'', TRun t (o.getD tb) U.reverse tb'' ∧ Table.Same tb'' tb := by
  cases h with
  | @renameColumn _ _ _ col hc h1 =>
  dsimp only [Option.getD_some]
  have hnone := hasCol_eq_false.1 h1
  have hne : new ≠ old := by
    intro h'
    subst h'
    rw [hc] at hnone
    simp at hnone
  have hc1 : Table.findCol?
      { tb with cols := tb.cols.filter (fun x => x.id != old) ++ [{ col with id := new }] } new =
      some { col with id := new } := by
    rw [findCol?_swap]
    simp [hne, hnone]
  have hc2 : Table.hasCol
      { tb with cols := tb.cols.filter (fun x => x.id != old) ++ [{ col with id := new }] } old =
      false := by
    apply hasCol_eq_false.2
    rw [findCol?_swap]
    simp [hne]
  refine ⟨_, .single rfl (.renameColumn hc1 hc2), ?_⟩
  have hfl : (tb.cols.filter (fun x => x.id != old) ++ [({ col with id := new } : Col)]).filter
      (fun x => x.id != new) = tb.cols.filter (fun x => x.id != old) := by
    rw [filter_ne_append_single Col.id (y := ({ col with id := new } : Col)) (k := new) rfl,
      filter_ne_filter_ne Col.id (fun x hx _ => findCol?_none.1 hnone x hx)]
  dsimp only [Option.getD_some]
  rw [hfl]
  exact tableSame_swap hc rfl ⟨rfl, fun _ _ => rfl⟩

theorem TPost.undo_modifyColumn {tb : Table} {t c : String} {p : ColPatch} {o : Option Table}
    {U : List DocAction}
    (hex : ∀ col, tb.findCol? c = some col → ∀ r ∈ tb.rows,
      colSet col.info.type (colSet (colInfoOfPatch col.info p).type (col.cells r)) = col.cells r)
    (h : TPost tb (.modifyColumn t c p) o U) :
    ∃ tb'', TRun t (o.getD tb) U.reverse tb'' ∧ Table.Same tb'' tb := by
  cases h with
  | modifyColumn_none => exact ⟨_, .nil, Table.Same.refl _⟩
  | @modifyColumn _ _ _ col hc hne =>
  dsimp only [Option.getD_some]
  have hc1 : Table.findCol?
      { tb with cols := tb.cols.filter (fun x => x.id != c) ++ [modCol tb col c p] } c =
      some (modCol tb col c p) := by
    rw [findCol?_swap]
    simp [modCol]
  have hinfo : colInfoOfPatch (modCol tb col c p).info (undoPatch col.info p) = col.info :=
    colInfoOfPatch_undoPatch col.info p
  have hne' : colInfoOfPatch (modCol tb col c p).info (undoPatch col.info p) ≠
      (modCol tb col c p).info := by
    rw [hinfo]
    exact fun h' => hne h'.symm
  refine ⟨_, .single rfl (.modifyColumn hc1 hne'), ?_⟩
  have hfl : (tb.cols.filter (fun x => x.id != c) ++ [modCol tb col c p]).filter
      (fun x => x.id != c) = tb.cols.filter (fun x => x.id != c) := by
    rw [filter_ne_append_single Col.id (y := modCol tb col c p) (k := c) rfl,
      filter_ne_filter_ne Col.id (fun x _ hx => hx)]
  dsimp only [Option.getD_some]
  rw [hfl]
  apply tableSame_swap hc rfl
  refine ⟨hinfo, fun r hr => ?_⟩
  have hr' : tb.rows.contains r = true := by simpa using hr
  simp only [modCol, hr', ↓reduceIte]
  rw [show (colInfoOfPatch (colInfoOfPatch col.info p) (undoPatch col.info p)) = col.info from
    colInfoOfPatch_undoPatch col.info p]
  exact hex col hc r hr

/-! ### the three actions on whole tables -/

theorem undo_addTable {d : Doc} {t : String} {cols : List (String × ColInfo)}
    {D : Doc} {U : List DocAction} (h : Post d (.addTable t cols) D U) :
    ∃ d'', applyAll D U.reverse = .ok d'' ∧ Same d'' d := by
  obtain ⟨hf, rfl, rfl⟩ := h
  have hfD : findTable? (d ++ [newTable t cols]) t = some (newTable t cols) := by
    rw [findTable?_append_single, hf]
    simp [newTable]
  have hpost : Post (d ++ [newTable t cols]) (.removeTable t) _ _ := ⟨_, hfD, rfl, rfl⟩
  refine ⟨_, applyAll_single_of_post hpost, ?_⟩
  rw [filter_ne_append_single Table.id (y := newTable t cols) (k := t) rfl,
    filter_ne_eq_self Table.id (findTable?_none.1 hf)]
  exact Same.refl d

theorem undo_renameTable {d : Doc} {old new : String}
    {D : Doc} {U : List DocAction} (h : Post d (.renameTable old new) D U) :
    ∃ d'', applyAll D U.reverse = .ok d'' ∧ Same d'' d := by
  obtain ⟨tb, hf, hn, rfl, rfl⟩ := h
  have hid := (findTable?_some hf).1
  have hne : new ≠ old := by
    intro h'
    subst h'
    rw [hf] at hn
    simp at hn
  have hf1 : findTable? (d.filter (fun x => x.id != old) ++ [{ tb with id := new }]) new =
      some { tb with id := new } := by
    rw [findTable?_append_single, findTable?_filter_ne]
    simp [hne, hn]
  have hf2 : findTable? (d.filter (fun x => x.id != old) ++ [{ tb with id := new }]) old = none := by
    rw [findTable?_append_single, findTable?_filter_ne]
    simp [hne]
  have hpost : Post (d.filter (fun x => x.id != old) ++ [{ tb with id := new }])
      (.renameTable new old) _ _ := ⟨_, hf1, hf2, rfl, rfl⟩
  refine ⟨_, applyAll_single_of_post hpost, ?_⟩
  rw [filter_ne_append_single Table.id (y := ({ tb with id := new } : Table)) (k := new) rfl,
    filter_ne_filter_ne Table.id (fun x hx _ => findTable?_none.1 hn x hx)]
  refine same_of_lookup hf (findTable?_filter_append rfl) ?_
  show Table.Same { ({ tb with id := new } : Table) with id := old } tb
  subst hid
  exact Table.Same.refl _

theorem undo_removeTable {d : Doc} {t : String}
    {D : Doc} {U : List DocAction} (hwf : WF d) (hn : Normal d)
    (h : Post d (.removeTable t) D U) :
    ∃ d'', applyAll D U.reverse = .ok d'' ∧ Same d'' d := by
  obtain ⟨tb, hf, rfl, rfl⟩ := h
  have htb := hwf.table hf
  generalize hinfos : tb.cols.map (fun col => (col.id, col.info)) = infos
  have hfD : findTable? (d.filter (fun x => x.id != t)) t = none := by
    rw [findTable?_filter_ne]
    simp
  -- reversed, the undo list is AddTable (an empty table `t` at the end), then perhaps a BulkAdd
  have hrev : (removeTableDataUndo t tb ++ [DocAction.addTable t infos]).reverse =
      DocAction.addTable t infos :: removeTableDataUndo t tb := by
    rw [List.reverse_append, removeTableDataUndo]
    split <;> rfl
  have hpost : Post (d.filter (fun x => x.id != t)) (.addTable t infos) _ _ := ⟨hfD, rfl, rfl⟩
  rw [hrev, applyAll_cons_of_post _ hpost]
  have hlook := findTable?_filter_append (d := d) (nt := newTable t infos) (t := t) rfl
  suffices hgo : ∃ tb'', TRun t (newTable t infos) (removeTableDataUndo t tb) tb'' ∧
      Table.Same tb'' tb by
    obtain ⟨tb'', hrun, hs⟩ := hgo
    obtain ⟨D, hD, hl⟩ := hrun.applyAll (d := d.filter (fun x => x.id != t) ++ [newTable t infos])
      (by rw [hlook, if_pos rfl])
    refine ⟨D, hD, same_of_lookup hf (fun t' => ?_) hs⟩
    rw [hl, hlook]
    split <;> rfl
  have hcolsnt : (newTable t infos).cols = tb.cols.map (fun x => newCol x.id x.info) := by
    rw [← hinfos]
    simp [newTable, List.map_map, Function.comp_def]
  rw [removeTableDataUndo]
  split
  next he =>
    rw [List.isEmpty_iff] at he
    refine ⟨_, .nil, ?_⟩
    apply tableSame_map (fun x => newCol x.id x.info) (fun _ => by dsimp only [newCol]) hcolsnt
      (by rw [he]; rfl)
    intro x _
    refine ⟨by dsimp only [newCol], fun r hr => ?_⟩
    rw [he] at hr
    simp at hr
  next =>
    obtain ⟨hk, hsame⟩ := written_back
      (tb1 := { newTable t infos with rows := insertRows tb.rows (newTable t infos).rows })
      (rows := tb.rows) (vals := tb.cols.map (fun col => (col.id, tb.rows.map col.cells)))
      htb.1 (hn.table hf) (fun x => newCol x.id x.info) (fun _ => by dsimp only [newCol])
      (fun _ => by dsimp only [newCol]) hcolsnt (insertRows_nil_of_sorted htb.2.1)
      (fun cv hcv => by
        obtain ⟨y, hy, rfl⟩ := List.mem_map.1 hcv
        exact ⟨y, hy, rfl⟩)
      (fun x hx r hr => .inl ⟨hr, _, List.mem_map.2 ⟨x, hx, rfl⟩, rfl⟩)
    have hnd : ((newTable t infos).cols.map (·.id)).Nodup := by
      rw [hcolsnt, List.map_map]
      exact htb.1
    exact ⟨_, .single rfl ((TPost.bulkAdd_iff hnd htb.2.2.1).2
      ⟨by simp [newTable], hk, rfl, rfl⟩), hsame⟩

theorem post_undo {d : Doc} {a : DocAction} {D : Doc} {U : List DocAction} (hwf : WF d)
    (hn : Normal d) (hpos : a.rowsPositive) (hex : a.undoExact d) (h : Post d a D U) :
    ∃ d'', applyAll D U.reverse = .ok d'' ∧ Same d'' d := by
  cases a with
  | bulkAdd t rows cols =>
    exact undo_local rfl h fun tb _ hf hp => hp.undo_bulkAdd (hwf.table hf) hpos
  | bulkRemove t rows =>
    exact undo_local rfl h fun tb _ hf hp => hp.undo_bulkRemove (hwf.table hf) (hn.table hf)
  | bulkUpdate t rows cols =>
    exact undo_local rfl h fun tb _ hf hp => hp.undo_bulkUpdate (hwf.table hf) (hn.table hf)
  | replaceData t rows cols =>
    exact undo_local rfl h fun tb _ hf hp =>
      hp.undo_replaceData (hwf.table hf) (hn.table hf) hpos (hex tb hf)
  | addColumn t c info => exact undo_local rfl h fun _ _ _ hp => hp.undo_addColumn
  | removeColumn t c =>
    exact undo_local rfl h fun tb _ hf hp =>
      hp.undo_removeColumn (hwf.table hf) (hn.table hf) fun col => hex tb col hf
  | renameColumn t old new => exact undo_local rfl h fun _ _ _ hp => hp.undo_renameColumn
  | modifyColumn t c p =>
    exact undo_local rfl h fun tb _ hf hp => hp.undo_modifyColumn fun col => hex tb col hf
  | addTable t cols => exact undo_addTable h
  | removeTable t => exact undo_removeTable hwf hn h
  | renameTable old new => exact undo_renameTable h

end Grist.Doc
