/-
Recalc: progress (C18) — while cells are dirty, some `eval` or `circ` event is enabled — and,
with the termination measure, the existence of complete runs.
-/
import GristProofs.RecalcInv
namespace Grist.Recalc

theorem pigeonhole : ∀ (n : Nat) (f : Nat → Nat), (∀ i, i ≤ n → f i < n) →
    ∃ i j, i < j ∧ j ≤ n ∧ f i = f j := by
  intro n f h
  apply Classical.byContradiction
  intro hne
  -- otherwise `f 0, …, f n` are `n + 1` distinct members of `0, …, n - 1`
  have hnd : ((List.range (n + 1)).map f).Nodup := by
    rw [List.nodup_iff_pairwise_ne, List.pairwise_map]
    refine List.pairwise_lt_range.imp_of_mem fun {i j} _ hj hij he => hne ⟨i, j, hij, ?_, he⟩
    exact Nat.le_of_lt_succ (List.mem_range.mp hj)
  have hsub : (List.range (n + 1)).map f ⊆ List.range n := by
    intro x hx
    obtain ⟨i, hi, rfl⟩ := List.mem_map.mp hx
    exact List.mem_range.mpr (h i (Nat.le_of_lt_succ (List.mem_range.mp hi)))
  have := hnd.length_le_of_subset hsub
  rw [List.length_map, List.length_range, List.length_range] at this
  exact Nat.not_succ_le_self n this

/-- follow the OrderError once (stay put if there is none) -/
def hop (p : Prog) (st : State) (c : Nat) : Nat := (blocker p st c).getD c

/-- the cells met by following OrderErrors from `c` -/
def hopSeq (p : Prog) (st : State) (c : Nat) : Nat → Nat
  | 0 => c
  | k + 1 => hop p st (hopSeq p st c k)

theorem blockCycle_of_chain {p : Prog} {st : State} : ∀ (m : Nat) (x : Nat → Nat) (fuel : Nat),
    m < fuel →
    (∀ t, t ≤ m → blocker p st (x t) = some (x (t + 1)) ∧ p.formula (x (t + 1)) = true) →
    blockCycle p st (x (m + 1)) fuel (x 0) = true := by
  intro m
  induction m with
  | zero =>
    intro x fuel hk hch
    obtain ⟨fuel, rfl⟩ := Nat.exists_eq_add_one_of_ne_zero (Nat.ne_of_gt (Nat.zero_lt_of_lt hk))
    simp only [blockCycle, (hch 0 (Nat.le_refl _)).1, Nat.zero_add, beq_self_eq_true, Bool.true_or]
  | succ m ih =>
    intro x fuel hk hch
    obtain ⟨fuel, rfl⟩ := Nat.exists_eq_add_one_of_ne_zero (Nat.ne_of_gt (Nat.zero_lt_of_lt hk))
    obtain ⟨hb, hf⟩ := hch 0 (Nat.zero_le _)
    have := ih (fun t => x (t + 1)) fuel (Nat.lt_of_succ_lt_succ hk)
      fun t ht => hch (t + 1) (Nat.succ_le_succ ht)
    simp only [blockCycle, hb, Bool.or_eq_true, Bool.and_eq_true]
    exact .inr ⟨hf, this⟩

/-- If no dirty cell can be evaluated, every dirty cell is blocked by a dirty cell; following the
    blockers from any dirty cell for `n` hops meets some cell twice, and that cell may take the
    cycle branch. -/
theorem progress_exists {p : Prog} {n : Nat} {st : State} (hw : WFState p n st)
    (hne : st.dirty ≠ []) :
    ∃ c, (step p n st (.eval c)).isSome = true ∨ (step p n st (.circ c)).isSome = true := by
  by_cases hev : ∃ c ∈ st.dirty, blocker p st c = none
  · obtain ⟨c, hc, hb⟩ := hev
    obtain ⟨hf, hlt⟩ := hw.dirty_formula c hc
    exact ⟨c, .inl (by rw [step_eval_iff.mpr ⟨⟨hlt, hf, hc, hb⟩, rfl⟩]; rfl)⟩
  · obtain ⟨c0, hc0⟩ := List.exists_mem_of_ne_nil _ hne
    have hnext : ∀ x ∈ st.dirty, blocker p st x = some (hop p st x) := by
      intro x hx
      cases hb : blocker p st x with
      | none => exact absurd ⟨x, hx, hb⟩ hev
      | some d => simp [hop, hb]
    have hall : ∀ k, hopSeq p st c0 k ∈ st.dirty := by
      intro k
      induction k with
      | zero => exact hc0
      | succ k ih => exact (blocker_eq_some (hnext _ ih)).2.1
    obtain ⟨i, j, hij, hj, he⟩ := pigeonhole n (hopSeq p st c0)
      (fun k _ => (hw.dirty_formula _ (hall k)).2)
    obtain ⟨m, rfl⟩ := Nat.exists_eq_add_of_lt hij
    have hb : blockCycle p st (hopSeq p st c0 (i + m + 1)) n (hopSeq p st c0 i) = true :=
      blockCycle_of_chain m (fun t => hopSeq p st c0 (i + t)) n (by omega)
        (fun t _ => ⟨hnext _ (hall _), (hw.dirty_formula _ (hall _)).1⟩)
    rw [← he] at hb
    obtain ⟨hf, hlt⟩ := hw.dirty_formula _ (hall i)
    exact ⟨_, .inr (by rw [step_circ_iff.mpr ⟨⟨hlt, hf, hall i, hb⟩, rfl⟩]; rfl)⟩

theorem complete_run_exists {p : Prog} {n : Nat} : ∀ (m : Nat) (st : State),
    st.dirty.length ≤ m → WFState p n st →
    ∃ es st', (∀ e ∈ es, e.isCalc = true) ∧ run p n st es = some st' ∧ st'.dirty = [] := by
  intro m
  induction m with
  | zero =>
    intro st hm _
    exact ⟨[], st, by simp, rfl, List.eq_nil_of_length_eq_zero (by omega)⟩
  | succ m ih =>
    intro st hm hw
    by_cases hne : st.dirty = []
    · exact ⟨[], st, by simp, rfl, hne⟩
    · obtain ⟨c, hc⟩ := progress_exists hw hne
      have hstep : ∃ e st1, e.isCalc = true ∧ step p n st e = some st1 := by
        rcases hc with hc | hc
        · obtain ⟨st1, h1⟩ := Option.isSome_iff_exists.mp hc
          exact ⟨.eval c, st1, rfl, h1⟩
        · obtain ⟨st1, h1⟩ := Option.isSome_iff_exists.mp hc
          exact ⟨.circ c, st1, rfl, h1⟩
      obtain ⟨e, st1, he, h1⟩ := hstep
      have hlen := calc_step_dirty_decreases he h1
      obtain ⟨es, st', hes, hrun, hq⟩ := ih st1 (by omega) (hw.step h1)
      exact ⟨e :: es, st', List.forall_mem_cons.mpr ⟨he, hes⟩, by simp only [run, h1, hrun], hq⟩

end Grist.Recalc
