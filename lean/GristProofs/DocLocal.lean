/-
Eight of the eleven doc actions look up one table, test and change only that table, and put it back.
`TPost tb a o U` says what such an action does to its table `tb` (`o = none`: the document stays as it
is); `post_local`: `Post` is `TPost` at the looked-up table.  What the document then shows is said by
lookups (`findTable?_applyLocal`, `TRun.applyAll`), not by the shape of the list.  Every doc action
preserves `WF` and `Normal`, and its undo actions have well-formed arguments (`post_WF_Normal`).
-/
import GristProofs.DocUndoPost
namespace Grist.Doc

/-- the table a doc action works in; `none` for AddTable, RemoveTable, RenameTable -/
def DocAction.table? : DocAction → Option String
  | .bulkAdd t _ _ => some t
  | .bulkRemove t _ => some t
  | .bulkUpdate t _ _ => some t
  | .replaceData t _ _ => some t
  | .addColumn t _ _ => some t
  | .removeColumn t _ => some t
  | .renameColumn t _ _ => some t
  | .modifyColumn t _ _ => some t
  | _ => none

def DocAction.recordTable : DocAction → Option String
  | .bulkAdd t _ _ => some t
  | .bulkRemove t _ => some t
  | .bulkUpdate t _ _ => some t
  | .replaceData t _ _ => some t
  | _ => none

theorem DocAction.table?_of_recordTable {a : DocAction} {t : String} (h : a.recordTable = some t) :
    a.table? = some t := by
  cases a <;> first | exact h | cases h

def applyLocal (d : Doc) (t : String) : Option Table → Doc
  | none => d
  | some tb' => replaceTable d t tb'

/-- what a table-local action does to its table (the clauses of `Post` without the document) -/
inductive TPost (tb : Table) : DocAction → Option Table → List DocAction → Prop
  | bulkAdd {t : String} {rows : List Nat} {cols : List (String × List Val)} {tb2 : Table}
      (hno : ∀ x ∈ rows, x ∉ tb.rows)
      (hw : writeCols { tb with rows := insertRows (rows.filter (· != 0)) tb.rows } rows cols = .ok tb2) :
      TPost tb (.bulkAdd t rows cols) (some tb2) [.bulkRemove t rows]
  | bulkRemove_none {t : String} {rows : List Nat}
      (he : rows.filter (fun r => tb.rows.contains r) = []) : TPost tb (.bulkRemove t rows) none []
  | bulkRemove {t : String} {rows : List Nat} (he : rows.filter (fun r => tb.rows.contains r) ≠ []) :
      TPost tb (.bulkRemove t rows) (some (tb.removeRows (rows.filter (fun r => tb.rows.contains r))))
        [.bulkAdd t (rows.filter (fun r => tb.rows.contains r))
          (tb.removeUndoVals (rows.filter (fun r => tb.rows.contains r)))]
  | bulkUpdate {t : String} {rows : List Nat} {cols : List (String × List Val)} {tb' : Table}
      (hr : ∀ x ∈ rows, x ∈ tb.rows) (hk : ∀ cv ∈ cols, tb.hasCol cv.1 = true)
      (hw : writeCols tb rows cols = .ok tb') :
      TPost tb (.bulkUpdate t rows cols) (some tb') [.bulkUpdate t rows (tb.updUndoVals rows cols)]
  | replaceData {t : String} {rows : List Nat} {cols : List (String × List Val)} {tb2 : Table}
      (hw : writeCols (tb.cleared (insertRows (rows.filter (· != 0)) [])) rows
        (cols.filter (fun cv => tb.hasCol cv.1)) = .ok tb2) :
      TPost tb (.replaceData t rows cols) (some tb2) [.replaceData t tb.rows tb.dataVals]
  | addColumn {t c : String} {info : ColInfo} (hc : tb.hasCol c = false) :
      TPost tb (.addColumn t c info) (some { tb with cols := tb.cols ++ [newCol c info] })
        [.removeColumn t c]
  | removeColumn {t c : String} {col : Col} (hc : tb.findCol? c = some col) :
      TPost tb (.removeColumn t c) (some { tb with cols := tb.cols.filter (fun x => x.id != c) })
        (removeColUndoUpd t c tb col ++ [.addColumn t c col.info])
  | renameColumn {t old new : String} {col : Col} (hc : tb.findCol? old = some col)
      (hn : tb.hasCol new = false) :
      TPost tb (.renameColumn t old new)
        (some { tb with cols := tb.cols.filter (fun x => x.id != old) ++ [{ col with id := new }] })
        [.renameColumn t new old]
  | modifyColumn_none {t c : String} {p : ColPatch} {col : Col} (hc : tb.findCol? c = some col)
      (he : colInfoOfPatch col.info p = col.info) : TPost tb (.modifyColumn t c p) none []
  | modifyColumn {t c : String} {p : ColPatch} {col : Col} (hc : tb.findCol? c = some col)
      (hne : colInfoOfPatch col.info p ≠ col.info) :
      TPost tb (.modifyColumn t c p)
        (some { tb with cols := tb.cols.filter (fun x => x.id != c) ++ [modCol tb col c p] })
        [.modifyColumn t c (undoPatch col.info p)]

theorem post_local {d : Doc} {a : DocAction} {D : Doc} {U : List DocAction} {t : String}
    (ha : a.table? = some t) :
    Post d a D U ↔ ∃ tb o, findTable? d t = some tb ∧ TPost tb a o U ∧ D = applyLocal d t o := by
  cases a <;> cases ha
  case bulkAdd =>
    constructor
    · rintro ⟨tb, _, hf, hno, hw, rfl, rfl⟩
      exact ⟨tb, _, hf, .bulkAdd hno hw, rfl⟩
    · rintro ⟨tb, _, hf, hp, rfl⟩
      cases hp with
      | bulkAdd hno hw => exact ⟨tb, _, hf, hno, hw, rfl, rfl⟩
  case bulkRemove =>
    constructor
    · rintro ⟨tb, hf, ⟨he, rfl, rfl⟩ | ⟨he, rfl, rfl⟩⟩
      · exact ⟨tb, none, hf, .bulkRemove_none he, rfl⟩
      · exact ⟨tb, _, hf, .bulkRemove he, rfl⟩
    · rintro ⟨tb, _, hf, hp, rfl⟩
      cases hp with
      | bulkRemove_none he => exact ⟨tb, hf, .inl ⟨he, rfl, rfl⟩⟩
      | bulkRemove he => exact ⟨tb, hf, .inr ⟨he, rfl, rfl⟩⟩
  case bulkUpdate =>
    constructor
    · rintro ⟨tb, _, hf, hr, hk, hw, rfl, rfl⟩
      exact ⟨tb, _, hf, .bulkUpdate hr hk hw, rfl⟩
    · rintro ⟨tb, _, hf, hp, rfl⟩
      cases hp with
      | bulkUpdate hr hk hw => exact ⟨tb, _, hf, hr, hk, hw, rfl, rfl⟩
  case replaceData =>
    constructor
    · rintro ⟨tb, _, hf, hw, rfl, rfl⟩
      exact ⟨tb, _, hf, .replaceData hw, rfl⟩
    · rintro ⟨tb, _, hf, hp, rfl⟩
      cases hp with
      | replaceData hw => exact ⟨tb, _, hf, hw, rfl, rfl⟩
  case addColumn =>
    constructor
    · rintro ⟨tb, hf, hc, rfl, rfl⟩
      exact ⟨tb, _, hf, .addColumn hc, rfl⟩
    · rintro ⟨tb, _, hf, hp, rfl⟩
      cases hp with
      | addColumn hc => exact ⟨tb, hf, hc, rfl, rfl⟩
  case removeColumn =>
    constructor
    · rintro ⟨tb, col, hf, hc, rfl, rfl⟩
      exact ⟨tb, _, hf, .removeColumn hc, rfl⟩
    · rintro ⟨tb, _, hf, hp, rfl⟩
      cases hp with
      | removeColumn hc => exact ⟨tb, _, hf, hc, rfl, rfl⟩
  case renameColumn =>
    constructor
    · rintro ⟨tb, col, hf, hc, hn, rfl, rfl⟩
      exact ⟨tb, _, hf, .renameColumn hc hn, rfl⟩
    · rintro ⟨tb, _, hf, hp, rfl⟩
      cases hp with
      | renameColumn hc hn => exact ⟨tb, _, hf, hc, hn, rfl, rfl⟩
  case modifyColumn =>
    constructor
    · rintro ⟨tb, col, hf, hc, ⟨he, rfl, rfl⟩ | ⟨he, rfl, rfl⟩⟩
      · exact ⟨tb, none, hf, .modifyColumn_none hc he, rfl⟩
      · exact ⟨tb, _, hf, .modifyColumn hc he, rfl⟩
    · rintro ⟨tb, _, hf, hp, rfl⟩
      cases hp with
      | modifyColumn_none hc he => exact ⟨tb, _, hf, hc, .inl ⟨he, rfl, rfl⟩⟩
      | modifyColumn hc he => exact ⟨tb, _, hf, hc, .inr ⟨he, rfl, rfl⟩⟩

theorem writeCols_id {cols : List (String × List Val)} {tb tb' : Table} {rows : List Nat}
    (h : writeCols tb rows cols = .ok tb') : tb'.id = tb.id := by
  induction cols generalizing tb with
  | nil =>
    cases h
    rfl
  | cons cv cols ih =>
    simp only [writeCols] at h
    split at h
    · cases h
    · exact (ih h).trans rfl

theorem TPost.id {tb : Table} {a : DocAction} {tb' : Table} {U : List DocAction}
    (h : TPost tb a (some tb') U) : tb'.id = tb.id := by
  cases h with
  | bulkAdd _ hw => exact (writeCols_id hw).trans rfl
  | bulkUpdate _ _ hw => exact writeCols_id hw
  | replaceData hw => exact (writeCols_id hw).trans rfl
  | _ => rfl

theorem TPost.id_getD {t : String} {tb : Table} {a : DocAction} {o : Option Table}
    {U : List DocAction} (h : TPost tb a o U) (hid : tb.id = t) : ∀ tb', o = some tb' → tb'.id = t :=
  fun _ e => (e ▸ h).id.trans hid

/-! ### the three actions that write cells, on a table with distinct column ids: `writeCols` in closed
form, and no row 0 -/

theorem TPost.bulkAdd_iff {tb : Table} {t : String} {rows : List Nat}
    {cols : List (String × List Val)} {o : Option Table} {U : List DocAction}
    (hnd : (tb.cols.map (·.id)).Nodup) (hpos : ∀ r ∈ rows, 0 < r) :
    TPost tb (.bulkAdd t rows cols) o U ↔
      (∀ x ∈ rows, x ∉ tb.rows) ∧ (∀ cv ∈ cols, tb.hasCol cv.1 = true) ∧
      o = some (Table.written { tb with rows := insertRows rows tb.rows } rows cols) ∧
      U = [.bulkRemove t rows] := by
  constructor
  · intro h
    cases h with
    | bulkAdd hno hw =>
      rw [filter_ne_zero_of_pos hpos,
        writeCols_ok_iff (tb := { tb with rows := insertRows rows tb.rows }) hnd] at hw
      exact ⟨hno, hw.1, congrArg some hw.2, rfl⟩
  · rintro ⟨hno, hk, rfl, rfl⟩
    refine .bulkAdd hno ?_
    rw [filter_ne_zero_of_pos hpos]
    exact writeCols_eq_written cols { tb with rows := insertRows rows tb.rows } rows hnd hk

theorem TPost.bulkUpdate_iff {tb : Table} {t : String} {rows : List Nat}
    {cols : List (String × List Val)} {o : Option Table} {U : List DocAction}
    (hnd : (tb.cols.map (·.id)).Nodup) :
    TPost tb (.bulkUpdate t rows cols) o U ↔
      (∀ x ∈ rows, x ∈ tb.rows) ∧ (∀ cv ∈ cols, tb.hasCol cv.1 = true) ∧
      o = some (tb.written rows cols) ∧ U = [.bulkUpdate t rows (tb.updUndoVals rows cols)] := by
  constructor
  · intro h
    cases h with
    | bulkUpdate hr hk hw => exact ⟨hr, hk, congrArg some ((writeCols_ok_iff hnd).1 hw).2, rfl⟩
  · rintro ⟨hr, hk, rfl, rfl⟩
    exact .bulkUpdate hr hk (writeCols_eq_written cols tb rows hnd hk)

theorem Table.cleared_map_id (tb : Table) (rows : List Nat) :
    (tb.cleared rows).cols.map (·.id) = tb.cols.map (·.id) := by
  simp only [Table.cleared, List.map_map]
  rfl

/-- the columns that `ReplaceTableData` writes are those the table has, so there is no condition -/
theorem TPost.replaceData_iff {tb : Table} {t : String} {rows : List Nat}
    {cols : List (String × List Val)} {o : Option Table} {U : List DocAction}
    (hnd : (tb.cols.map (·.id)).Nodup) (hpos : ∀ r ∈ rows, 0 < r) :
    TPost tb (.replaceData t rows cols) o U ↔
      o = some ((tb.cleared (insertRows rows [])).written rows
        (cols.filter fun cv => tb.hasCol cv.1)) ∧
      U = [.replaceData t tb.rows tb.dataVals] := by
  have hnd' := (tb.cleared_map_id (insertRows rows [])) ▸ hnd
  constructor
  · intro h
    cases h with
    | replaceData hw =>
      rw [filter_ne_zero_of_pos hpos, writeCols_ok_iff hnd'] at hw
      exact ⟨congrArg some hw.2, rfl⟩
  · rintro ⟨rfl, rfl⟩
    refine .replaceData ?_
    rw [filter_ne_zero_of_pos hpos]
    refine writeCols_eq_written _ _ rows hnd' fun cv hcv => ?_
    rw [hasCol_of_map_id_eq (tb.cleared_map_id _)]
    exact (List.mem_filter.1 hcv).2

/-- a record action keeps the schema of its table: the new table has the old columns, each with its
    id and info -/
theorem TPost.record_cols {tb : Table} {a : DocAction} {tb' : Table} {U : List DocAction} {t : String}
    (ha : a.recordTable = some t) (hnd : (tb.cols.map (·.id)).Nodup) (h : TPost tb a (some tb') U) :
    ∃ F : Col → Col, (∀ x, (F x).id = x.id ∧ (F x).info = x.info) ∧
      ∀ c, tb'.findCol? c = (tb.findCol? c).map F := by
  cases h with
  | @bulkAdd _ rows cols _ _ hw =>
    obtain ⟨_, rfl⟩ := (writeCols_ok_iff
      (tb := { tb with rows := insertRows (rows.filter (· != 0)) tb.rows }) hnd).1 hw
    exact ⟨Col.written rows cols, fun _ => ⟨rfl, rfl⟩, Table.findCol?_written _ rows cols⟩
  | bulkRemove =>
    exact ⟨Col.unsetRows _, fun _ => ⟨rfl, rfl⟩, fun c => find_key_map Col.id _ fun _ => rfl⟩
  | @bulkUpdate _ rows cols _ _ _ hw =>
    obtain ⟨_, rfl⟩ := (writeCols_ok_iff hnd).1 hw
    exact ⟨Col.written rows cols, fun _ => ⟨rfl, rfl⟩, Table.findCol?_written _ rows cols⟩
  | @replaceData _ rows cols _ hw =>
    obtain ⟨_, rfl⟩ := (writeCols_ok_iff ((tb.cleared_map_id _) ▸ hnd)).1 hw
    refine ⟨fun x => Col.written rows (cols.filter fun cv => tb.hasCol cv.1) (Col.clear x),
      fun _ => ⟨rfl, rfl⟩, fun c => ?_⟩
    rw [Table.findCol?_written,
      show (tb.cleared _).findCol? c = (tb.findCol? c).map Col.clear from
        find_key_map Col.id Col.clear fun _ => rfl, Option.map_map]
    rfl
  | _ => cases ha

/-! ### what the document shows afterwards -/

theorem findTable?_applyLocal {d : Doc} {t : String} {tb : Table} {o : Option Table}
    (hf : findTable? d t = some tb) (hid : ∀ tb', o = some tb' → tb'.id = t) (t' : String) :
    findTable? (applyLocal d t o) t' = if t' = t then some (o.getD tb) else findTable? d t' := by
  cases o with
  | none =>
    by_cases h : t' = t
    · rw [if_pos h, h]
      exact hf
    · rw [if_neg h]
      rfl
  | some tb' =>
    by_cases h : t' = t
    · rw [if_pos h, h]
      exact findTable?_replaceTable_self (hid _ rfl) hf
    · rw [if_neg h]
      exact findTable?_replaceTable_ne (hid _ rfl) h

theorem same_of_lookup {D d : Doc} {t : String} {tb tb' : Table} (hf : findTable? d t = some tb)
    (hl : ∀ t', findTable? D t' = if t' = t then some tb' else findTable? d t')
    (hs : Table.Same tb' tb) : Same D d := by
  rw [same_iff]
  intro t'
  rw [hl]
  split
  · subst t'
    rw [hf]
    exact hs
  · exact ORel.refl' _ fun x _ => Table.Same.refl x

/-- table-local actions on the table named `t`, one after the other -/
inductive TRun (t : String) : Table → List DocAction → Table → Prop
  | nil {tb : Table} : TRun t tb [] tb
  | cons {tb : Table} {a : DocAction} {o : Option Table} {U l : List DocAction} {tb' : Table} :
      a.table? = some t → TPost tb a o U → TRun t (o.getD tb) l tb' → TRun t tb (a :: l) tb'

theorem TRun.single {t : String} {tb : Table} {a : DocAction} {o : Option Table} {U : List DocAction}
    (ha : a.table? = some t) (h : TPost tb a o U) : TRun t tb [a] (o.getD tb) := .cons ha h .nil

theorem TRun.applyAll {t : String} {tb tb' : Table} {l : List DocAction} (h : TRun t tb l tb')
    {d : Doc} (hf : findTable? d t = some tb) :
    ∃ D, applyAll d l = .ok D ∧
      ∀ t', findTable? D t' = if t' = t then some tb' else findTable? d t' := by
  induction h generalizing d with
  | nil =>
    refine ⟨d, rfl, fun t' => ?_⟩
    split
    · subst t'
      exact hf
    · rfl
  | @cons tb a o U l tb' ha hp _ ih =>
    have hl := findTable?_applyLocal hf (hp.id_getD (findTable?_some hf).1)
    obtain ⟨D, hD, hlook⟩ := ih (d := applyLocal d t o) (by rw [hl, if_pos rfl])
    refine ⟨D, ?_, fun t' => ?_⟩
    · rw [applyAll_cons_of_post _ ((post_local ha).2 ⟨_, _, hf, hp, rfl⟩)]
      exact hD
    · rw [hlook, hl]
      split <;> rfl

/-! ### invariants -/

theorem args_single {u : DocAction} (h1 : u.rowsPositive) (h2 : u.colsDistinct) :
    ∀ v ∈ [u], v.rowsPositive ∧ v.colsDistinct :=
  fun _ hv => List.mem_singleton.1 hv ▸ ⟨h1, h2⟩

theorem TPost.wf_normal {tb : Table} {a : DocAction} {o : Option Table} {U : List DocAction}
    (h : TPost tb a o U) (hwf : tb.WF) (hpos : a.rowsPositive) :
    (o.getD tb).WF ∧ (tb.Normal → (o.getD tb).Normal) ∧ ∀ u ∈ U, u.rowsPositive ∧ u.colsDistinct := by
  cases h with
  | @bulkAdd _ rows cols _ hno hw =>
    rw [filter_ne_zero_of_pos hpos] at hw
    have h1 := hwf.addRows hpos
    obtain ⟨_, rfl⟩ := (writeCols_ok_iff h1.1).1 hw
    exact ⟨h1.written fun r hr => mem_insertRows.2 (.inl hr),
      fun hn => Table.Normal.written (tb := { tb with rows := insertRows rows tb.rows })
        (hn.of_cols rfl) rows cols, args_single ⟨⟩ ⟨⟩⟩
  | bulkRemove_none => exact ⟨hwf, fun hn => hn, fun _ hu => nomatch hu⟩
  | bulkRemove he =>
    refine ⟨hwf.removeRows _, fun hn => hn.removeRows _, args_single (fun r hr => ?_) ⟨⟩⟩
    exact hwf.2.2.1 r (by simpa using (List.mem_filter.1 hr).2)
  | bulkUpdate hr hk hw =>
    obtain ⟨_, rfl⟩ := (writeCols_ok_iff hwf.1).1 hw
    exact ⟨hwf.written hr, fun hn => hn.written _ _, args_single ⟨⟩ ⟨⟩⟩
  | replaceData hw =>
    rw [filter_ne_zero_of_pos hpos] at hw
    have h1 := Table.WF.cleared tb hwf hpos
    obtain ⟨_, rfl⟩ := (writeCols_ok_iff h1.1).1 hw
    exact ⟨h1.written fun r hr => mem_insertRows.2 (.inl hr),
      fun _ => (Table.Normal.cleared tb _).written _ _, args_single hwf.2.2.1 ⟨⟩⟩
  | @addColumn _ c info hc =>
    exact ⟨hwf.addCol (col := newCol c info) hc fun _ _ => rfl,
      fun hn x hx r => (List.mem_append.1 hx).elim (hn x · r)
        fun hx => List.mem_singleton.1 hx ▸ newCol_normal c info r, args_single ⟨⟩ ⟨⟩⟩
  | @removeColumn _ c col hc =>
    refine ⟨hwf.dropCol c, fun hn x hx r => hn x (List.mem_filter.1 hx).1 r, fun u hu => ?_⟩
    rcases List.mem_append.1 hu with hu | hu
    · rw [removeColUndoUpd] at hu
      split at hu
      · exact nomatch hu
      · split at hu
        · exact nomatch hu
        · refine args_single ?_ ?_ u hu <;> trivial
    · refine args_single ?_ ?_ u hu <;> trivial
  | @renameColumn _ old new col hc hn =>
    have hcol := findCol?_some hc
    exact ⟨hwf.swapCol old (col := { col with id := new })
        (fun x hx _ => findCol?_none.1 (hasCol_eq_false.1 hn) x hx) (hwf.2.2.2 col hcol.2),
      fun hnm => hnm.swapCol old (col := { col with id := new }) (hnm col hcol.2),
      args_single ⟨⟩ ⟨⟩⟩
  | modifyColumn_none => exact ⟨hwf, fun hn => hn, fun _ hu => nomatch hu⟩
  | @modifyColumn _ c p col hc hne =>
    exact ⟨hwf.swapCol c (col := modCol tb col c p) (fun _ _ hx => hx) fun r hr => by simp [modCol, hr],
      fun hn => hn.swapCol c (modCol_normal tb col c p), args_single ⟨⟩ ⟨⟩⟩

theorem post_WF_Normal {d : Doc} {a : DocAction} {D : Doc} {U : List DocAction} (hwf : WF d)
    (hpos : a.rowsPositive) (hcd : a.colsDistinct) (h : Post d a D U) :
    WF D ∧ (Normal d → Normal D) ∧ ∀ u ∈ U, u.rowsPositive ∧ u.colsDistinct := by
  cases ha : a.table? with
  | some t =>
    obtain ⟨tb, o, hf, hp, rfl⟩ := (post_local ha).1 h
    have h1 := hp.wf_normal (hwf.table hf) hpos
    cases o with
    | none => exact ⟨hwf, id, h1.2.2⟩
    | some tb' =>
      exact ⟨hwf.replaceTable (hp.id.trans (findTable?_some hf).1) h1.1,
        fun hn => hn.replaceTable (h1.2.1 (hn.table hf)), h1.2.2⟩
  | none =>
    cases a with
    | addTable t cols =>
      obtain ⟨hf, rfl, rfl⟩ := h
      refine ⟨⟨nodup_map_append_single Table.id hwf.1 (findTable?_none.1 hf), fun x hx => ?_⟩,
        fun hn x hx => ?_, args_single ⟨⟩ ⟨⟩⟩
      · rcases List.mem_append.1 hx with hx | hx
        · exact hwf.2 x hx
        · exact List.mem_singleton.1 hx ▸ newTable_WF t hcd
      · rcases List.mem_append.1 hx with hx | hx
        · exact hn x hx
        · exact List.mem_singleton.1 hx ▸ newTable_Normal t cols
    | removeTable t =>
      obtain ⟨tb, hf, rfl, rfl⟩ := h
      have htb := hwf.table hf
      refine ⟨⟨nodup_map_filter Table.id _ hwf.1, fun x hx => hwf.2 x (List.mem_filter.1 hx).1⟩,
        fun hn x hx => hn x (List.mem_filter.1 hx).1, fun u hu => ?_⟩
      rcases List.mem_append.1 hu with hu | hu
      · rw [removeTableDataUndo] at hu
        split at hu
        · exact nomatch hu
        · refine args_single ?_ ?_ u hu
          · exact htb.2.2.1
          · trivial
      · refine args_single ?_ ?_ u hu
        · trivial
        show (List.map (·.1) (tb.cols.map fun col => (col.id, col.info))).Nodup
        rw [List.map_map]
        exact htb.1
    | renameTable old new =>
      obtain ⟨tb, hf, hn, rfl, rfl⟩ := h
      have htb : Table.WF { tb with id := new } := hwf.table (tb := tb) hf
      refine ⟨⟨nodup_map_append_single Table.id (nodup_map_filter Table.id _ hwf.1)
        fun y hy => findTable?_none.1 hn y (List.mem_filter.1 hy).1, fun x hx => ?_⟩,
        fun hnm x hx => ?_, args_single ⟨⟩ ⟨⟩⟩
      · rcases List.mem_append.1 hx with hx | hx
        · exact hwf.2 x (List.mem_filter.1 hx).1
        · exact List.mem_singleton.1 hx ▸ htb
      · rcases List.mem_append.1 hx with hx | hx
        · exact hnm x (List.mem_filter.1 hx).1
        · exact List.mem_singleton.1 hx ▸ (hnm.table hf).of_cols rfl
    | _ => cases ha

/-! ### undo -/

/-- a statement about undo at the table, lifted to the document -/
theorem undo_local {d : Doc} {a : DocAction} {D : Doc} {U : List DocAction} {t : String}
    (ha : a.table? = some t) (h : Post d a D U)
    (hu : ∀ tb o, findTable? d t = some tb → TPost tb a o U →
      ∃ tb'', TRun t (o.getD tb) U.reverse tb'' ∧ Table.Same tb'' tb) :
    ∃ d'', applyAll D U.reverse = .ok d'' ∧ Same d'' d := by
  obtain ⟨tb, o, hf, hp, rfl⟩ := (post_local ha).1 h
  obtain ⟨tb'', hrun, hs⟩ := hu tb o hf hp
  have hl := findTable?_applyLocal hf (hp.id_getD (findTable?_some hf).1)
  obtain ⟨D, hD, hlook⟩ := hrun.applyAll (d := applyLocal d t o) (by rw [hl, if_pos rfl])
  refine ⟨D, hD, same_of_lookup hf (fun t' => ?_) hs⟩
  rw [hlook, hl]
  split <;> rfl

end Grist.Doc
