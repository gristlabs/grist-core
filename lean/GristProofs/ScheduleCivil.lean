import GristModel.Schedule
import GristProofs.Calendar
namespace Grist.Schedule

/-!
SCHEDULE's calendar (C35), through `fom i`, the day number of the first of month `i = 12 * year +
(month - 1)`: months have 28 to 31 days, so `fom` is strictly increasing and `civilFromDays z` names
the month whose window `[fom i, fom (i + 1))` holds `z`; from `day1900` on, `add_to` and
`_round_down_to_unit` for months and years move along `fom`.
-/
open Grist.Cal

/-- `daysFromCivil` in "flat" form: March-based year `Y`, March-based month `mp`. -/
theorem dfc_flat (y m d Y mp : Int)
    (hY : Y = if m ≤ 2 then y - 1 else y) (hmp : mp = if m > 2 then m - 3 else m + 9) :
    daysFromCivil y m d = yearDays Y + (153 * mp + 2) / 5 + d - 1 - 719468 := by
  simp only [daysFromCivil, yearDays, ← hY, ← hmp]
  omega

theorem dfc_day (y m d : Int) : daysFromCivil y m d = daysFromCivil y m 1 + (d - 1) := by
  simp only [daysFromCivil]
  omega

def fom (i : Int) : Int := daysFromCivil (i / 12) (i % 12 + 1) 1

/-- `DATE`'s normalisation of an out-of-range month lands on the month with the summed index -/
theorem dfc_norm (y m : Int) :
    daysFromCivil (y + (m - 1) / 12) ((m - 1) % 12 + 1) 1 = fom (y * 12 + (m - 1)) := by
  unfold fom
  rw [Int.add_comm (y * 12), Int.add_mul_ediv_right _ _ (by decide), Int.add_mul_emod_self_right,
    Int.add_comm y]

theorem dfc_first (y m : Int) (h1 : 1 ≤ m) (h12 : m ≤ 12) :
    daysFromCivil y m 1 = fom (y * 12 + (m - 1)) := by
  have := dfc_norm y m
  rwa [show (m - 1) / 12 = 0 by omega, show (m - 1) % 12 + 1 = m by omega, Int.add_zero] at this

theorem fom_flat (Y mp : Int) (h0 : 0 ≤ mp) (h1 : mp ≤ 11) :
    fom (12 * Y + mp + 2) = yearDays Y + (153 * mp + 2) / 5 - 719468 := by
  unfold fom
  rw [dfc_flat _ _ 1 Y mp (by omega) (by omega)]
  omega

theorem fom_step (i : Int) : 28 ≤ fom (i + 1) - fom i ∧ fom (i + 1) - fom i ≤ 31 := by
  obtain ⟨e, l, u⟩ := divmod_spec (i - 2) 12 (by decide)
  generalize (i - 2) / 12 = Y, (i - 2) % 12 = mp at *
  obtain rfl : i = 12 * Y + mp + 2 := by omega
  rw [fom_flat Y mp l (by omega)]
  by_cases hw : mp = 11
  · -- February: the next month is March of the next (March-based) year
    rw [hw, show 12 * Y + 11 + 2 + 1 = 12 * (Y + 1) + 0 + 2 by omega,
      fom_flat (Y + 1) 0 (by decide) (by decide)]
    have := yearDays_succ_bounds Y
    omega
  · rw [show 12 * Y + mp + 2 + 1 = 12 * Y + (mp + 1) + 2 by omega,
      fom_flat Y (mp + 1) (by omega) (by omega)]
    omega

theorem fom_add (i : Int) (k : Nat) : fom i + 28 * (k : Int) ≤ fom (i + k) := by
  induction k with
  | zero => simp
  | succ k ih =>
    have := (fom_step (i + k)).1
    have e : i + ((k + 1 : Nat) : Int) = i + k + 1 := by omega
    rw [e]
    omega

theorem fom_strictMono {i j : Int} (h : i < j) : fom i < fom j := by
  have := fom_add i (j - i).toNat
  have e : i + ((j - i).toNat : Int) = j := by omega
  rw [e] at this
  omega

theorem fom_mono {i j : Int} (h : i ≤ j) : fom i ≤ fom j :=
  (Int.le_iff_lt_or_eq.1 h).elim (fun h => Int.le_of_lt (fom_strictMono h))
    (fun h => h ▸ Int.le_refl _)

/-- `min (n / B) 3`: a period of `4 * B + 1` days is cut into four of `B` days, the last a day
    longer (centuries of an era here, years of a 4-year cycle in `year_step`). -/
theorem century_step (n q r : Int) (h0 : 0 ≤ n) (h1 : n ≤ 4 * 36524)
    (hq : q = min (n / 36524) 3) (hr : r = n - q * 36524) :
    0 ≤ q ∧ q ≤ 3 ∧ 0 ≤ r ∧ r ≤ 36524 ∧ (r = 36524 → q = 3) := by
  omega

theorem year_step (n q r : Int) (h0 : 0 ≤ n) (h1 : n ≤ 4 * 365) (hq : q = min (n / 365) 3)
    (hr : r = n - q * 365) :
    0 ≤ q ∧ q ≤ 3 ∧ 0 ≤ r ∧ r ≤ 365 ∧ (r = 365 → q = 3 ∧ n = 1460) := by
  omega

theorem cycle_step (n q r : Int) (h0 : 0 ≤ n) (h1 : n ≤ 36524) (hq : q = n / 1461)
    (hr : r = n % 1461) :
    0 ≤ q ∧ q ≤ 24 ∧ 0 ≤ r ∧ r ≤ 1460 ∧ n = 1461 * q + r := by
  omega

/-- The divmod chain of `civilFromDays` on named intermediate values; `c, q, a` are the digits of
    `Y` within its era. -/
theorem cfd_chain (n era doe c r2 q r3 a doy Y : Int)
    (h1 : era = n / 146097) (h2 : doe = n % 146097) (h3 : c = min (doe / 36524) 3)
    (h4 : r2 = doe - c * 36524) (h5 : q = r2 / 1461) (h6 : r3 = r2 % 1461)
    (h7 : a = min (r3 / 365) 3) (h8 : doy = r3 - a * 365)
    (h9 : Y = c * 100 + q * 4 + a + era * 400) :
    0 ≤ doy ∧ doy ≤ 365 ∧ (doy = 365 → Leap (Y + 1)) ∧ n = yearDays Y + doy := by
  obtain ⟨e1, l1, u1⟩ := divmod_spec n 146097 (by decide)
  rw [← h1, ← h2] at e1
  rw [← h2] at l1 u1
  obtain ⟨c0, c3, r20, r21, hc⟩ := century_step doe c r2 l1 (by omega) h3 h4
  obtain ⟨q0, q24, r30, r31, e3⟩ := cycle_step r2 q r3 r20 r21 h5 h6
  obtain ⟨a0, a3, d0, d1, ha⟩ := year_step r3 a doy r30 (by omega) h7 h8
  clear h1 h2 h3 h5 h6 h7
  have hY : Y = 400 * era + 100 * c + 4 * q + a := by rw [h9]; omega
  rw [hY, yearDays_digits era c q a ⟨c0, c3⟩ ⟨q0, q24⟩ ⟨a0, a3⟩,
    leap_digits era c q a ⟨c0, c3⟩ ⟨q0, q24⟩ ⟨a0, a3⟩]
  refine ⟨d0, d1, fun h => ⟨(ha h).1, ?_⟩, ?_⟩
  · -- a cycle of 1461 days that starts on day 24 * 1461 of its century ends on day 36524
    by_cases hq : q = 24
    · exact Or.inr (hc (by rw [e3, hq, (ha h).2]; rfl))
    · exact Or.inl hq
  · rw [e1, show doe = r2 + c * 36524 by omega, e3, show r3 = doy + a * 365 by omega]
    omega

def civilOfYearDay (Y doy : Int) : Int × Int × Int :=
  let mp := (5 * doy + 2) / 153
  let d := doy - (153 * mp + 2) / 5 + 1
  let m := if mp < 10 then mp + 3 else mp - 9
  (Y + (if m ≤ 2 then 1 else 0), m, d)

/-- The `rfl`s fix the nine intermediate values of `cfd_chain` to the `let`s of `civilFromDays`. -/
theorem cfd_spec (z : Int) : ∃ Y doy : Int,
    0 ≤ doy ∧ doy ≤ 365 ∧ (doy = 365 → Leap (Y + 1)) ∧
    z + 719468 = yearDays Y + doy ∧ civilFromDays z = civilOfYearDay Y doy :=
  ⟨_, _, (cfd_chain (z + 719468) _ _ _ _ _ _ _ _ _ rfl rfl rfl rfl rfl rfl rfl rfl rfl).elim
    fun h0 h => ⟨h0, h.1, h.2.1, h.2.2, rfl⟩⟩

/-- month index `12 * year + (month - 1)` of a day number -/
def monthIdx (z : Int) : Int := (civilFromDays z).1 * 12 + ((civilFromDays z).2.1 - 1)

theorem mp_of_doy (doy mp : Int) (hd0 : 0 ≤ doy) (hd1 : doy ≤ 365)
    (hmp : mp = (5 * doy + 2) / 153) :
    0 ≤ mp ∧ mp ≤ 11 ∧ (153 * mp + 2) / 5 ≤ doy ∧
    (mp < 11 → doy < (153 * (mp + 1) + 2) / 5) := by
  omega

theorem month_window (z : Int) :
    z = fom (monthIdx z) + ((civilFromDays z).2.2 - 1) ∧ 1 ≤ (civilFromDays z).2.2 ∧
    z < fom (monthIdx z + 1) ∧ 1 ≤ (civilFromDays z).2.1 ∧ (civilFromDays z).2.1 ≤ 12 := by
  obtain ⟨Y, doy, hd0, hd1, hl, hz, hc⟩ := cfd_spec z
  obtain ⟨mp, hmp⟩ : ∃ mp, mp = (5 * doy + 2) / 153 := ⟨_, rfl⟩
  obtain ⟨m0, m11, s0, s1⟩ := mp_of_doy doy mp hd0 hd1 hmp
  have c1 : (civilFromDays z).1 =
      Y + (if (if mp < 10 then mp + 3 else mp - 9) ≤ 2 then 1 else 0) := by
    rw [hc, hmp]
    rfl
  have c2 : (civilFromDays z).2.1 = if mp < 10 then mp + 3 else mp - 9 := by
    rw [hc, hmp]
    rfl
  have c3 : (civilFromDays z).2.2 = doy - (153 * mp + 2) / 5 + 1 := by
    rw [hc, hmp]
    rfl
  clear hmp hc
  have hidx : monthIdx z = 12 * Y + mp + 2 := by
    unfold monthIdx
    rw [c1, c2]
    split <;> omega
  have f0 := fom_flat Y mp m0 m11
  rw [hidx, c2, c3, f0]
  generalize (153 * mp + 2) / 5 = s at s0 ⊢
  refine ⟨by omega, by omega, ?_, by split <;> omega, by split <;> omega⟩
  by_cases hw : mp = 11
  · rw [hw, show 12 * Y + 11 + 2 + 1 = 12 * (Y + 1) + 0 + 2 by omega,
      fom_flat (Y + 1) 0 (by decide) (by decide)]
    have := yearDays_succ_bounds Y
    by_cases h365 : doy = 365
    · have := yearDays_succ_of_leap (hl h365)
      omega
    · omega
  · rw [show 12 * Y + mp + 2 + 1 = 12 * Y + (mp + 1) + 2 by omega,
      fom_flat Y (mp + 1) (by omega) (by omega)]
    have := s1 (by omega)
    generalize (153 * (mp + 1) + 2) / 5 = s' at this ⊢
    omega

/-- The window of month `i` is the only one that holds `fom i`, since `fom` is strictly increasing. -/
theorem cfd_fom (i : Int) : civilFromDays (fom i) = (i / 12, i % 12 + 1, 1) := by
  obtain ⟨h1, h2, h3, h4, h5⟩ := month_window (fom i)
  have hi : monthIdx (fom i) = i := by
    rcases Int.lt_trichotomy (monthIdx (fom i)) i with hlt | heq | hgt
    · have := @fom_mono (monthIdx (fom i) + 1) i (by omega)
      omega
    · exact heq
    · have := fom_strictMono hgt
      omega
  rw [hi] at h1
  unfold monthIdx at hi
  show ((civilFromDays (fom i)).1, (civilFromDays (fom i)).2.1, (civilFromDays (fom i)).2.2) = _
  rw [show (civilFromDays (fom i)).1 = i / 12 by omega,
    show (civilFromDays (fom i)).2.1 = i % 12 + 1 by omega,
    show (civilFromDays (fom i)).2.2 = 1 by omega]

theorem monthIdx_fom (i : Int) : monthIdx (fom i) = i := by
  unfold monthIdx
  rw [cfd_fom]
  show i / 12 * 12 + (i % 12 + 1 - 1) = i
  omega

theorem dfc_cfd (z : Int) :
    daysFromCivil (civilFromDays z).1 (civilFromDays z).2.1 (civilFromDays z).2.2 = z := by
  obtain ⟨h1, _, _, h4, h5⟩ := month_window z
  rw [dfc_day, dfc_first _ _ h4 h5]
  exact h1.symm

/-- day number of 1900-01-01 -/
def day1900 : Int := -25567

theorem fom_1900 : fom (1900 * 12) = day1900 := by decide

/-- so `DATE` does not add 1900 -/
theorem year_ge_1900 (z : Int) (h : day1900 ≤ z) : 1900 ≤ (civilFromDays z).1 := by
  obtain ⟨_, _, h3, h4, h5⟩ := month_window z
  -- otherwise the month index is below 1900-01, whose successor month starts by 1900-01-01
  false_or_by_contra
  rename_i hlt
  have hidx : monthIdx z + 1 ≤ 1900 * 12 := by unfold monthIdx; omega
  have := fom_mono hidx
  rw [fom_1900] at this
  omega

theorem usDay_pos : 0 < usDay := by decide

theorem day_tod (t : Int) : dayOf t * usDay + todOf t = t := Int.ediv_mul_add_emod t usDay

theorem dayOf_window (a b t : Int) (h1 : a ≤ dayOf t) (h2 : dayOf t < b) :
    a * usDay ≤ t ∧ t < b * usDay :=
  ⟨(Int.le_ediv_iff_mul_le usDay_pos).1 h1, (Int.ediv_lt_iff_lt_mul usDay_pos).1 h2⟩

/-- `add_to` adds `months` to the month index, keeps day-of-month and time, adds the timedelta. -/
theorem addTo_eq (δ : Delta) (t : Int) (h : day1900 ≤ dayOf t) :
    δ.addTo t = (fom (monthIdx (dayOf t) + δ.months) + ((civilFromDays (dayOf t)).2.2 - 1)) * usDay
      + todOf t + δ.us := by
  have hy := year_ge_1900 _ h
  obtain ⟨_, _, _, hm1, hm2⟩ := month_window (dayOf t)
  simp only [Delta.addTo, dateNorm]
  rw [if_neg (by omega), dfc_norm, monthIdx,
    show (civilFromDays (dayOf t)).1 * 12 + ((civilFromDays (dayOf t)).2.1 + δ.months - 1)
      = (civilFromDays (dayOf t)).1 * 12 + ((civilFromDays (dayOf t)).2.1 - 1) + δ.months by omega]

theorem addTo_fixed (δ : Delta) (t : Int) (hm : δ.months = 0) (h : day1900 ≤ dayOf t) :
    δ.addTo t = t + δ.us := by
  rw [addTo_eq δ t h, hm, Int.add_zero, ← (month_window (dayOf t)).1, day_tod]

theorem dayOf_fom (i : Int) : dayOf (fom i * usDay) = fom i :=
  Int.mul_ediv_cancel _ (Int.ne_of_gt usDay_pos)

theorem todOf_fom (i : Int) : todOf (fom i * usDay) = 0 := Int.mul_emod_left _ _

theorem addTo_fom (δ : Delta) (i : Int) (h : day1900 ≤ fom i) :
    δ.addTo (fom i * usDay) = fom (i + δ.months) * usDay + δ.us := by
  rw [addTo_eq δ _ (by rw [dayOf_fom]; exact h), dayOf_fom, todOf_fom, monthIdx_fom, cfd_fom]
  show (fom (i + δ.months) + (1 - 1)) * usDay + 0 + δ.us = _
  rw [Int.sub_self, Int.add_zero, Int.add_zero]

theorem roundDown_months (t : Int) : roundDown t .months = fom (monthIdx (dayOf t)) * usDay := by
  obtain ⟨_, _, _, hm1, hm2⟩ := month_window (dayOf t)
  show daysFromCivil _ _ 1 * usDay = _
  rw [dfc_first _ _ hm1 hm2]
  rfl

theorem roundDown_years (t : Int) :
    roundDown t .years = fom ((civilFromDays (dayOf t)).1 * 12) * usDay := by
  show daysFromCivil _ 1 1 * usDay = _
  rw [dfc_first _ 1 (by decide) (by decide), show (1 : Int) - 1 = 0 from rfl, Int.add_zero]

theorem months_window (t : Int) :
    fom (monthIdx (dayOf t)) * usDay ≤ t ∧ t < fom (monthIdx (dayOf t) + 1) * usDay := by
  obtain ⟨h1, h2, h3, _, _⟩ := month_window (dayOf t)
  exact dayOf_window _ _ t (by omega) h3

theorem years_window (t : Int) :
    fom ((civilFromDays (dayOf t)).1 * 12) * usDay ≤ t ∧
    t < fom ((civilFromDays (dayOf t)).1 * 12 + 12) * usDay := by
  obtain ⟨h1, h2, h3, hm1, hm2⟩ := month_window (dayOf t)
  have a := @fom_mono ((civilFromDays (dayOf t)).1 * 12) (monthIdx (dayOf t))
    (by unfold monthIdx; omega)
  have b := @fom_mono (monthIdx (dayOf t) + 1) ((civilFromDays (dayOf t)).1 * 12 + 12)
    (by unfold monthIdx; omega)
  exact dayOf_window _ _ t (by omega) (by omega)

end Grist.Schedule
