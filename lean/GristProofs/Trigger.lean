/-
The mechanism of GristModel/Trigger.lean seen from ONE record `r`: a `Cell` (is `r` alive, dirty,
exempt?) and a fold of Boolean transformers over the bundle (`cellDoc` per doc step, `cellUA` per
user action, `cellRun`).  First half: the mechanism is that fold, exactly and without hypotheses
(`runBundle_cell`).  Second half: the fold against the specification's `trig` / `prot`, i.e.
`cellRun` against `pendingGo` (`cellRun_complete`, `cellRun_sound`); no `MState` occurs there.
-/
import GristModel.Trigger
import GristProofs.Basics
namespace Grist.Trigger

/-- The mechanism's state as record `r` sees it: `r ∈ alive`, `r ∈ dirty`, `r ∈ prevented`. -/
structure Cell where
  alive : Bool
  dirty : Bool
  exempt : Bool

def MState.cell (st : MState) (r : Nat) : Cell :=
  ⟨st.alive.contains r, st.dirty.contains r, st.prevented.contains r⟩

/-- What a doc step does to record `r`.  A removal marks `r` only if it was alive, so the dirty bit
    cannot be followed without the alive bit. -/
def cellDoc (env : Env) (edges : List Nat) (r : Nat) (x : Cell) : DocStep → Cell
  | .add rows =>
    { x with alive := x.alive || rows.contains r,
             dirty := x.dirty || (!edges.isEmpty && rows.contains r) }
  | .update rows cols =>
    { x with dirty := x.dirty || (cols.any (hit env edges) && rows.contains r),
             exempt := x.exempt || (cols.contains env.c && rows.contains r) }
  | .remove rows =>
    { x with alive := x.alive && !rows.contains r,
             dirty := x.dirty || (!edges.isEmpty && (rows.contains r && x.alive)) }

/-- What a user action does to record `r`: the exemptions are cleared first. -/
def cellUA (env : Env) (edges : List Nat) (cfg : Config) (r : Nat) (x : Cell) : UA → Cell
  | .add rows supplied =>
    { alive := x.alive || rows.contains r,
      dirty := x.dirty ||
        (rows.contains r && (!edges.isEmpty || (!supplied.contains env.c && cfg.when != .never))),
      exempt := false }
  | .update rows cols diff =>
    { alive := x.alive,
      dirty := x.dirty || ((keptRows rows cols diff).contains r &&
        ((keptCols rows cols diff).any (hit env edges) || cfg.when == .manual)),
      exempt := (keptRows rows cols diff).contains r &&
        ((keptCols rows cols diff).contains env.c && !selfDep env cfg) }
  | .remove rows => cellDoc env edges r { x with exempt := false } (.remove rows)
  | .doc steps => steps.foldl (cellDoc env edges r) { x with exempt := false }
  | _ => { x with exempt := false }

/-- A whole bundle, every user action with the configuration live when it runs. -/
def cellRun (env : Env) (edges : List Nat) (r : Nat) (x : Cell) (L : List (Config × UA)) : Cell :=
  L.foldl (fun x cu => cellUA env edges cu.1 r x cu.2) x

/-! ### the transformers as records -/

/-- Every invalidation appends rows to `dirty` or does nothing: written as one record, a run of
    such steps is again a record whose fields can be read off. -/
theorem ite_dirty (b : Bool) (st : MState) (l : List Nat) :
    (if b = true then { st with dirty := st.dirty ++ l } else st) =
      { st with dirty := st.dirty ++ if b = true then l else [] } := by
  cases b <;> simp

theorem ite_prevented (b : Bool) (st : MState) (l : List Nat) :
    (if b = true then { st with prevented := st.prevented ++ l } else st) =
      { st with prevented := st.prevented ++ if b = true then l else [] } := by
  cases b <;> simp

theorem docAdd_ok {st st' : MState} {rows : List Nat} (h : docAdd st rows = .ok st') :
    st' = { st with alive := st.alive ++ rows,
                    dirty := st.dirty ++ if (!st.edges.isEmpty) = true then rows else [] } := by
  unfold docAdd at h
  split at h
  · cases h
  · injection h with h
    rw [← h, invalidateAll, ite_dirty]

theorem docUpdate_ok {env : Env} {st st' : MState} {rows cols : List Nat}
    (h : docUpdate env st rows cols = .ok st') :
    st' = { st with prevented := st.prevented ++ if cols.contains env.c = true then rows else [],
                    dirty := st.dirty ++ if cols.any (hit env st.edges) = true then rows else [] } := by
  unfold docUpdate at h
  split at h
  · cases h
  · injection h with h
    rw [← h, ite_prevented, invalidateCols, ite_dirty]
    rfl

theorem docRemove_eq (st : MState) (rows : List Nat) :
    docRemove st rows =
      { st with alive := st.alive.filter (fun r => !rows.contains r),
                dirty := st.dirty ++
                  if (!st.edges.isEmpty) = true then rows.filter st.alive.contains else [] } :=
  ite_dirty _ _ _

theorem userUpdateDoc_ok {env : Env} {st st' : MState} {kr kc : List Nat}
    (h : userUpdateDoc env st kr kc = .ok st') :
    st' = { st with prevented := st.prevented ++ if kc.contains env.c = true then kr else [],
                    dirty := st.dirty ++ if kc.any (hit env st.edges) = true then kr else [] } := by
  unfold userUpdateDoc at h
  split at h
  · rename_i hk
    injection h with h
    simp [← h, List.isEmpty_iff.mp hk]
  · exact docUpdate_ok h

theorem userUpdatePost_eq (env : Env) (st : MState) (kr kc : List Nat) :
    userUpdatePost env st kr kc =
      { st with dirty := st.dirty ++ if (!kc.isEmpty && st.cfg.when == .manual) = true then kr else [],
                prevented := if (kc.contains env.c && selfDep env st.cfg) = true
                  then st.prevented.filter (fun r => !kr.contains r) else st.prevented } := by
  unfold userUpdatePost
  cases kc with
  | nil => simp
  | cons a t =>
    simp only [List.isEmpty_cons, Bool.false_eq_true, if_false, ite_dirty, Bool.not_false, Bool.true_and]
    split <;> rfl

/-! ### what `contains r` makes of these records: the cell transformers

Membership of `r` in the lists the closed forms build is a Boolean expression in the memberships
before; up to a truth table it is the transformer of `cellDoc` / `cellUA`. -/

theorem contains_ite (b : Bool) (m : List Nat) (r : Nat) :
    (if b = true then m else []).contains r = (b && m.contains r) := by
  cases b <;> simp

theorem contains_filter_not (l m : List Nat) (r : Nat) :
    (l.filter (fun x => !m.contains x)).contains r = (l.contains r && !m.contains r) := by
  simp

theorem contains_ite_filter_not (b : Bool) (l m : List Nat) (r : Nat) :
    (if b = true then l.filter (fun x => !m.contains x) else l).contains r =
      (l.contains r && !(b && m.contains r)) := by
  cases b <;> simp

theorem contains_filter_contains (l m : List Nat) (r : Nat) :
    (m.filter l.contains).contains r = (m.contains r && l.contains r) := by
  simp

theorem stepDoc_cell {env : Env} {st st' : MState} {s : DocStep} (h : stepDoc env st s = .ok st') :
    st'.cfg = st.cfg ∧ st'.edges = st.edges ∧ st'.alive = aliveAfterDoc st.alive s ∧
      ∀ r, st'.cell r = cellDoc env st.edges r (st.cell r) s := by
  cases s with
  | add rows =>
    rw [docAdd_ok h]
    exact ⟨rfl, rfl, rfl, fun r => by
      simp only [MState.cell, cellDoc, List.contains_append, contains_ite]⟩
  | update rows cols =>
    rw [docUpdate_ok h]
    exact ⟨rfl, rfl, rfl, fun r => by
      simp only [MState.cell, cellDoc, List.contains_append, contains_ite]⟩
  | remove rows =>
    injection h with h
    rw [← h, docRemove_eq]
    exact ⟨rfl, rfl, rfl, fun r => by
      simp only [MState.cell, cellDoc, List.contains_append, contains_ite, contains_filter_not,
        contains_filter_contains]⟩

theorem runDoc_cell {env : Env} : ∀ (steps : List DocStep) {st st' : MState},
    runDoc env st steps = .ok st' →
    st'.cfg = st.cfg ∧ st'.edges = st.edges ∧ st'.alive = steps.foldl aliveAfterDoc st.alive ∧
      ∀ r, st'.cell r = steps.foldl (cellDoc env st.edges r) (st.cell r) := by
  intro steps
  induction steps with
  | nil =>
    intro st st' h
    injection h with h
    subst h
    exact ⟨rfl, rfl, rfl, fun _ => rfl⟩
  | cons s rest ih =>
    intro st st' h
    simp only [runDoc] at h
    cases hs : stepDoc env st s with
    | error e => simp [hs, bind, Except.bind] at h
    | ok st1 =>
      simp only [hs, bind, Except.bind] at h
      obtain ⟨c1, e1, a1, x1⟩ := stepDoc_cell hs
      obtain ⟨c2, e2, a2, x2⟩ := ih h
      refine ⟨c2.trans c1, e2.trans e1, by rw [a2, a1]; rfl, fun r => ?_⟩
      rw [x2, x1, e1]
      rfl

theorem userAdd_cell {env : Env} {st st' : MState} {rows supplied : List Nat}
    (h : userAdd env { st with prevented := [] } rows supplied = .ok st') :
    st'.cfg = st.cfg ∧ st'.edges = st.edges ∧ st'.alive = st.alive ++ rows ∧
      ∀ r, st'.cell r = cellUA env st.edges st.cfg r (st.cell r) (.add rows supplied) := by
  unfold userAdd at h
  cases hs : docAdd { st with prevented := [] } rows with
  | error e => simp [hs, bind, Except.bind] at h
  | ok st1 =>
    simp only [hs, bind, Except.bind, pure, Except.pure] at h
    injection h with h
    rw [← h, docAdd_ok hs, ite_dirty, invalidateAll, ite_dirty]
    refine ⟨rfl, rfl, rfl, fun r => ?_⟩
    simp only [MState.cell, cellUA, List.contains_append, contains_ite, List.contains_nil]
    generalize st.dirty.contains r = d
    generalize rows.contains r = m
    generalize st.edges.isEmpty = e
    generalize (!supplied.contains env.c && st.cfg.when != RecalcWhen.never) = i
    cases d <;> cases m <;> cases e <;> cases i <;> rfl

theorem userUpdate_cell {env : Env} {st st' : MState} {rows cols : List Nat} {diff : List (Nat × Nat)}
    (h : userUpdate env { st with prevented := [] } rows cols diff = .ok st') :
    st'.cfg = st.cfg ∧ st'.edges = st.edges ∧ st'.alive = st.alive ∧
      ∀ r, st'.cell r = cellUA env st.edges st.cfg r (st.cell r) (.update rows cols diff) := by
  unfold userUpdate at h
  cases hs : userUpdateDoc env { st with prevented := [] } (keptRows rows cols diff)
      (keptCols rows cols diff) with
  | error e => simp [hs] at h
  | ok st1 =>
    simp only [hs] at h
    injection h with h
    rw [← h, userUpdateDoc_ok hs, userUpdatePost_eq]
    refine ⟨rfl, rfl, rfl, fun r => ?_⟩
    -- a row is kept because of some kept column
    have hk : (keptRows rows cols diff).contains r = true → (keptCols rows cols diff).isEmpty = false := by
      intro hr
      cases hk : keptCols rows cols diff with
      | nil => simp [keptRows, hk] at hr
      | cons _ _ => rfl
    simp only [MState.cell, cellUA, contains_ite_filter_not, List.contains_append, contains_ite,
      List.contains_nil]
    generalize (keptRows rows cols diff).contains r = m at hk ⊢
    cases m
    · simp
    · rw [hk rfl]
      cases (keptCols rows cols diff).contains env.c <;> cases selfDep env st.cfg <;>
        simp [Bool.or_assoc]

theorem stepUA_cell {env : Env} {st st' : MState} {ua : UA} (h : stepUA env st ua = .ok st') :
    st'.cfg = cfgAfter st.cfg ua ∧ st'.edges = st.edges ∧ st'.alive = aliveAfterUA st.alive ua ∧
      ∀ r, st'.cell r = cellUA env st.edges st.cfg r (st.cell r) ua := by
  unfold stepUA at h
  cases ua with
  | add rows supplied => exact userAdd_cell h
  | update rows cols diff => exact userUpdate_cell h
  | remove rows => exact stepDoc_cell (env := env) (s := .remove rows) h
  | setConfig cfg =>
    injection h with h
    subst h
    exact ⟨rfl, rfl, rfl, fun _ => rfl⟩
  | schema col =>
    -- `SingleRowsIdentityRelation`: ALL_ROWS of a column reaches no cell of `c`
    injection h with h
    rw [← h, invalidateCol, ite_dirty]
    exact ⟨rfl, rfl, rfl, fun r => by
      simp only [MState.cell, cellUA, singleRowsAffected, ite_self, List.append_nil, List.contains_nil]⟩
  | doc steps => exact runDoc_cell steps h

/-- The mechanism over a bundle is, record by record, the fold `cellRun`. -/
theorem runUAs_cell {env : Env} : ∀ (b : List UA) {st st' : MState}, runUAs env st b = .ok st' →
    st'.alive = aliveAfter st.alive b ∧
      ∀ r, st'.cell r = cellRun env st.edges r (st.cell r) (annot st.cfg b) := by
  intro b
  induction b with
  | nil =>
    intro st st' h
    injection h with h
    subst h
    exact ⟨rfl, fun _ => rfl⟩
  | cons ua rest ih =>
    intro st st' h
    simp only [runUAs] at h
    cases hs : stepUA env st ua with
    | error e => simp [hs, bind, Except.bind] at h
    | ok st1 =>
      simp only [hs, bind, Except.bind] at h
      obtain ⟨c1, e1, a1, x1⟩ := stepUA_cell hs
      obtain ⟨a2, x2⟩ := ih h
      refine ⟨by rw [a2, a1]; rfl, fun r => ?_⟩
      rw [x2, x1, e1, c1]
      rfl

theorem mem_evaluatedOf {st : MState} {r : Nat} :
    r ∈ evaluatedOf st ↔
      (st.cell r).dirty = true ∧ (st.cell r).alive = true ∧ (st.cell r).exempt = false := by
  simp [evaluatedOf, MState.cell]

/-- `runBundle` evaluates the cell of `r` iff `r` ends dirty, alive and not exempt in `cellRun`:
    for any bundle and any content of the recompute map at the start. -/
theorem runBundle_cell {env : Env} {cfg : Config} {edges alive dirty0 : List Nat} {b : List UA}
    {res : Result} (h : runBundle env cfg edges alive dirty0 b = .ok res) (r : Nat) :
    ∃ y, y = cellRun env edges r ⟨alive.contains r, dirty0.contains r, false⟩ (annot cfg b) ∧
      (y.alive = true ↔ r ∈ aliveAfter alive b) ∧
      (r ∈ res.evaluated ↔ y.dirty = true ∧ y.alive = true ∧ y.exempt = false) := by
  unfold runBundle at h
  cases hs : runUAs env { cfg := cfg, edges := edges, alive := alive, dirty := dirty0, prevented := [] } b with
  | error e => simp [hs, bind, Except.bind] at h
  | ok st' =>
    simp only [hs, bind, Except.bind, pure, Except.pure] at h
    injection h with h
    obtain ⟨a2, x2⟩ := runUAs_cell b hs
    refine ⟨st'.cell r, x2 r, ?_, ?_⟩
    · rw [← (a2 : st'.alive = aliveAfter alive b)]
      simp [MState.cell]
    · rw [← h, mem_evaluatedOf]

/-! ## the fold against the specification

From here on `edges = edgesOf cfg` wherever `trig` is compared (H-edges). -/

theorem annot_eq_nil (cfg : Config) (b : List UA) : annot cfg b = [] ↔ b = [] := by
  cases b <;> simp [annot]

theorem any_hit_nil (env : Env) (cols : List Nat) : cols.any (hit env []) = false := by
  simp [hit]

theorem any_hit_isEmpty {env : Env} {edges cols : List Nat} (h : cols.any (hit env edges) = true) :
    edges.isEmpty = false := by
  cases edges with
  | nil => cases (any_hit_nil env cols).symm.trans h
  | cons _ _ => rfl

theorem any_hit_edgesOf (env : Env) (cfg : Config) (cols : List Nat) :
    cols.any (hit env (edgesOf cfg)) = (cfg.when == RecalcWhen.dflt && depTouched env cfg cols) := by
  unfold edgesOf
  cases cfg.when with
  | dflt =>
    -- both sides say: some column of `cols` is a dependency or is read by one
    rw [Bool.eq_iff_iff]
    simp only [hit, depTouched, beq_self_eq_true, Bool.true_and, List.any_eq_true,
      Bool.or_eq_true, beq_iff_eq, List.contains_eq_mem, decide_eq_true_eq]
    constructor
    · rintro ⟨x, hx, e, he, h⟩
      exact ⟨e, he, h.elim (fun h => Or.inl (h ▸ hx)) fun h => Or.inr ⟨x, h, hx⟩⟩
    · rintro ⟨e, he, h | ⟨x, h, hx⟩⟩
      · exact ⟨e, h, e, he, Or.inl rfl⟩
      · exact ⟨x, hx, e, he, Or.inr h⟩
  | never => exact any_hit_nil env cols
  | manual => exact any_hit_nil env cols

theorem selfDep_edges (env : Env) (cfg : Config) (h : selfDep env cfg = true) :
    (edgesOf cfg).isEmpty = false := by
  simp only [selfDep, Bool.and_eq_true, beq_iff_eq] at h
  unfold edgesOf
  rw [h.1]
  have : env.c ∈ cfg.deps := by simpa using h.2
  cases hd : cfg.deps with
  | nil =>
    rw [hd] at this
    simp at this
  | cons a t => rfl

theorem edges_nonempty_dflt (cfg : Config) (h : (edgesOf cfg).isEmpty = false) :
    cfg.when = RecalcWhen.dflt := by
  unfold edgesOf at h
  cases hw : cfg.when <;> simp [hw] at h <;> rfl

theorem addedRows_doc_isDocAdd (steps : List DocStep) (r : Nat) (h : r ∈ addedRows (.doc steps)) :
    steps.any isDocAdd = true := by
  simp only [addedRows, List.mem_flatMap] at h
  obtain ⟨s, hs, h⟩ := h
  simp only [List.any_eq_true]
  refine ⟨s, hs, ?_⟩
  cases s <;> simp [addedRowsDoc] at h <;> rfl

/-! ### one doc step, a list of doc steps -/

/-- dirtiness and exemption only grow; a record becomes dirty only by a step that mentions it while
    `c` has edges, exempt only by an update of it that names `c` -/
theorem cellDoc_facts (env : Env) (edges : List Nat) (r : Nat) (x : Cell) (s : DocStep) :
    (x.dirty = true → (cellDoc env edges r x s).dirty = true) ∧
    (x.exempt = true → (cellDoc env edges r x s).exempt = true) ∧
    ((cellDoc env edges r x s).dirty = true →
      x.dirty = true ∨ (edges.isEmpty = false ∧ mentionsDoc r s = true)) ∧
    ((cellDoc env edges r x s).exempt = true →
      x.exempt = true ∨ ∃ rows cols, s = .update rows cols ∧ r ∈ rows ∧ env.c ∈ cols) := by
  cases s with
  | add rows =>
    simp only [cellDoc, mentionsDoc, Bool.or_eq_true, Bool.and_eq_true, Bool.not_eq_true']
    exact ⟨Or.inl, id, id, Or.inl⟩
  | update rows cols =>
    simp only [cellDoc, mentionsDoc, Bool.or_eq_true, Bool.and_eq_true]
    exact ⟨Or.inl, Or.inl, Or.imp_right fun h => ⟨any_hit_isEmpty h.1, h.2⟩,
      Or.imp_right fun h => ⟨rows, cols, rfl, by simpa using h.2, by simpa using h.1⟩⟩
  | remove rows =>
    simp only [cellDoc, mentionsDoc, Bool.or_eq_true, Bool.and_eq_true, Bool.not_eq_true']
    exact ⟨Or.inl, id, Or.imp_right fun h => ⟨h.1, h.2.1⟩, Or.inl⟩

theorem foldl_cellDoc_facts (env : Env) (edges : List Nat) (r : Nat) (steps : List DocStep) (x : Cell) :
    (x.dirty = true → (steps.foldl (cellDoc env edges r) x).dirty = true) ∧
    (x.exempt = true → (steps.foldl (cellDoc env edges r) x).exempt = true) ∧
    ((steps.foldl (cellDoc env edges r) x).dirty = true →
      x.dirty = true ∨ (edges.isEmpty = false ∧ steps.any (mentionsDoc r) = true)) ∧
    ((steps.foldl (cellDoc env edges r) x).exempt = true →
      x.exempt = true ∨ ∃ rows cols, DocStep.update rows cols ∈ steps ∧ r ∈ rows ∧ env.c ∈ cols) := by
  refine List.foldlRecOn (motive := fun y : Cell => (x.dirty = true → y.dirty = true) ∧
    (x.exempt = true → y.exempt = true) ∧
    (y.dirty = true → x.dirty = true ∨ (edges.isEmpty = false ∧ steps.any (mentionsDoc r) = true)) ∧
    (y.exempt = true →
      x.exempt = true ∨ ∃ rows cols, DocStep.update rows cols ∈ steps ∧ r ∈ rows ∧ env.c ∈ cols))
    steps _ ⟨id, id, Or.inl, Or.inl⟩ fun y hy s hs => ?_
  obtain ⟨f1, f2, f3, f4⟩ := cellDoc_facts env edges r y s
  refine ⟨fun h => f1 (hy.1 h), fun h => f2 (hy.2.1 h), fun h => ?_, fun h => ?_⟩
  · exact (f3 h).elim hy.2.2.1 fun h' => Or.inr ⟨h'.1, List.any_eq_true.mpr ⟨s, hs, h'.2⟩⟩
  · exact (f4 h).elim hy.2.2.2 fun ⟨rows, cols, e, h'⟩ => Or.inr ⟨rows, cols, e ▸ hs, h'⟩

theorem foldl_cellDoc_trig (env : Env) (cfg : Config) (r : Nat) : ∀ (steps : List DocStep) (x : Cell),
    steps.any (trigDoc env cfg r) = true →
    (steps.foldl (cellDoc env (edgesOf cfg) r) x).dirty = true := by
  intro steps
  induction steps with
  | nil =>
    intro x h
    cases h
  | cons s rest ih =>
    intro x h
    simp only [List.any_cons, Bool.or_eq_true] at h
    rcases h with h | h
    · refine (foldl_cellDoc_facts env _ r rest _).1 ?_
      cases s with
      | update rows cols =>
        simp only [trigDoc, ← any_hit_edgesOf] at h
        simp only [cellDoc, Bool.and_comm, h, Bool.or_true]
      | _ => cases h
    · exact ih _ h

theorem cellDoc_of_not_mentions (env : Env) (cfg : Config) (edges : List Nat) (x : Cell) {r : Nat}
    {s : DocStep} (h : mentionsDoc r s = false) :
    cellDoc env edges r x s = x ∧ protDoc env r s = false ∧ trigDoc env cfg r s = false := by
  cases s <;> simp only [mentionsDoc] at h <;>
    simp only [cellDoc, protDoc, trigDoc, h, Bool.and_false, Bool.or_false, Bool.false_and,
      Bool.not_false, Bool.and_true, and_self]

/-- Soundness of a list of doc steps on the domain (no verbatim add while `c` has edges) for a record
    that is not dirty when re-added: if it ends dirty, alive and not exempt, no step set its cell,
    and a step triggered it or it was dirty and alive before. -/
theorem foldl_cellDoc_sound (env : Env) (cfg : Config) (r : Nat) : ∀ (steps : List DocStep) (x : Cell),
    (steps.any isDocAdd = false ∨ (edgesOf cfg).isEmpty = true) →
    (x.dirty = true → r ∉ steps.flatMap addedRowsDoc) →
    (steps.foldl (cellDoc env (edgesOf cfg) r) x).dirty = true →
    (steps.foldl (cellDoc env (edgesOf cfg) r) x).alive = true →
    (steps.foldl (cellDoc env (edgesOf cfg) r) x).exempt = false →
      steps.any (protDoc env r) = false ∧
        (steps.any (trigDoc env cfg r) = true ∨ (x.dirty = true ∧ x.alive = true)) := by
  intro steps
  induction steps with
  | nil =>
    intro x _ _ hd ha _
    exact ⟨rfl, Or.inr ⟨hd, ha⟩⟩
  | cons s rest ih =>
    intro x h1 h2 hd ha he
    rw [List.foldl_cons] at hd ha he
    have hx1 := cellDoc_facts env (edgesOf cfg) r x s
    have hrest := foldl_cellDoc_facts env (edgesOf cfg) r rest (cellDoc env (edgesOf cfg) r x s)
    have he1 : (cellDoc env (edgesOf cfg) r x s).exempt = false :=
      Bool.eq_false_iff.mpr fun h => Bool.eq_false_iff.mp he (hrest.2.1 h)
    simp only [List.any_cons, Bool.or_eq_false_iff, List.flatMap_cons, List.mem_append, not_or] at h1 h2
    obtain ⟨hp, ht⟩ := ih _ (h1.imp_left And.right) (fun h => by
      rcases hx1.2.2.1 h with h | ⟨h, _⟩
      · exact (h2 h).2
      · -- `c` has edges: there is no verbatim add at all
        intro hm
        have := addedRows_doc_isDocAdd rest r hm
        rcases h1 with h1 | h1
        · rw [h1.2] at this
          cases this
        · rw [h1] at h
          cases h) hd ha he
    simp only [List.any_cons, Bool.or_eq_false_iff, Bool.or_eq_true, hp, and_true]
    cases hm : mentionsDoc r s with
    | false =>
      obtain ⟨e, e1, e2⟩ := cellDoc_of_not_mentions env cfg (edgesOf cfg) x hm
      rw [e] at ht
      exact ⟨e1, ht.imp_left Or.inr⟩
    | true =>
      cases s with
      | add rows =>
        -- a verbatim add of `r`: `c` has no edges, so `r` was dirty before, and is not re-added
        exfalso
        have hE : (edgesOf cfg).isEmpty = true := h1.resolve_left (by simp [isDocAdd])
        rcases hrest.2.2.1 hd with h | h
        · rcases hx1.2.2.1 h with h | h
          · exact (h2 h).1 (by simpa [mentionsDoc, addedRowsDoc] using hm)
          · rw [hE] at h
            cases h.1
        · rw [hE] at h
          cases h.1
      | update rows cols =>
        simp only [mentionsDoc] at hm
        simp only [cellDoc, hm, Bool.and_true, Bool.or_eq_false_iff, Bool.or_eq_true] at he1 ht
        refine ⟨by simp only [protDoc, he1.2, Bool.and_false], ?_⟩
        rcases ht with ht | ⟨ht | ht, ha'⟩
        · exact Or.inl (Or.inr ht)
        · exact Or.inr ⟨ht, ha'⟩
        · exact Or.inl (Or.inl (by simp only [trigDoc, hm, ← any_hit_edgesOf, ht, Bool.and_self]))
      | remove rows =>
        simp only [mentionsDoc] at hm
        simp only [cellDoc, hm, Bool.not_true, Bool.and_false, Bool.false_eq_true, and_false,
          or_false] at ht
        exact ⟨rfl, Or.inl (Or.inr ht)⟩

/-! ### one user action against `trig` / `prot` -/

theorem mem_keptRows {rows cols : List Nat} {diff : List (Nat × Nat)} {r : Nat}
    (h : r ∈ keptRows rows cols diff) : r ∈ rows :=
  (List.mem_filter.mp h).1

theorem mem_keptCols {rows cols : List Nat} {diff : List (Nat × Nat)} {x : Nat}
    (h : x ∈ keptCols rows cols diff) : x ∈ cols :=
  (List.mem_filter.mp h).1

/-- a record becomes dirty only by a user action that mentions it; an exemption comes from a
    record update naming `c` -/
theorem cellUA_facts (env : Env) (edges : List Nat) (cfg : Config) (r : Nat) (x : Cell) (ua : UA) :
    ((cellUA env edges cfg r x ua).dirty = true → x.dirty = true ∨ mentions r ua = true) ∧
    ((cellUA env edges cfg r x ua).exempt = true → namesC env ua = true) := by
  cases ua with
  | add rows supplied =>
    simp only [cellUA, mentions, Bool.or_eq_true, Bool.and_eq_true]
    exact ⟨Or.imp_right And.left, fun h => by cases h⟩
  | update rows cols diff =>
    simp only [cellUA, mentions, namesC, Bool.or_eq_true, Bool.and_eq_true, List.contains_eq_mem,
      decide_eq_true_eq]
    exact ⟨Or.imp_right fun h => mem_keptRows h.1, fun h => mem_keptCols h.2.1⟩
  | remove rows =>
    have := cellDoc_facts env edges r { x with exempt := false } (.remove rows)
    exact ⟨fun h => (this.2.2.1 h).imp_right And.right, fun h => by cases h⟩
  | doc steps =>
    have := foldl_cellDoc_facts env edges r steps { x with exempt := false }
    refine ⟨fun h => (this.2.2.1 h).imp_right And.right, fun h => ?_⟩
    rcases this.2.2.2 h with h | ⟨rows, cols, hs, _, hc⟩
    · cases h
    · exact List.any_eq_true.mpr ⟨_, hs, by simpa using hc⟩
  | _ => exact ⟨Or.inl, fun h => by cases h⟩

/-- Completeness of one user action: not set explicitly, and triggered or dirty already. -/
theorem cellUA_complete (env : Env) (cfg : Config) (r : Nat) (x : Cell) (ua : UA)
    (hp : prot env cfg r ua = false) (h : trig env cfg r ua = true ∨ x.dirty = true) :
    (cellUA env (edgesOf cfg) cfg r x ua).dirty = true ∧
      (cellUA env (edgesOf cfg) cfg r x ua).exempt = false := by
  cases ua with
  | add rows supplied =>
    refine ⟨?_, rfl⟩
    simp only [cellUA, trig, Bool.or_eq_true, Bool.and_eq_true] at h ⊢
    refine h.symm.imp_right fun h => ⟨h.1, h.2.2.symm.imp (fun h2 => ?_) fun h2 => ⟨h2, h.2.1⟩⟩
    rw [selfDep_edges env cfg h2]
    rfl
  | update rows cols diff =>
    simp only [cellUA, trig, any_hit_edgesOf, Bool.or_eq_true, Bool.and_eq_true] at h ⊢
    refine ⟨h.symm, Bool.eq_false_iff.mpr fun he => ?_⟩
    -- what is exempted was named in the request
    simp only [Bool.and_eq_true, List.contains_eq_mem, decide_eq_true_eq] at he
    simp [prot, mem_keptRows he.1, mem_keptCols he.2.1, he.2.2] at hp
  | remove rows =>
    exact ⟨(cellDoc_facts env _ r _ (.remove rows)).1 (h.resolve_left (by simp [trig])), rfl⟩
  | doc steps =>
    have hf := foldl_cellDoc_facts env (edgesOf cfg) r steps { x with exempt := false }
    refine ⟨h.elim (foldl_cellDoc_trig env cfg r steps _) hf.1, Bool.eq_false_iff.mpr fun he => ?_⟩
    rcases hf.2.2.2 he with h' | ⟨rows, cols, hs, hr, hc⟩
    · cases h'
    · have : prot env cfg r (.doc steps) = true :=
        List.any_eq_true.mpr ⟨_, hs, by simp [protDoc, hr, hc]⟩
      rw [hp] at this
      cases this
  | _ => exact ⟨h.resolve_left (by simp [trig]), rfl⟩

/-- Soundness of one user action on the domain (H-add, H-trim), for a record that is not dirty
    when the action adds it (H-fresh): if it comes out dirty, alive and not exempt, the action did
    not set its cell, and triggered it or found it dirty and alive. -/
theorem cellUA_sound (env : Env) (cfg : Config) (r : Nat) (x : Cell) (ua : UA)
    (ha : addOk env cfg ua = true) (ht : trimOk env cfg ua = true)
    (hf : x.dirty = true → r ∉ addedRows ua)
    (hd : (cellUA env (edgesOf cfg) cfg r x ua).dirty = true)
    (hal : (cellUA env (edgesOf cfg) cfg r x ua).alive = true)
    (he : (cellUA env (edgesOf cfg) cfg r x ua).exempt = false) :
    prot env cfg r ua = false ∧ (trig env cfg r ua = true ∨ (x.dirty = true ∧ x.alive = true)) := by
  cases ua with
  | add rows supplied =>
    by_cases hr : r ∈ rows
    · have hx : x.dirty = false := Bool.eq_false_iff.mpr fun h => hf h hr
      simp only [cellUA, List.contains_eq_mem, hr, decide_true, hx, Bool.false_or, Bool.true_and,
        Bool.or_eq_true, Bool.and_eq_true, Bool.not_eq_true', decide_eq_false_iff_not] at hd
      simp only [addOk, Bool.or_eq_true, Bool.not_eq_true', List.contains_eq_mem,
        decide_eq_false_iff_not] at ha
      simp only [prot, trig, List.contains_eq_mem, hr, decide_true, Bool.true_and,
        Bool.and_eq_false_iff, Bool.not_eq_false', Bool.and_eq_true, Bool.or_eq_true,
        Bool.not_eq_true', decide_eq_false_iff_not]
      by_cases hs : env.c ∈ supplied
      · have hne : (edgesOf cfg).isEmpty = false := hd.resolve_right fun h => h.1 hs
        have hsd : selfDep env cfg = true := by simpa [hs, hne] using ha
        exact ⟨Or.inr hsd, Or.inl ⟨by rw [edges_nonempty_dflt cfg hne]; rfl, Or.inr hsd⟩⟩
      · exact ⟨Or.inl hs, Or.inl ⟨hd.elim (fun h => by rw [edges_nonempty_dflt cfg h]; rfl) And.right,
          Or.inl hs⟩⟩
    · simp only [cellUA, List.contains_eq_mem, hr, decide_false, Bool.false_and, Bool.or_false] at hd hal
      exact ⟨by simp [prot, hr], Or.inr ⟨hd, hal⟩⟩
  | update rows cols diff =>
    simp only [cellUA, any_hit_edgesOf, Bool.or_eq_true, Bool.and_eq_true] at hd hal
    constructor
    · -- an explicit value that survives trimming is exempted
      refine Bool.eq_false_iff.mpr fun hp => ?_
      simp only [prot, Bool.and_eq_true] at hp
      simp only [trimOk, hp.2.1, hp.2.2, Bool.and_self, Bool.not_true, Bool.false_or,
        Bool.and_eq_true, List.all_eq_true] at ht
      simp only [cellUA, ht.1, ht.2 r (by simpa using hp.1), hp.2.2, Bool.and_self] at he
      cases he
    · refine hd.symm.imp (fun h => ?_) fun h => ⟨h, hal⟩
      simpa only [trig, Bool.and_eq_true, Bool.or_eq_true] using h
  | remove rows =>
    simp only [cellUA, cellDoc, Bool.and_eq_true, Bool.not_eq_true', Bool.or_eq_true] at hd hal
    refine ⟨rfl, Or.inr ⟨hd.resolve_right fun h => ?_, hal.1⟩⟩
    rw [hal.2] at h
    cases h.2.1
  | doc steps =>
    simp only [addOk, Bool.or_eq_true, Bool.not_eq_true'] at ha
    exact foldl_cellDoc_sound env cfg r steps { x with exempt := false } ha hf hd hal he
  | _ => exact ⟨rfl, Or.inr ⟨hd, hal⟩⟩

/-! ### a bundle against `pendingGo` -/

theorem cellRun_dirty (env : Env) (edges : List Nat) (r : Nat) (L : List (Config × UA)) (x : Cell)
    (h : (cellRun env edges r x L).dirty = true) :
    x.dirty = true ∨ ∃ cu ∈ L, mentions r cu.2 = true :=
  List.foldlRecOn (motive := fun y : Cell => y.dirty = true →
      x.dirty = true ∨ ∃ cu ∈ L, mentions r cu.2 = true) L _ Or.inl
    (fun y hy cu hcu h => ((cellUA_facts env edges cu.1 r y cu.2).1 h).elim hy fun h' =>
      Or.inr ⟨cu, hcu, h'⟩) h

/-- Completeness: a pending record ends dirty and not exempt, whatever was dirty at the start. -/
theorem cellRun_complete (env : Env) (edges : List Nat) (r : Nat) : ∀ (L : List (Config × UA))
    (x : Cell) (p : Bool), edgesCurrent edges L = true →
    (p = true → x.dirty = true ∧ x.exempt = false) → pendingGo env r p L = true →
    (cellRun env edges r x L).dirty = true ∧ (cellRun env edges r x L).exempt = false := by
  intro L
  induction L with
  | nil =>
    intro x p _ hx hp
    exact hx hp
  | cons cu rest ih =>
    intro x p hE hx hp
    simp only [edgesCurrent, List.all_cons, Bool.and_eq_true, beq_iff_eq] at hE
    obtain ⟨rfl, hE⟩ := hE
    refine ih _ _ hE (fun h => ?_) hp
    cases hpr : prot env cu.1 r cu.2 with
    | true => simp [hpr] at h
    | false =>
      refine cellUA_complete env cu.1 r x cu.2 hpr ?_
      cases htr : trig env cu.1 r cu.2 with
      | true => exact Or.inl rfl
      | false => exact Or.inr (hx (by simpa [hpr, htr] using h)).1

/-- Soundness on the domain: what ends dirty, alive and not exempt was pending.  The start may be
    any cell that is pending if dirty and alive, and is not added again if dirty. -/
theorem cellRun_sound (env : Env) (r : Nat) (edges : List Nat) : ∀ (L : List (Config × UA)) (x : Cell)
    (p : Bool), edgesCurrent edges L = true →
    (∀ cu ∈ L, addOk env cu.1 cu.2 = true ∧ trimOk env cu.1 cu.2 = true) →
    lastOk env L = true → freshOk L = true →
    (x.dirty = true → ∀ cu ∈ L, r ∉ addedRows cu.2) → (x.exempt = true → L = []) →
    (x.dirty = true → x.alive = true → x.exempt = false → p = true) →
    (cellRun env edges r x L).dirty = true → (cellRun env edges r x L).alive = true →
    (cellRun env edges r x L).exempt = false → pendingGo env r p L = true := by
  intro L
  induction L with
  | nil =>
    intro x p _ _ _ _ _ _ hp hd ha he
    exact hp hd ha he
  | cons cu rest ih =>
    intro x p hE hA hL hF hfresh hex hp hd ha he
    simp only [edgesCurrent, List.all_cons, Bool.and_eq_true, beq_iff_eq] at hE
    obtain ⟨rfl, hE⟩ := hE
    simp only [lastOk, Bool.and_eq_true, Bool.or_eq_true, List.isEmpty_iff, Bool.not_eq_true'] at hL
    simp only [freshOk, Bool.and_eq_true, List.all_eq_true, Bool.not_eq_true'] at hF
    have hxe : x.exempt = false := Bool.eq_false_iff.mpr fun h => by cases hex h
    have hfacts := cellUA_facts env (edgesOf cu.1) cu.1 r x cu.2
    refine ih _ _ hE (fun y hy => hA y (List.mem_cons_of_mem _ hy)) hL.2 hF.2
      (fun h y hy hm => ?_) (fun h => ?_) (fun hd' ha' he' => ?_) hd ha he
    · -- dirty after `cu`: dirty before, or mentioned by `cu` (H-fresh)
      rcases hfacts.1 h with h | h
      · exact hfresh h y (List.mem_cons_of_mem _ hy) hm
      · rw [hF.1 y hy r hm] at h
        cases h
    · -- exempt after `cu`: `cu` names `c`, so it is the last user action (H-last)
      exact hL.1.resolve_right (by simp [hfacts.2 h])
    · obtain ⟨hpr, h⟩ := cellUA_sound env cu.1 r x cu.2 (hA cu List.mem_cons_self).1
        (hA cu List.mem_cons_self).2 (fun h => hfresh h cu List.mem_cons_self) hd' ha' he'
      rcases h with h | h
      · simp [hpr, h]
      · simp [hpr, hp h.1 h.2 hxe]

end Grist.Trigger
