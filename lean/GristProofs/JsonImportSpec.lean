/-
The notions the C33 statements are written in (first section), and one induction over the three
loops for each: `add_placed`, `add_stored`, `add_cells`; then the shape of a successful dump.
-/
import GristModel.JsonImport
import GristProofs.JsonImport
namespace Grist.JsonImport

/-! ## Vocabulary of the statements -/

/-- the scalar cells of a row, in column order -/
def rowScalars (r : Row) : List (String × Scalar) :=
  r.values.filterMap (fun p => match p.2 with
    | .val s => some (p.1, s)
    | .ref _ => none)

/-- the scalar members of an object that the options keep, as (key, value), in member order -/
def ownScalars (o : Opts) (table : String) : List (String × J) → List (String × Scalar)
  | [] => []
  | (k, .sc s) :: rest => (if isIncluded o (sub table k) then [(k, s)] else []) ++ ownScalars o table rest
  | (_, .arr _) :: rest => ownScalars o table rest
  | (_, .obj _) :: rest => ownScalars o table rest

/-- a value at path `table` contributes a row to table `T` iff the path is kept and is `T` -/
def ownRow (o : Opts) (T table : String) (cells : List (String × Scalar)) :
    List (List (String × Scalar)) :=
  if isIncluded o table = true ∧ T = table then [cells] else []

/- **The place of every scalar**, read off the input alone: for a table name `T`, the list (in
   document order) of the values whose path is `T`, each with the kept scalars it directly
   contains.  A non-object value is the object `{'': value}` (module docstring). -/
mutual
def rowsSpec (o : Opts) (T table : String) : J → List (List (String × Scalar))
  | .sc s => ownRow o T table (ownScalars o table [("", .sc s)])
  | .arr xs => ownRow o T table [] ++ elemsSpec o T (sub table "") xs
  | .obj kvs => ownRow o T table (ownScalars o table kvs) ++ itemsSpec o T table kvs
def elemsSpec (o : Opts) (T table : String) : List J → List (List (String × Scalar))
  | [] => []
  | x :: xs => rowsSpec o T table x ++ elemsSpec o T table xs
def itemsSpec (o : Opts) (T table : String) : List (String × J) → List (List (String × Scalar))
  | [] => []
  | (_, .sc _) :: rest => itemsSpec o T table rest
  | (k, .arr xs) :: rest => elemsSpec o T (sub table k) xs ++ itemsSpec o T table rest
  | (k, .obj kvs) :: rest => rowsSpec o T (sub table k) (.obj kvs) ++ itemsSpec o T table rest
end

/-- the row a `Ref` points to -/
def getRow (st : St) (r : Ref) : Option Row := (rowsOf st r.table)[r.rowid - 1]?

/-- `me` is a legal row handle for a value at path `table`: absent iff the path is filtered out,
    otherwise a reference into table `table` -/
def MeOk (o : Opts) (table : String) (me : Option Ref) : Prop :=
  match me with
  | none => isIncluded o table = false
  | some r => isIncluded o table = true ∧ r.table = table ∧ 1 ≤ r.rowid

/-- the row `me` (if the value has one) exists, points back to `parent`, and holds exactly `vals` -/
def RowIs (st : St) (me parent : Option Ref) (vals : List (String × Cell)) : Prop :=
  match me with
  | none => True
  | some r => getRow st r = some ⟨vals, parent, r⟩

def Above (lo : Nat) (child : Option Ref) : Prop := ∀ r, child = some r → lo < r.rowid
def nextLo (lo : Nat) : Option Ref → Nat
  | some r => r.rowid
  | none => lo

/- **The tables hold the input**: `StoredRow o st table parent me v` says that the value `v`, met
   at path `table`, is held by row `me` of the tables `st`:
   * its row exists, carries `parent` as back-reference and has exactly the cells listed below;
   * a kept scalar member `k: s` is the cell `(k, s)`;
   * a nested object member `k: {..}` has its own row `child` in table `table_k` (present iff that
     path is kept) which holds the nested object, and -- if both rows exist -- the cell
     `(k, Ref child)`;
   * the elements of an array member `k: [..]` have rows in table `table_k`, in increasing row
     order, each with back-reference `me`, each holding its element;
   * a non-object value is the object `{'': value}`. -/
mutual
def StoredRow (o : Opts) (st : St) (table : String) (parent me : Option Ref) : J → Prop
  | .sc s => RowIs st me parent (scalarCell o table me "" s)
  | .arr xs => RowIs st me parent [] ∧ StoredElems o st (sub table "") me 0 xs
  | .obj kvs => ∃ vals, RowIs st me parent vals ∧ StoredItems o st table me vals kvs
def StoredElems (o : Opts) (st : St) (table : String) (parent : Option Ref) (lo : Nat) : List J → Prop
  | [] => True
  | x :: xs => ∃ child, MeOk o table child ∧ Above lo child ∧
      StoredRow o st table parent child x ∧ StoredElems o st table parent (nextLo lo child) xs
def StoredItems (o : Opts) (st : St) (table : String) (me : Option Ref)
    (vals : List (String × Cell)) : List (String × J) → Prop
  | [] => vals = []
  | (k, .sc s) :: rest => ∃ vals', vals = scalarCell o table me k s ++ vals' ∧
      StoredItems o st table me vals' rest
  | (k, .arr xs) :: rest => StoredElems o st (sub table k) me 0 xs ∧ StoredItems o st table me vals rest
  | (k, v@(.obj _)) :: rest => ∃ child vals', MeOk o (sub table k) child ∧
      StoredRow o st (sub table k) none child v ∧
      vals = refCell me child k ++ vals' ∧ StoredItems o st table me vals' rest
end

/-- all scalar cells of all rows of all tables -/
def cellsOf (st : St) : List (String × Scalar) := st.flatMap (fun p => p.2.flatMap rowScalars)

/- all scalars of a value that the options keep, with their keys (a scalar is kept iff its row's
   path and its own path are kept) -/
mutual
def keptRow (o : Opts) (table : String) : J → List (String × Scalar)
  | .sc s => if isIncluded o table = true then ownScalars o table [("", .sc s)] else []
  | .arr xs => keptElems o (sub table "") xs
  | .obj kvs => (if isIncluded o table = true then ownScalars o table kvs else []) ++ keptItems o table kvs
def keptElems (o : Opts) (table : String) : List J → List (String × Scalar)
  | [] => []
  | x :: xs => keptRow o table x ++ keptElems o table xs
def keptItems (o : Opts) (table : String) : List (String × J) → List (String × Scalar)
  | [] => []
  | (_, .sc _) :: rest => keptItems o table rest
  | (k, .arr xs) :: rest => keptElems o (sub table k) xs ++ keptItems o table rest
  | (k, .obj kvs) :: rest => keptRow o (sub table k) (.obj kvs) ++ keptItems o table rest
end

/- every scalar of a value, in document order -/
mutual
def allScalars : J → List Scalar
  | .sc s => [s]
  | .arr xs => allScalarsL xs
  | .obj kvs => allScalarsO kvs
def allScalarsL : List J → List Scalar
  | [] => []
  | x :: xs => allScalars x ++ allScalarsL xs
def allScalarsO : List (String × J) → List Scalar
  | [] => []
  | (_, .sc s) :: rest => s :: allScalarsO rest
  | (_, .arr xs) :: rest => allScalarsL xs ++ allScalarsO rest
  | (_, .obj kvs) :: rest => allScalars (.obj kvs) ++ allScalarsO rest
end

/-- all back-references of the rows of one table point into one and the same table -/
def sameParentTable (rows : List Row) : Bool :=
  rows.all (fun r1 => rows.all (fun r2 =>
    match r1.parent, r2.parent with
    | some p1, some p2 => p1.table == p2.table
    | _, _ => true))

section
variable {p : Option Ref} {r : Ref}

theorem rowScalars_append (a b : List (String × Cell)) :
    rowScalars ⟨a ++ b, p, r⟩ = rowScalars ⟨a, p, r⟩ ++ rowScalars ⟨b, p, r⟩ :=
  List.filterMap_append

theorem ownScalars_single (o : Opts) (table k : String) (s : Scalar) :
    ownScalars o table [(k, .sc s)] = if isIncluded o (sub table k) then [(k, s)] else [] :=
  List.append_nil _

theorem rowScalars_scalarCell (o : Opts) (table : String) (me : Option Ref) (k : String) (s : Scalar) :
    rowScalars ⟨scalarCell o table me k s, p, r⟩ =
      if me.isSome then ownScalars o table [(k, .sc s)] else [] := by
  rw [ownScalars_single]
  cases me with
  | none => rfl
  | some _ =>
    unfold scalarCell
    cases isIncluded o (sub table k) <;> rfl

theorem rowScalars_refCell (me child : Option Ref) (k : String) :
    rowScalars ⟨refCell me child k, p, r⟩ = [] := by
  cases me <;> cases child <;> rfl

theorem addItems_scalars (o : Opts) (table : String) :
    ∀ (kvs : List (String × J)) (st : St) (me : Option Ref),
      rowScalars ⟨(addItems o st table me kvs).2, p, r⟩ =
        if me.isSome then ownScalars o table kvs else []
  | [], st, me => by
    simp only [addItems, ownScalars]
    exact (ite_self _).symm
  | (k, .sc s) :: rest, st, me => by
    simp only [addItems]
    rw [rowScalars_append, addItems_scalars o table rest st me, rowScalars_scalarCell]
    cases me.isSome
    · rfl
    · exact congrArg (· ++ _) (List.append_nil _)
  | (k, .arr xs) :: rest, st, me => by
    simp only [addItems, ownScalars]
    exact addItems_scalars o table rest _ me
  | (k, .obj kvs) :: rest, st, me => by
    simp only [addItems, ownScalars]
    rw [rowScalars_append, addItems_scalars o table rest _ me, rowScalars_refCell, List.nil_append]

end

/-- The store has the row after its children's rows, the specification before them: the same,
    since the children (`hext`) put nothing into the row's own table. -/
theorem placed_close (o : Opts) (st : St) (table : String) (parent : Option Ref)
    (vals : List (String × Cell)) (st2 : St) (T : String)
    (cells : List (String × Scalar)) (X : List (List (String × Scalar)))
    (hext : Ext (table.length + 1) (open_ o st table).1 st2)
    (hch : (rowsOf st2 T).map rowScalars = (rowsOf st T).map rowScalars ++ X)
    (hcells : isIncluded o table = true → rowScalars (mkRow st table parent vals) = cells) :
    (rowsOf (close st2 (open_ o st table).2 parent vals) T).map rowScalars =
      (rowsOf st T).map rowScalars ++ (ownRow o T table cells ++ X) := by
  rw [rowsOf_close_open, List.map_append, hch, List.append_assoc]
  unfold ownRow
  by_cases hc : isIncluded o table = true ∧ T = table
  · have hX : X = [] := by
      rw [hc.2, (hext table).2 (Nat.lt_succ_self _), rowsOf_open] at hch
      exact List.append_right_eq_self.mp hch.symm
    rw [if_pos hc, if_pos hc, hX, List.map_singleton, hcells hc.1]
    rfl
  · rw [if_neg hc, if_neg hc]
    exact congrArg _ (List.append_nil X)

theorem add_placed :
    (∀ v, ∀ o st table parent T,
      (rowsOf (addRow o st table parent v).1 T).map rowScalars
        = (rowsOf st T).map rowScalars ++ rowsSpec o T table v) ∧
    (∀ xs, ∀ o st table parent T,
      (rowsOf (addElems o st table parent xs) T).map rowScalars
        = (rowsOf st T).map rowScalars ++ elemsSpec o T table xs) ∧
    (∀ kvs, ∀ o st table me T,
      (rowsOf (addItems o st table me kvs).1 T).map rowScalars
        = (rowsOf st T).map rowScalars ++ itemsSpec o T table kvs) := by
  apply J.induct3
  constructor
  case sc =>
    intro s o st table parent T
    simp only [addRow, rowsSpec]
    rw [← List.append_nil (ownRow ..)]
    refine placed_close o st table parent _ _ T _ [] (Ext.refl _ _)
      (by rw [rowsOf_open, List.append_nil]) fun hinc => ?_
    rw [mkRow, rowScalars_scalarCell, open_snd, if_pos hinc]
    rfl
  case arr =>
    intro xs ih o st table parent T
    simp only [addRow, rowsSpec]
    refine placed_close o st table parent [] _ T [] _
      (add_ext.2.1 xs o _ (sub table "") _).of_sub
      (by rw [ih, rowsOf_open]) fun _ => rfl
  case obj =>
    intro kvs ih o st table parent T
    simp only [addRow, rowsSpec]
    refine placed_close o st table parent _ _ T _ _ (add_ext.2.2 kvs o _ table _)
      (by rw [ih, rowsOf_open]) fun hinc => ?_
    rw [mkRow, addItems_scalars, open_snd, if_pos hinc]
    rfl
  case nil =>
    intro o st table parent T
    simp only [addElems, elemsSpec, List.append_nil]
  case cons =>
    intro x xs ihx ihxs o st table parent T
    simp only [addElems, elemsSpec]
    rw [ihxs, ihx, List.append_assoc]
  case noItem =>
    intro o st table me T
    simp only [addItems, itemsSpec, List.append_nil]
  case scItem =>
    intro k s rest ih o st table me T
    simp only [addItems, itemsSpec]
    exact ih o st table me T
  case arrItem =>
    intro k xs rest ihxs ih o st table me T
    simp only [addItems, itemsSpec]
    rw [ih, ihxs, List.append_assoc]
  case objItem =>
    intro k kvs rest ihv ih o st table me T
    simp only [addItems, itemsSpec]
    rw [ih, ihv, List.append_assoc]

def Grows (st st' : St) : Prop := ∀ T, rowsOf st T <+: rowsOf st' T

theorem Ext.grows {n : Nat} {st st' : St} (h : Ext n st st') : Grows st st' := fun T => (h T).1

theorem Grows.refl (st : St) : Grows st st := fun _ => List.prefix_refl _

theorem Grows.trans {a b c : St} (h1 : Grows a b) (h2 : Grows b c) : Grows a c := fun T =>
  (h1 T).trans (h2 T)

theorem getRow_mono {st st' : St} (h : Grows st st') (r : Ref) (row : Row)
    (hr : getRow st r = some row) : getRow st' r = some row := by
  unfold getRow at hr ⊢
  obtain ⟨t, ht⟩ := h r.table
  rw [← ht]
  rw [List.getElem?_append_left (List.getElem?_eq_some_iff.mp hr).1]
  exact hr

theorem RowIs_mono {st st' : St} (h : Grows st st') (me parent : Option Ref)
    (vals : List (String × Cell)) (hr : RowIs st me parent vals) : RowIs st' me parent vals := by
  cases me with
  | none => trivial
  | some r => exact getRow_mono h r _ hr

theorem StoredRow.rowIs {o : Opts} {st : St} {table : String} {parent me : Option Ref} :
    ∀ {v : J}, StoredRow o st table parent me v → ∃ vals, RowIs st me parent vals
  | .sc _, h => ⟨_, by simpa only [StoredRow] using h⟩
  | .arr _, h => ⟨_, (by simpa only [StoredRow] using h : _ ∧ _).1⟩
  | .obj _, h => by
    simp only [StoredRow] at h
    obtain ⟨vals, hrow, _⟩ := h
    exact ⟨vals, hrow⟩

theorem storedRow_row (o : Opts) (st : St) (table : String) (parent : Option Ref) (r : Ref) (v : J)
    (h : StoredRow o st table parent (some r) v) :
    ∃ row, getRow st r = some row ∧ row.parent = parent ∧ row.ref = r :=
  have ⟨_, hrow⟩ := h.rowIs
  ⟨_, hrow, rfl, rfl⟩

theorem addRow_snd (o : Opts) (st : St) (table : String) (parent : Option Ref) (v : J) :
    (addRow o st table parent v).2 = (open_ o st table).2 := by
  cases v <;> simp only [addRow]

theorem open_meOk (o : Opts) (st : St) (table : String) : MeOk o table (open_ o st table).2 := by
  rw [open_snd]
  by_cases h : isIncluded o table = true
  · rw [if_pos h]
    exact ⟨h, rfl, Nat.le_add_left 1 _⟩
  · rw [if_neg h]
    exact (Bool.not_eq_true _).mp h

theorem MeOk.eq_some {o : Opts} {table : String} {me : Option Ref} (h : MeOk o table me)
    (hinc : isIncluded o table = true) : ∃ n, me = some ⟨table, n⟩ := by
  cases me with
  | none =>
    rw [show isIncluded o table = false from h] at hinc
    cases hinc
  | some r => exact ⟨r.rowid, by rw [← h.2.1]⟩

theorem rowIs_close_open (o : Opts) (st : St) (table : String) (parent : Option Ref)
    (vals : List (String × Cell)) (st2 : St)
    (hext : Ext (table.length + 1) (open_ o st table).1 st2) :
    RowIs (close st2 (open_ o st table).2 parent vals) (open_ o st table).2 parent vals := by
  have hrows := rowsOf_close_open_self o st table parent vals st2 hext
  rw [open_snd] at hrows ⊢
  by_cases h : isIncluded o table = true
  · simp only [if_pos h] at hrows ⊢
    unfold RowIs getRow
    dsimp only
    rw [hrows, Nat.add_sub_cancel]
    exact List.getElem?_concat_length
  · rw [if_neg h]
    trivial

theorem addRow_rows_self (o : Opts) (st : St) (table : String) (parent : Option Ref) (v : J) :
    ∃ news, rowsOf (addRow o st table parent v).1 table = rowsOf st table ++ news ∧
      news.length = (if isIncluded o table = true then 1 else 0) ∧ ∀ r ∈ news, r.parent = parent := by
  have key : ∀ vals st2, Ext (table.length + 1) (open_ o st table).1 st2 →
      ∃ news, rowsOf (close st2 (open_ o st table).2 parent vals) table = rowsOf st table ++ news ∧
        news.length = (if isIncluded o table = true then 1 else 0) ∧ ∀ r ∈ news, r.parent = parent :=
    fun vals st2 hext => ⟨_, rowsOf_close_open_self o st table parent vals st2 hext,
      by split <;> rfl, fun r hr => by
        split at hr
        · exact List.mem_singleton.mp hr ▸ rfl
        · cases hr⟩
  cases v with
  | sc s =>
    simp only [addRow]
    exact key _ _ (Ext.refl _ _)
  | arr xs =>
    simp only [addRow]
    exact key _ _ (add_ext.2.1 xs o _ (sub table "") _).of_sub
  | obj kvs =>
    simp only [addRow]
    exact key _ _ (add_ext.2.2 kvs o _ table _)

/-- Stated for every later store `st'` (rows once appended never change), so that each step can
    hand the rest of the run to its induction hypotheses. -/
theorem add_stored :
    (∀ v, ∀ o st table parent st', Grows (addRow o st table parent v).1 st' →
      StoredRow o st' table parent (addRow o st table parent v).2 v) ∧
    (∀ xs, ∀ o st table parent lo st', lo ≤ (rowsOf st table).length →
      Grows (addElems o st table parent xs) st' → StoredElems o st' table parent lo xs) ∧
    (∀ kvs, ∀ o st table me st', Grows (addItems o st table me kvs).1 st' →
      StoredItems o st' table me (addItems o st table me kvs).2 kvs) := by
  apply J.induct3
  constructor
  case sc =>
    intro s o st table parent st' hg
    simp only [addRow, StoredRow] at hg ⊢
    exact RowIs_mono hg _ _ _ (rowIs_close_open o st table parent _ _ (Ext.refl _ _))
  case arr =>
    intro xs ih o st table parent st' hg
    simp only [addRow, StoredRow] at hg ⊢
    exact ⟨RowIs_mono hg _ _ _ (rowIs_close_open o st table parent _ _
        (add_ext.2.1 xs o _ (sub table "") _).of_sub),
      ih o _ _ _ 0 st' (Nat.zero_le _) ((close_open_ext o st table parent _ _).grows.trans hg)⟩
  case obj =>
    intro kvs ih o st table parent st' hg
    simp only [addRow, StoredRow] at hg ⊢
    exact ⟨_, RowIs_mono hg _ _ _ (rowIs_close_open o st table parent _ _ (add_ext.2.2 kvs o _ table _)),
      ih o _ _ _ st' ((close_open_ext o st table parent _ _).grows.trans hg)⟩
  case nil =>
    intro o st table parent lo st' _ _
    simp only [StoredElems]
  case cons =>
    intro x xs ihx ihxs o st table parent lo st' hlo hg
    simp only [addElems, StoredElems] at hg ⊢
    refine ⟨(addRow o st table parent x).2, ?_, ?_,
      ihx o st table parent st' ((add_ext.2.1 xs o _ table parent).grows.trans hg),
      ihxs o _ table parent _ st' ?_ hg⟩
    · rw [addRow_snd]
      exact open_meOk o st table
    · intro r hr
      rw [addRow_snd, open_snd] at hr
      split at hr
      · cases hr
        exact Nat.lt_succ_of_le hlo
      · cases hr
    · obtain ⟨news, hrows, hlen, _⟩ := addRow_rows_self o st table parent x
      rw [hrows, addRow_snd, open_snd, List.length_append, hlen]
      split
      · exact Nat.le_refl _
      · exact hlo
  case noItem =>
    intro o st table me st' _
    simp only [addItems, StoredItems]
  case scItem =>
    intro k s rest ih o st table me st' hg
    simp only [addItems, StoredItems] at hg ⊢
    exact ⟨_, rfl, ih o st table me st' hg⟩
  case arrItem =>
    intro k xs rest ihxs ih o st table me st' hg
    simp only [addItems, StoredItems] at hg ⊢
    exact ⟨ihxs o st (sub table k) me 0 st' (Nat.zero_le _)
        ((add_ext.2.2 rest o _ table me).grows.trans hg), ih o _ table me st' hg⟩
  case objItem =>
    intro k kvs rest ihv ih o st table me st' hg
    simp only [addItems, StoredItems] at hg ⊢
    refine ⟨(addRow o st (sub table k) none (.obj kvs)).2, _, ?_,
      ihv o st (sub table k) none st' ((add_ext.2.2 rest o _ table me).grows.trans hg), rfl,
      ih o _ table me st' hg⟩
    rw [addRow_snd]
    exact open_meOk o st (sub table k)

/-- the clause of `StoredItems` for one member `k: v` of a row with cells `vals` -/
def StoredMember (o : Opts) (st : St) (table : String) (me : Option Ref)
    (vals : List (String × Cell)) (k : String) : J → Prop
  | .sc s => scalarCell o table me k s ⊆ vals
  | .arr xs => StoredElems o st (sub table k) me 0 xs
  | .obj kv => ∃ child, MeOk o (sub table k) child ∧
      StoredRow o st (sub table k) none child (.obj kv) ∧ refCell me child k ⊆ vals

theorem StoredMember.mono {o : Opts} {st : St} {table : String} {me : Option Ref}
    {vals vals' : List (String × Cell)} {k : String} (hs : vals ⊆ vals') :
    ∀ {v : J}, StoredMember o st table me vals k v → StoredMember o st table me vals' k v
  | .sc _, h => List.Subset.trans h hs
  | .arr _, h => h
  | .obj _, ⟨child, h1, h2, h3⟩ => ⟨child, h1, h2, List.Subset.trans h3 hs⟩

/-- `StoredItems` read member by member -/
theorem storedItems_mem (o : Opts) (st : St) (table : String) (me : Option Ref) :
    ∀ (kvs : List (String × J)) (vals : List (String × Cell)),
      StoredItems o st table me vals kvs →
      ∀ k v, (k, v) ∈ kvs → StoredMember o st table me vals k v
  | [], _, _, _, _, hm => nomatch hm
  | (k0, .sc s) :: rest, vals, h, k, v, hm => by
    simp only [StoredItems] at h
    obtain ⟨vals', rfl, hrest⟩ := h
    rcases List.mem_cons.mp hm with e | hm
    · cases e
      exact List.subset_append_left _ _
    · exact (storedItems_mem o st table me rest vals' hrest k v hm).mono
        (List.subset_append_right _ _)
  | (k0, .arr xs) :: rest, vals, h, k, v, hm => by
    simp only [StoredItems] at h
    rcases List.mem_cons.mp hm with e | hm
    · cases e
      exact h.1
    · exact storedItems_mem o st table me rest vals h.2 k v hm
  | (k0, .obj kv) :: rest, vals, h, k, v, hm => by
    simp only [StoredItems] at h
    obtain ⟨child, vals', hok, hst, rfl, hrest⟩ := h
    rcases List.mem_cons.mp hm with e | hm
    · cases e
      exact ⟨child, hok, hst, List.subset_append_left _ _⟩
    · exact (storedItems_mem o st table me rest vals' hrest k v hm).mono
        (List.subset_append_right _ _)

theorem transpose_lengths (rows : List Row) : ∀ c ∈ transpose rows, c.data.length = rows.length := by
  intro c hc
  simp only [transpose, List.mem_map] at hc
  obtain ⟨k, _, rfl⟩ := hc
  exact List.length_map _

theorem mem_addKey (acc : List String) (k x : String) : x ∈ addKey acc k ↔ x ∈ acc ∨ x = k := by
  unfold addKey
  split
  next h =>
    exact ⟨Or.inl, fun h' => h'.elim id fun e => e ▸ List.contains_iff_mem.mp h⟩
  · rw [List.mem_append, List.mem_singleton]

theorem mem_foldl_addKey (ks : List String) : ∀ (acc : List String) (x : String),
    x ∈ ks.foldl addKey acc ↔ x ∈ acc ∨ x ∈ ks := by
  induction ks with
  | nil =>
    intro acc x
    simp only [List.foldl_nil, List.not_mem_nil, or_false]
  | cons k ks ih =>
    intro acc x
    simp only [List.foldl_cons, ih, mem_addKey, List.mem_cons, or_assoc]

theorem mem_foldl_rows (rs : List Row) : ∀ (acc : List String) (x : String),
    x ∈ rs.foldl (fun acc row => (row.values.map (·.1)).foldl addKey acc) acc ↔
      x ∈ acc ∨ ∃ r ∈ rs, x ∈ r.values.map (·.1) := by
  induction rs with
  | nil =>
    intro acc x
    simp only [List.foldl_nil, List.not_mem_nil, false_and, exists_false, or_false]
  | cons r rs ih =>
    intro acc x
    simp only [List.foldl_cons, ih, mem_foldl_addKey, List.mem_cons, or_and_right, exists_or,
      exists_eq_left, or_assoc]

theorem mem_keyOrder (rows : List Row) (x : String) :
    x ∈ keyOrder rows ↔ ∃ r ∈ rows, x ∈ r.values.map (·.1) := by
  unfold keyOrder
  simp only [mem_foldl_rows, List.not_mem_nil, false_or, List.mem_reverse]

def backrefCol (rows : List Row) (q : Ref) (colId : String) : DCol :=
  ⟨colId, gristType (.ref q), rows.map (fun r => match r.parent with
    | some p => DVal.id p.rowid
    | none => DVal.none)⟩

theorem dumpTable_ok {name : String} {rows : List Row} {t : DTable}
    (h : dumpTable name rows = .ok t) :
    (rows.findSome? (·.parent) = none ∧ t = ⟨name, transpose rows⟩) ∨
    ∃ q colId, rows.findSome? (·.parent) = some q ∧
      t = ⟨name, transpose rows ++ [backrefCol rows q colId]⟩ := by
  unfold dumpTable at h
  split at h
  next hq => exact .inl ⟨hq, (Except.ok.inj h).symm⟩
  next q hq =>
    dsimp only at h
    split at h
    · cases h
    · exact .inr ⟨q, _, hq, (Except.ok.inj h).symm⟩

theorem dumpTable_name {name : String} {rows : List Row} {t : DTable}
    (h : dumpTable name rows = .ok t) : t.name = name := by
  rcases dumpTable_ok h with ⟨_, rfl⟩ | ⟨_, _, _, rfl⟩ <;> rfl

theorem dumpAll_cons_ok {n : String} {rows : List Row} {rest : St} {ts : List DTable}
    (h : dumpAll ((n, rows) :: rest) = .ok ts) :
    ∃ t ts', dumpTable n rows = .ok t ∧ dumpAll rest = .ok ts' ∧ ts = t :: ts' := by
  simp only [dumpAll] at h
  split at h
  · cases h
  next t ht =>
    split at h
    · cases h
    next ts' hts' => exact ⟨t, ts', ht, hts', (Except.ok.inj h).symm⟩

theorem dumpAll_tables : ∀ (st : St) (ts : List DTable), dumpAll st = .ok ts →
    ∀ t ∈ ts, ∃ n rows, (n, rows) ∈ st ∧ dumpTable n rows = .ok t
  | [], ts, h => by
    cases h
    exact fun _ ht => nomatch ht
  | (n, rows) :: rest, ts, h => by
    obtain ⟨t, ts', ht, hts', rfl⟩ := dumpAll_cons_ok h
    intro t' ht'
    rcases List.mem_cons.mp ht' with rfl | hm
    · exact ⟨n, rows, List.mem_cons_self, ht⟩
    · obtain ⟨n', rows', hmem, hd⟩ := dumpAll_tables rest ts' hts' t' hm
      exact ⟨n', rows', List.mem_cons_of_mem _ hmem, hd⟩

theorem dumpAll_names : ∀ (st : St) (ts : List DTable), dumpAll st = .ok ts →
    ts.map (·.name) = st.map (·.1)
  | [], ts, h => by
    cases h
    rfl
  | (n, rows) :: rest, ts, h => by
    obtain ⟨t, ts', ht, hts', rfl⟩ := dumpAll_cons_ok h
    rw [List.map_cons, List.map_cons, dumpTable_name ht, dumpAll_names rest ts' hts']

theorem build_uniq (o : Opts) (name : String) (data : J) : Uniq (build o name data) :=
  add_uniq.2.1 _ o [] name none Uniq.nil

theorem cellsOf_ensure (st : St) (t : String) : cellsOf (ensure st t) = cellsOf st := by
  unfold JsonImport.ensure
  split
  · rfl
  · simp [cellsOf]

theorem map_push_id (st : St) (t : String) (r : Row) (h : t ∉ st.map (·.1)) :
    st.map (fun p => if p.1 == t then (p.1, p.2 ++ [r]) else p) = st := by
  induction st with
  | nil => rfl
  | cons p st ih =>
    rw [List.map_cons, List.mem_cons, not_or] at h
    rw [List.map_cons, ih h.2, if_neg fun e => h.1 (beq_iff_eq.mp e).symm]

theorem cellsOf_cons (p : String × List Row) (st : St) :
    cellsOf (p :: st) = p.2.flatMap rowScalars ++ cellsOf st := List.flatMap_cons

/-- with distinct names exactly one entry is named `t`, so the row arrives once -/
theorem cellsOf_map_push {st : St} (hu : Uniq st) (t : String) (r : Row) (h : t ∈ st.map (·.1)) :
    (cellsOf (st.map (fun p => if p.1 == t then (p.1, p.2 ++ [r]) else p))).Perm
      (cellsOf st ++ rowScalars r) := by
  induction st with
  | nil => cases h
  | cons p st ih =>
    unfold Uniq at hu
    rw [List.map_cons, List.nodup_cons] at hu
    rw [List.map_cons, cellsOf_cons p, List.append_assoc]
    split
    next hb =>
      rw [map_push_id st t r (beq_iff_eq.mp hb ▸ hu.1), cellsOf_cons, List.flatMap_append,
        List.flatMap_singleton, List.append_assoc]
      exact List.Perm.append_left _ List.perm_append_comm
    next hb =>
      rw [List.map_cons, List.mem_cons] at h
      rw [cellsOf_cons]
      exact List.Perm.append_left _
        (ih hu.2 (h.resolve_left fun e => hb (beq_iff_eq.mpr e.symm)))

theorem cellsOf_push {st : St} (hu : Uniq st) (t : String) (r : Row) :
    (cellsOf (push st t r)).Perm (cellsOf st ++ rowScalars r) := by
  unfold JsonImport.push
  split
  next h => exact cellsOf_map_push hu t r ((any_name_iff st t).mp h)
  · rw [cellsOf, List.flatMap_append, List.flatMap_singleton, List.flatMap_singleton]
    exact List.Perm.refl _

/-- the counterpart of `placed_close` for the multiset of cells -/
theorem cells_close (o : Opts) (st : St) (table : String) (parent : Option Ref)
    (vals : List (String × Cell)) (st2 : St) (cells X : List (String × Scalar)) (hu : Uniq st2)
    (hch : (cellsOf st2).Perm (cellsOf st ++ X))
    (hcells : isIncluded o table = true → rowScalars (mkRow st table parent vals) = cells) :
    (cellsOf (close st2 (open_ o st table).2 parent vals)).Perm
      (cellsOf st ++ ((if isIncluded o table = true then cells else []) ++ X)) := by
  rw [open_snd]
  by_cases h : isIncluded o table = true
  · rw [if_pos h, if_pos h, ← hcells h]
    refine (cellsOf_push hu _ _).trans ((hch.append_right _).trans ?_)
    rw [List.append_assoc]
    exact List.Perm.append_left _ List.perm_append_comm
  · rw [if_neg h, if_neg h]
    exact hch

theorem cellsOf_open (o : Opts) (st : St) (table : String) : cellsOf (open_ o st table).1 = cellsOf st := by
  unfold open_
  split
  · exact cellsOf_ensure st table
  · rfl

theorem add_cells :
    (∀ v, ∀ o st table parent, Uniq st →
      (cellsOf (addRow o st table parent v).1).Perm (cellsOf st ++ keptRow o table v)) ∧
    (∀ xs, ∀ o st table parent, Uniq st →
      (cellsOf (addElems o st table parent xs)).Perm (cellsOf st ++ keptElems o table xs)) ∧
    (∀ kvs, ∀ o st table me, Uniq st →
      (cellsOf (addItems o st table me kvs).1).Perm (cellsOf st ++ keptItems o table kvs)) := by
  apply J.induct3
  constructor
  case sc =>
    intro s o st table parent hu
    simp only [addRow, keptRow]
    rw [← List.append_nil (ite ..)]
    refine cells_close o st table parent _ _ _ [] (open_uniq o st table hu)
      (by rw [cellsOf_open, List.append_nil]) fun h => ?_
    rw [mkRow, rowScalars_scalarCell, open_snd, if_pos h]
    rfl
  case arr =>
    intro xs ih o st table parent hu
    simp only [addRow, keptRow]
    have hu1 := open_uniq o st table hu
    have hch := ih o _ (sub table "") (open_ o st table).2 hu1
    rw [cellsOf_open] at hch
    exact (cells_close o st table parent [] _ [] _ (add_uniq.2.1 xs o _ _ _ hu1) hch fun _ => rfl).trans
      (by rw [ite_self]; exact List.Perm.refl _)
  case obj =>
    intro kvs ih o st table parent hu
    simp only [addRow, keptRow]
    have hu1 := open_uniq o st table hu
    have hch := ih o _ table (open_ o st table).2 hu1
    rw [cellsOf_open] at hch
    refine cells_close o st table parent _ _ _ _ (add_uniq.2.2 kvs o _ _ _ hu1) hch fun h => ?_
    rw [mkRow, addItems_scalars, open_snd, if_pos h]
    rfl
  case nil =>
    intro o st table parent _
    simp only [addElems, keptElems, List.append_nil, List.Perm.refl]
  case cons =>
    intro x xs ihx ihxs o st table parent hu
    simp only [addElems, keptElems]
    refine (ihxs o _ table parent (add_uniq.1 x o st table parent hu)).trans ?_
    rw [← List.append_assoc]
    exact List.Perm.append_right _ (ihx o st table parent hu)
  case noItem =>
    intro o st table me _
    simp only [addItems, keptItems, List.append_nil, List.Perm.refl]
  case scItem =>
    intro k s rest ih o st table me hu
    simp only [addItems, keptItems]
    exact ih o st table me hu
  case arrItem =>
    intro k xs rest ihxs ih o st table me hu
    simp only [addItems, keptItems]
    refine (ih o _ table me (add_uniq.2.1 xs o st _ me hu)).trans ?_
    rw [← List.append_assoc]
    exact List.Perm.append_right _ (ihxs o st _ me hu)
  case objItem =>
    intro k kvs rest ihv ih o st table me hu
    simp only [addItems, keptItems]
    refine (ih o _ table me (add_uniq.1 (.obj kvs) o st _ none hu)).trans ?_
    rw [← List.append_assoc]
    exact List.Perm.append_right _ (ihv o st _ none hu)

theorem default_keeps_everything (path : String) : isIncluded defaultOpts path = true := rfl

theorem ownScalars_default (table : String) : ∀ kvs : List (String × J),
    ownScalars defaultOpts table kvs = kvs.filterMap (fun p => match p.2 with
      | .sc s => some (p.1, s)
      | _ => none)
  | [] => rfl
  | (k, .sc s) :: rest => by
    simp only [ownScalars, default_keeps_everything, if_true, List.filterMap_cons,
      ownScalars_default table rest]
    rfl
  | (k, .arr _) :: rest => by simp only [ownScalars, List.filterMap_cons, ownScalars_default table rest]
  | (k, .obj _) :: rest => by simp only [ownScalars, List.filterMap_cons, ownScalars_default table rest]

theorem perm_own_first {α} {own a b A B : List α} (h1 : a.Perm A) (h2 : (own ++ b).Perm B) :
    (own ++ (a ++ b)).Perm (A ++ B) := by
  refine List.Perm.trans ?_ (h1.append h2)
  rw [← List.append_assoc, ← List.append_assoc]
  exact List.Perm.append_right _ List.perm_append_comm

theorem kept_default :
    (∀ v, ∀ table, ((keptRow defaultOpts table v).map (·.2)).Perm (allScalars v)) ∧
    (∀ xs, ∀ table, ((keptElems defaultOpts table xs).map (·.2)).Perm (allScalarsL xs)) ∧
    (∀ kvs, ∀ table, ((ownScalars defaultOpts table kvs ++ keptItems defaultOpts table kvs).map (·.2)).Perm
        (allScalarsO kvs)) := by
  apply J.induct3
  constructor
  case sc =>
    intro s table
    exact List.Perm.refl [s]
  case arr =>
    intro xs ih table
    simp only [keptRow, allScalars]
    exact ih _
  case obj =>
    intro kvs ih table
    simp only [keptRow, allScalars, default_keeps_everything, if_true]
    exact ih table
  case nil =>
    intro table
    exact List.Perm.refl []
  case cons =>
    intro x xs ihx ihxs table
    simp only [keptElems, allScalarsL, List.map_append]
    exact List.Perm.append (ihx table) (ihxs table)
  case noItem =>
    intro table
    exact List.Perm.refl []
  case scItem =>
    intro k s rest ih table
    simp only [ownScalars, keptItems, allScalarsO, default_keeps_everything, if_true,
      List.cons_append, List.nil_append, List.map_cons]
    exact List.Perm.cons _ (ih table)
  case arrItem =>
    intro k xs rest ihxs ih table
    simp only [ownScalars, keptItems, allScalarsO, List.map_append]
    exact perm_own_first (ihxs (sub table k)) (by simpa only [List.map_append] using ih table)
  case objItem =>
    intro k kvs rest ihv ih table
    simp only [ownScalars, keptItems, allScalarsO, List.map_append]
    exact perm_own_first (ihv (sub table k)) (by simpa only [List.map_append] using ih table)

end Grist.JsonImport
