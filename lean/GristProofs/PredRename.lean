/-
process_renames on a printed formula.  Defines the vocabulary of the C17 statements (`Lex.occName`,
`Printed`, `newOf`, `NamesNonempty`, `renameNode`, `renameLex`).  The text: the lexemes are read as `Piece`s
(GristProofs/Pieces.lean) twice, for the `$` → `rec.` replacer (`dp`; a name is a copied piece, so its patch
maps back, `mapBack_at`) and for the renames (`rpFrom`; the patches found in visiting order are a permutation
of theirs, `entityPatches_perm`), which gives `processRenames_printed`.  The trees: `convert_rename`, and
`classOf_rename` (the rename does not change what an Attribute node denotes, by induction along `convert`),
from which `nodes_rename`.
-/
import GristModel.PredRename
import GristProofs.Pieces
import GristProofs.Predicate
namespace Grist.PredRename
open Grist.Predicate Grist.Textbuilder

/-- the name part of an occurrence lexeme -/
def Lex.occName : Lex → Option Str
  | .attr s => some s
  | .dollar s => some s
  | .other _ => none

/-- every visited node is printed as an occurrence lexeme that carries its name -/
def Printed (toks : List Lex) : List NodeInfo → List Nat → Prop
  | [], [] => True
  | nd :: nds, ix :: ixs =>
    (∃ l, toks[ix]? = some l ∧ l.occName = some nd.name.toList) ∧ Printed toks nds ixs
  | _, _ => False

/-- the new name the renamer gives to a visited node -/
def newOf (c : Ctx) (nd : NodeInfo) : Option Str :=
  match nd.cls with
  | some (t, x) => (renamer c ⟨t, 0, nd.name, x⟩).map String.toList
  | none => none

/-- all occurrence lexemes carry a non-empty name (they are identifiers) -/
def NamesNonempty (toks : List Lex) : Prop := ∀ l ∈ toks, l.occName ≠ some []

/-- the visited nodes of the renamed tree: same classification, new names -/
def renameNode (c : Ctx) (nd : NodeInfo) : NodeInfo := ⟨newName c nd.name nd.cls, nd.cls⟩

/-- the step of `renameLexFrom` -/
def renameLex (l : Lex) (o : Option Str) : Lex :=
  match l, o with
  | .attr _, some nw => .attr nw
  | .dollar _, some nw => .dollar nw
  | l, _ => l


/-- `$name` is two pieces: the `$`, replaced by `rec.`, and the name, copied. -/
def dollarPieces : Lex → List Piece
  | .dollar s => [⟨[], ['$'], [], some "rec.".toList⟩, .copy s]
  | l => [.copy l.textO]

def dp (toks : List Lex) : List Piece := toks.flatMap dollarPieces

theorem printO_append (a b : List Lex) : printO (a ++ b) = printO a ++ printO b := by
  induction a with
  | nil => rfl
  | cons l ls ih => simp [printO, ih]

theorem printN_append (a b : List Lex) : printN (a ++ b) = printN a ++ printN b := by
  induction a with
  | nil => rfl
  | cons l ls ih => simp [printN, ih]

theorem srcOf_dp (toks : List Lex) : srcOf (dp toks) = printO toks := by
  induction toks with
  | nil => rfl
  | cons l ls ih =>
    simp only [dp, List.flatMap_cons, srcOf_append, printO] at ih ⊢
    rw [ih]
    cases l <;> simp [dollarPieces, srcOf, Piece.copy, Piece.src, Lex.textO]

theorem dstOf_dp (toks : List Lex) : dstOf (dp toks) = printN toks := by
  induction toks with
  | nil => rfl
  | cons l ls ih =>
    simp only [dp, List.flatMap_cons, dstOf_append, printN] at ih ⊢
    rw [ih]
    cases l <;> simp [dollarPieces, dstOf, Piece.copy, Piece.dst, Lex.textO, Lex.textN]

theorem dollars_eq_patches : ∀ (toks : List Lex) (off : Nat),
    (dollarsFrom off toks).map dollarPatch = patchesFrom off (dp toks)
  | [], _ => rfl
  | l :: ls, off => by
    have ih := dollars_eq_patches ls
    simp only [dp, List.flatMap_cons, patchesFrom_append] at ih ⊢
    cases l <;>
      simp [dollarsFrom, dollarPieces, patchesFrom, Piece.patches, Piece.copy, Piece.src, srcOf,
        dollarPatch, Lex.textO, ih, Nat.add_assoc, Nat.add_comm 1]

theorem dp_b_ne (toks : List Lex) : ∀ p ∈ dp toks, p.nw.isSome → p.b ++ p.c ≠ [] ∧ p.nw ≠ some [] := by
  intro p hp
  obtain ⟨l, -, hp⟩ := List.mem_flatMap.mp hp
  cases l with
  | dollar x =>
    simp only [dollarPieces, List.mem_cons, List.not_mem_nil, or_false] at hp
    rcases hp with rfl | rfl <;> simp [Piece.copy]
  | _ =>
    simp only [dollarPieces, List.mem_singleton] at hp
    subst hp
    simp [Piece.copy]

theorem getText_dollarBuilder (toks : List Lex) :
    getText (dollarBuilder (printO toks) (dollarsFrom 0 toks)) = .ok (printN toks) := by
  have := replacer_pieces (dp toks) ((dollarsFrom 0 toks).map dollarPatch)
    (fun p hp hs => (dp_b_ne toks p hp hs).1) (by rw [dollars_eq_patches])
  rw [srcOf_dp, dstOf_dp] at this
  simp only [dollarBuilder, getText, this.1, this.2]

theorem namePosN_split (L : List Lex) (l : Lex) (R : List Lex) :
    namePosN (L ++ l :: R) L.length =
      (printN L).length + (match l with | .dollar _ => 4 | _ => 0) := by
  induction L with
  | nil => cases l <;> simp [namePosN, printN]
  | cons x xs ih =>
    simp only [List.cons_append, List.length_cons, namePosN, printN, List.length_append]
    rw [ih]
    omega

theorem namePosO_split (L : List Lex) (l : Lex) (R : List Lex) :
    namePosO (L ++ l :: R) L.length =
      (printO L).length + (match l with | .dollar _ => 1 | _ => 0) := by
  induction L with
  | nil => cases l <;> simp [namePosO, printO]
  | cons x xs ih =>
    simp only [List.cons_append, List.length_cons, namePosO, printO, List.length_append]
    rw [ih]
    omega

/-- The name of an occurrence lexeme is a copied piece of its own, at `namePosO` / `namePosN`. -/
theorem dp_occ (L : List Lex) (l : Lex) (R : List Lex) (s : Str) (hl : l.occName = some s) :
    ∃ Lp, dp (L ++ l :: R) = Lp ++ Piece.copy s :: dp R ∧
      (srcOf Lp).length = namePosO (L ++ l :: R) L.length ∧
      (dstOf Lp).length = namePosN (L ++ l :: R) L.length := by
  rw [namePosO_split, namePosN_split]
  cases l with
  | other x => cases hl
  | attr x =>
    cases hl
    refine ⟨dp L, by simp [dp, dollarPieces, Lex.textO], ?_, ?_⟩
    · rw [srcOf_dp]
      rfl
    · rw [dstOf_dp]
      rfl
  | dollar x =>
    cases hl
    exact ⟨dp L ++ [⟨[], ['$'], [], some "rec.".toList⟩], by simp [dp, dollarPieces],
      by simp [srcOf_append, srcOf_dp, srcOf, Piece.src],
      by simp [dstOf_append, dstOf_dp, dstOf, Piece.dst]⟩

theorem slice_name_N (L : List Lex) (l : Lex) (R : List Lex) (s : Str) (hl : l.occName = some s) :
    slice (printN (L ++ l :: R)) ((namePosN (L ++ l :: R) L.length : Nat) : Int)
      ((namePosN (L ++ l :: R) L.length + s.length : Nat) : Int) = s := by
  obtain ⟨Lp, hdp, -, hN⟩ := dp_occ L l R s hl
  rw [← dstOf_dp, hdp, dstOf_copy, ← hN]
  exact slice_mid _ _ _

theorem slice_name_O (L : List Lex) (l : Lex) (R : List Lex) (s : Str) (hl : l.occName = some s) :
    slice (printO (L ++ l :: R)) ((namePosO (L ++ l :: R) L.length : Nat) : Int)
      ((namePosO (L ++ l :: R) L.length + s.length : Nat) : Int) = s := by
  obtain ⟨Lp, hdp, hO, -⟩ := dp_occ L l R s hl
  rw [← srcOf_dp, hdp, srcOf_copy, ← hO]
  exact slice_mid _ _ _

theorem getElem?_split {α} (l : List α) (i : Nat) (x : α) (h : l[i]? = some x) :
    ∃ L R, l = L ++ x :: R ∧ L.length = i := by
  obtain ⟨hi, hx⟩ := List.getElem?_eq_some_iff.mp h
  refine ⟨l.take i, l.drop (i + 1), ?_, ?_⟩
  · rw [← hx]
    simp
  · simp
    omega

/-- The patch of a name in the `rec.` text maps back to the patch of that name in the stored text. -/
theorem mapBack_at (toks : List Lex) (i : Nat) (l : Lex) (s new : Str)
    (hi : toks[i]? = some l) (hl : l.occName = some s) :
    mapBack (dollarBuilder (printO toks) (dollarsFrom 0 toks))
      ⟨((namePosN toks i : Nat) : Int), ((namePosN toks i : Nat) : Int) + (s.length : Int),
       slice (printN toks) ((namePosN toks i : Nat) : Int)
         (((namePosN toks i : Nat) : Int) + (s.length : Int)), new⟩
    = .ok (some (printO toks, 0,
        ⟨((namePosO toks i : Nat) : Int), ((namePosO toks i + s.length : Nat) : Int), s, new⟩)) := by
  obtain ⟨L, R, rfl, rfl⟩ := getElem?_split toks i l hi
  obtain ⟨Lp, hdp, hO, hN⟩ := dp_occ L l R s hl
  have := mapBack_copied Lp (dp R) s new ((dollarsFrom 0 (L ++ l :: R)).map dollarPatch)
    (by
      rw [← hdp]
      exact fun p hp hs => (dp_b_ne _ p hp hs).1)
    (fun p hp hs => (dp_b_ne R p hp (by simp [hs])).2 hs)
    (by rw [dollars_eq_patches, hdp])
  rw [← hdp, srcOf_dp, hO, hN] at this
  rw [← Int.natCast_add, slice_name_N L l R s hl]
  exact this

/-- the patches of the stored text, in visiting order -/
def entityPatches (c : Ctx) (toks : List Lex) : List NodeInfo → List Nat → List Patch
  | nd :: nds, ix :: ixs =>
    (match newOf c nd with
     | some nw => [⟨((namePosO toks ix : Nat) : Int), ((namePosO toks ix + nd.name.toList.length : Nat) : Int),
                    nd.name.toList, nw⟩]
     | none => []) ++ entityPatches c toks nds ixs
  | _, _ => []

theorem renamer_pos (c : Ctx) (t : EType) (p : Nat) (n : String) (x : Option String) :
    renamer c ⟨t, p, n, x⟩ = renamer c ⟨t, 0, n, x⟩ := by
  unfold renamer
  rfl

theorem mapPatches_printed (c : Ctx) (toks : List Lex) : ∀ (nds : List NodeInfo) (ixs : List Nat),
    Printed toks nds ixs →
    mapPatches (dollarBuilder (printO toks) (dollarsFrom 0 toks)) (printN toks) c
      (zipEntities nds (ixs.map (namePosN toks))) = .ok (entityPatches c toks nds ixs)
  | [], [], _ => rfl
  | nd :: nds, ix :: ixs, ⟨⟨l, hl, hname⟩, hrest⟩ => by
    have ih := mapPatches_printed c toks nds ixs hrest
    simp only [List.map_cons, zipEntities, entityPatches, newOf]
    cases nd.cls with
    | none => exact ih
    | some tx =>
      simp only [List.cons_append, List.nil_append, mapPatches, renamer_pos c tx.1 _]
      cases renamer c ⟨tx.1, 0, nd.name, tx.2⟩ with
      | none => exact ih
      | some new =>
        have := mapBack_at toks ix l nd.name.toList new.toList hl hname
        rw [String.length_toList] at this
        simp only [this, ih, Option.map_some, List.cons_append, List.nil_append,
          String.length_toList]

def renamePiece (l : Lex) (nw : Option Str) : Piece :=
  match l, nw with
  | .attr s, some n => ⟨[], s, [], some n⟩
  | .dollar s, some n => ⟨['$'], s, [], some n⟩
  | l, _ => ⟨l.textO, [], [], none⟩

def rpFrom (sel : Nat → Option Str) (base : Nat) : List Lex → List Piece
  | [] => []
  | l :: ls => renamePiece l (sel base) :: rpFrom sel (base + 1) ls

theorem renamePiece_src (l : Lex) (nw : Option Str) : (renamePiece l nw).src = l.textO := by
  cases l <;> cases nw <;> simp [renamePiece, Piece.src, Lex.textO]

theorem srcOf_rp (sel : Nat → Option Str) : ∀ (toks : List Lex) (base : Nat),
    srcOf (rpFrom sel base toks) = printO toks
  | [], _ => rfl
  | l :: ls, base => by simp only [rpFrom, srcOf, printO, renamePiece_src, srcOf_rp sel ls]

theorem dstOf_rp (sel : Nat → Option Str) : ∀ (toks : List Lex) (base : Nat),
    dstOf (rpFrom sel base toks) = printO (renameLexFrom sel base toks)
  | [], _ => rfl
  | l :: ls, base => by
    simp only [rpFrom, dstOf, renameLexFrom, printO, dstOf_rp sel ls]
    cases l <;> cases sel base <;> simp [renamePiece, Piece.dst, Lex.textO]

theorem renamePiece_b_ne {l : Lex} (hl : l.occName ≠ some []) (nw : Option Str)
    (hs : (renamePiece l nw).nw.isSome) : (renamePiece l nw).b ++ (renamePiece l nw).c ≠ [] := by
  cases nw with
  | none =>
    rw [show (renamePiece l none).nw = none by cases l <;> rfl] at hs
    cases hs
  | some n =>
    cases l with
    | other x => cases hs
    | attr x => exact fun h => hl (congrArg some (List.append_nil x ▸ h))
    | dollar x => exact fun h => hl (congrArg some (List.append_nil x ▸ h))

theorem rp_b_ne (sel : Nat → Option Str) : ∀ (toks : List Lex) (base : Nat), NamesNonempty toks →
    ∀ p ∈ rpFrom sel base toks, p.nw.isSome → p.b ++ p.c ≠ []
  | l :: ls, base, hne, p, hp, hs => by
    rcases List.mem_cons.mp hp with rfl | hp
    · exact renamePiece_b_ne (hne l List.mem_cons_self) _ hs
    · exact rp_b_ne sel ls (base + 1) (fun x hx => hne x (List.mem_cons_of_mem _ hx)) p hp hs

theorem rp_congr (sel1 sel2 : Nat → Option Str) : ∀ (toks : List Lex) (base : Nat),
    (∀ j, j < toks.length → sel1 (base + j) = sel2 (base + j)) →
    rpFrom sel1 base toks = rpFrom sel2 base toks
  | [], _, _ => rfl
  | l :: ls, base, h => by
    rw [rpFrom, rpFrom, show sel1 base = sel2 base from h 0 (Nat.succ_pos _), rp_congr sel1 sel2 ls (base + 1) fun j hj => by
      rw [Nat.add_right_comm, Nat.add_assoc]
      exact h (j + 1) (Nat.succ_lt_succ hj)]

theorem renamePiece_none (l : Lex) (off : Nat) : (renamePiece l none).patches off = [] := by
  cases l <;> rfl

theorem renamePiece_some (l : Lex) (ls : List Lex) (s nw : Str) (off : Nat) (hl : l.occName = some s) :
    (renamePiece l (some nw)).patches off =
      [⟨((off + namePosO (l :: ls) 0 : Nat) : Int), ((off + namePosO (l :: ls) 0 + s.length : Nat) : Int),
        s, nw⟩] := by
  cases l <;> cases hl <;> rfl

theorem rp_none (sel : Nat → Option Str) : ∀ (toks : List Lex) (base off : Nat),
    (∀ j, j < toks.length → sel (base + j) = none) →
    patchesFrom off (rpFrom sel base toks) = []
  | [], _, _, _ => rfl
  | l :: ls, base, off, h => by
    have h0 := h 0 (by simp)
    rw [Nat.add_zero] at h0
    simp only [rpFrom, h0, patchesFrom, renamePiece_none, List.nil_append]
    exact rp_none sel ls (base + 1) _ (fun j hj => by
      have := h (j + 1) (by simp; omega)
      rw [show base + 1 + j = base + (j + 1) by omega]
      exact this)

/-- selecting one more occurrence lexeme inserts exactly its patch. -/
theorem rp_insert (sel sel' : Nat → Option Str) (nw : Str) :
    ∀ (toks : List Lex) (i base off : Nat) (l : Lex) (s : Str),
    toks[i]? = some l → l.occName = some s → sel (base + i) = none → sel' (base + i) = some nw →
    (∀ j, j ≠ base + i → sel' j = sel j) →
    (patchesFrom off (rpFrom sel' base toks)).Perm
      (⟨((off + namePosO toks i : Nat) : Int), ((off + namePosO toks i + s.length : Nat) : Int), s, nw⟩ ::
        patchesFrom off (rpFrom sel base toks))
  | x :: xs, 0, base, off, l, s, hi, hl, hsel, hsel', h => by
    cases hi
    rw [Nat.add_zero] at hsel hsel' h
    simp only [rpFrom, hsel, hsel', patchesFrom,
      rp_congr sel' sel xs (base + 1) fun j _ => h (base + 1 + j) (by omega),
      renamePiece_src, renamePiece_none, renamePiece_some x xs s nw off hl, List.nil_append,
      List.cons_append]
    exact .refl _
  | x :: xs, i' + 1, base, off, l, s, hi, hl, hsel, hsel', h => by
    rw [show base + (i' + 1) = base + 1 + i' by omega] at hsel hsel' h
    have ih := rp_insert sel sel' nw xs i' (base + 1) (off + x.textO.length) l s hi hl hsel hsel' h
    rw [show off + x.textO.length + namePosO xs i' = off + namePosO (x :: xs) (i' + 1) by
      simp only [namePosO]; omega] at ih
    simp only [rpFrom, patchesFrom, renamePiece_src, h base (by omega)]
    exact (ih.append_left _).trans List.perm_middle

theorem selFrom_cons (c : Ctx) (nd : NodeInfo) (nds : List NodeInfo) (ix : Nat) (ixs : List Nat) (i : Nat) :
    selFrom c (nd :: nds) (ix :: ixs) i = if ix = i then newOf c nd else selFrom c nds ixs i := by
  rfl

theorem selFrom_not_mem (c : Ctx) : ∀ (nds : List NodeInfo) (ixs : List Nat) (i : Nat), i ∉ ixs →
    selFrom c nds ixs i = none
  | [], _, _, _ => rfl
  | _ :: _, [], _, _ => rfl
  | nd :: nds, ix :: ixs, i, h => by
    rw [selFrom_cons, if_neg fun (e : ix = i) => h (e ▸ List.mem_cons_self)]
    exact selFrom_not_mem c nds ixs i fun hm => h (List.mem_cons_of_mem _ hm)

theorem entityPatches_perm (c : Ctx) (toks : List Lex) : ∀ (nds : List NodeInfo) (ixs : List Nat),
    Printed toks nds ixs → ixs.Nodup →
    (entityPatches c toks nds ixs).Perm (patchesFrom 0 (rpFrom (selFrom c nds ixs) 0 toks))
  | [], [], _, _ => by
    rw [rp_none _ _ _ _ fun _ _ => rfl]
    exact .refl _
  | nd :: nds, ix :: ixs, ⟨⟨l, hl, hname⟩, hrest⟩, hnd => by
    have hnd' := List.nodup_cons.mp hnd
    have ih := entityPatches_perm c toks nds ixs hrest hnd'.2
    have hnone := selFrom_not_mem c nds ixs ix hnd'.1
    simp only [entityPatches]
    cases hnew : newOf c nd with
    | none =>
      rw [rp_congr _ (selFrom c nds ixs) toks 0 fun j _ => by
        rw [Nat.zero_add, selFrom_cons, hnew]
        split
        · next h => rw [← h, hnone]
        · rfl]
      exact ih
    | some nw =>
      have hins := rp_insert (selFrom c nds ixs) (selFrom c (nd :: nds) (ix :: ixs)) nw toks ix 0 0 l
        nd.name.toList hl hname
        (by
          rw [Nat.zero_add]
          exact hnone)
        (by rw [Nat.zero_add, selFrom_cons, if_pos rfl, hnew])
        (fun j hj => by rw [selFrom_cons, if_neg (by omega)])
      simp only [Nat.zero_add] at hins
      exact (ih.cons _).trans hins.symm

theorem processRenames_printed (D : Str → Option (List Nat)) (P : Str → Option (PExpr × List Nat))
    (c : Ctx) (toks : List Lex) (e : PExpr) (ixs : List Nat)
    (hD : D (printO toks) = some (dollarsFrom 0 toks))
    (hP : P (printN toks) = some (e, ixs.map (namePosN toks)))
    (hpr : Printed toks (nodes c.kind e) ixs) (hnd : ixs.Nodup) (hne : NamesNonempty toks) :
    processRenames D P c (printO toks) =
      .ok (match convert e with
           | .ok _ => printO (renameLexFrom (selFrom c (nodes c.kind e) ixs) 0 toks)
           | .error _ => printO toks) := by
  unfold processRenames
  simp only [hD, getText_dollarBuilder, hP, collect]
  cases hc : convert e with
  | error m => rfl
  | ok t =>
    simp only [mapPatches_printed c toks _ ixs hpr]
    have hperm := entityPatches_perm c toks _ ixs hpr hnd
    have := replacer_pieces (rpFrom (selFrom c (nodes c.kind e) ixs) 0 toks)
      (entityPatches c toks (nodes c.kind e) ixs) (rp_b_ne _ toks 0 hne) hperm
    rw [srcOf_rp, dstOf_rp] at this
    simp only [getText, this.1, this.2]

theorem renameJson_list (c : Ctx) (xs : List PTree) :
    renameJson c (.list xs) = .list (fixAttr c xs (renameJsonList c xs)) := by
  rw [renameJson]

theorem renameJson_nonlist (c : Ctx) (x : PTree) (h : ∀ xs, x ≠ .list xs) : renameJson c x = x := by
  cases x with
  | list xs => exact absurd rfl (h xs)
  | _ =>
    rw [renameJson]
    intro xs hx
    cases hx

theorem renameJson_str (c : Ctx) (s : String) : renameJson c (.str s) = .str s :=
  renameJson_nonlist c _ (by intro xs h; cases h)

theorem fixAttr_ne (c : Ctx) (tag : String) (args new : List PTree) (h : tag ≠ "Attr") :
    fixAttr c (.str tag :: args) new = new := by
  unfold fixAttr
  split
  · rename_i heq
    simp only [List.cons.injEq, PTree.str.injEq] at heq
    simp [← heq.1, h]
  · rfl

theorem fixAttr_two (c : Ctx) (x1 x2 : PTree) (new : List PTree) : fixAttr c [x1, x2] new = new := by
  unfold fixAttr
  split
  · rename_i heq
    simp at heq
  · rfl

theorem fixAttr_attr (c : Ctx) (p : PTree) (a : String) (t p' z : PTree) :
    fixAttr c [.str "Attr", p, .str a] [t, p', z]
      = [t, p', .str (newName c a (classify c.kind p))] := by
  simp [fixAttr]

theorem renameJsonList_append (c : Ctx) : ∀ (xs ys : List PTree),
    renameJsonList c (xs ++ ys) = renameJsonList c xs ++ renameJsonList c ys
  | [], ys => rfl
  | x :: xs, ys => by simp [renameJsonList, renameJsonList_append c xs ys]

theorem renameJson_name (c : Ctx) (n : String) :
    renameJson c (.list [.str "Name", .str n]) = .list [.str "Name", .str n] := by
  rw [renameJson_list, fixAttr_two]
  simp [renameJsonList, renameJson_str]

theorem renameJson_node (c : Ctx) (tag : String) (args : List PTree) (h : tag ≠ "Attr") :
    renameJson c (node tag args) = node tag (renameJsonList c args) := by
  simp only [node, renameJson_list, renameJsonList, renameJson_str, fixAttr_ne c tag _ _ h]

theorem renameJson_attrNode (c : Ctx) (p : PTree) (a : String) :
    renameJson c (node "Attr" [p, .str a])
      = node "Attr" [renameJson c p, .str (newName c a (classify c.kind p))] := by
  simp only [node, renameJson_list, renameJsonList, renameJson_str, fixAttr_attr]

theorem map_ok {ε α β} (f : α → β) (x : Except ε α) (a : α) (h : x = .ok a) : f <$> x = .ok (f a) := by
  rw [h]
  rfl

theorem constTree_rename (c : Ctx) (k : Const) : renameJson c (constTree k) = constTree k := by
  cases k <;> exact renameJson_nonlist c _ (by intro xs h; simp [constTree] at h)

theorem cmpName_ne_attr (op : CmpOp) : op.name ≠ "Attr" := by cases op <;> decide

theorem binName_ne_attr {op : BinOp} {n : String} (h : op.name? = some n) : n ≠ "Attr" := by
  cases op <;> cases h <;> decide

mutual
theorem convert_rename (c : Ctx) : ∀ (e : PExpr),
    convert (renameExpr c e) = (renameJson c) <$> (convert e)
  | .boolOp op vs => by
    have : op.name ≠ "Attr" := by cases op <;> decide
    simp only [renameExpr, convert, convertList_rename c vs, bind_map_left, map_bind, map_pure,
      renameJson_node c _ _ this]
  | .binOp op l r => by
    simp only [renameExpr, convert]
    cases hn : op.name? with
    | none => rfl
    | some n =>
      simp only [convert_rename c l, convert_rename c r, bind_map_left, map_bind, map_pure,
        renameJson_node c _ _ (binName_ne_attr hn), renameJsonList]
  | .unaryOp op e => by
    cases op with
    | other k => rfl
    | not =>
      simp only [renameExpr, convert, convert_rename c e, bind_map_left, map_bind, map_pure,
        renameJson_node c "Not" _ (by decide), renameJsonList]
  | .compare l [op] [x] => by
    simp only [renameExpr, renameList, convert, convert_rename c l, convert_rename c x,
      bind_map_left, map_bind, map_pure, renameJson_node c _ _ (cmpName_ne_attr op), renameJsonList]
  | .compare l [] cs => rfl
  | .compare l (_ :: _ :: _) cs => rfl
  | .compare l [_] [] => rfl
  | .compare l [_] (_ :: _ :: _) => rfl
  | .name id => by
    simp only [renameExpr, convert]
    cases namedConstant id <;>
      simp only [map_pure, renameJson_node c "Const" _ (by decide),
        renameJson_node c "Name" _ (by decide), renameJsonList, constTree_rename, renameJson_str]
  | .dollar x => by
    simp only [renameExpr, convert, map_pure, renameJson_attrNode]
    rw [show node "Name" [PTree.str "rec"] = PTree.list [.str "Name", .str "rec"] from rfl,
      renameJson_name]
  | .const k => by
    simp only [renameExpr, convert, map_pure, renameJson_node c "Const" _ (by decide),
      renameJsonList, constTree_rename]
  | .attr v a => by
    simp only [renameExpr, convert, convert_rename c v, bind_map_left, map_bind, map_pure,
      renameJson_attrNode]
    cases hv : convert v <;> simp only [classOf, hv] <;> rfl
  | .list es => by
    simp only [renameExpr, convert, convertList_rename c es, bind_map_left, map_bind, map_pure,
      renameJson_node c "List" _ (by decide)]
  | .tuple es => by
    simp only [renameExpr, convert, convertList_rename c es, bind_map_left, map_bind, map_pure,
      renameJson_node c "List" _ (by decide)]
  | .call f args kws => by
    have hemp : (renameKws c kws).isEmpty = kws.isEmpty := by
      cases kws with
      | nil => rfl
      | cons k ks =>
        cases k
        rfl
    simp only [renameExpr, convert, convertList_rename c args, convertKws_rename c kws,
      convert_rename c f, hemp, bind_map_left, map_bind, map_pure,
      renameJson_node c "Call" _ (by decide), renameJsonList, renameJsonList_append]
    cases kws.isEmpty <;>
      simp only [renameJsonList, renameJson_node c "keywords" _ (by decide), if_true, if_false,
        Bool.false_eq_true]
  | .unsupported k cs => rfl
theorem convertList_rename (c : Ctx) : ∀ (es : List PExpr),
    convertList (renameList c es) = (renameJsonList c) <$> (convertList es)
  | [] => rfl
  | e :: es => by
    simp only [renameList, convertList, convert_rename c e, convertList_rename c es,
      bind_map_left, map_bind, map_pure, renameJsonList]
theorem convertKws_rename (c : Ctx) : ∀ (ks : List Keyword),
    convertKws (renameKws c ks) = (renameJsonList c) <$> (convertKws ks)
  | [] => rfl
  | .mk arg e :: ks => by
    simp only [renameKws, convertKws, convert_rename c e, convertKws_rename c ks,
      bind_map_left, map_bind, map_pure, renameJsonList, renameJson_list, fixAttr_two]
    cases arg <;>
      simp only [renameJson_str, renameJson_nonlist c .null (by intro xs h; cases h)]
end

theorem asName_node_ne {tag : String} (args : List PTree) (h : tag ≠ "Name") : asName (node tag args) = none := by
  unfold node asName
  split
  · next heq =>
    cases heq
    exact if_neg h
  · rfl

theorem asUserAttr_node_ne {tag : String} (args : List PTree) (h : tag ≠ "Attr") :
    asUserAttr (node tag args) = none := by
  unfold node asUserAttr
  split
  · next heq =>
    cases heq
    exact if_neg h
  · rfl

theorem asUserAttr_attr (p : PTree) (a : String) :
    asUserAttr (node "Attr" [p, .str a]) = (asName p).bind fun n => if n = "user" then some a else none := by
  simp only [node, asUserAttr, if_true]
  cases asName p <;> rfl

/-- a user attribute itself (`user.Attr`) is never renamed -/
theorem newName_userAttr (c : Ctx) (a : String) {p : PTree} (h : asName p = some "user") :
    newName c a (classify c.kind p) = a := by
  unfold newName classify
  cases hk : c.kind <;> simp [h, renamer, hk]

/-- On converted trees the renaming changes nothing of what `classify` looks at: a name node stays, and
    below `user.` nothing is renamed. -/
theorem classify_clauses (c : Ctx) : ConvertClauses
    (fun _ t => asName (renameJson c t) = asName t ∧ asUserAttr (renameJson c t) = asUserAttr t)
    (fun _ _ => True) (fun _ _ => True) :=
  have other : ∀ {tag : String} (args : List PTree), tag ≠ "Name" → tag ≠ "Attr" →
      asName (renameJson c (node tag args)) = asName (node tag args) ∧
      asUserAttr (renameJson c (node tag args)) = asUserAttr (node tag args) := fun args h1 h2 => by
    rw [renameJson_node c _ _ h2, asName_node_ne _ h1, asName_node_ne _ h1, asUserAttr_node_ne _ h2,
      asUserAttr_node_ne _ h2]
    exact ⟨rfl, rfl⟩
  have attr : ∀ (t : PTree) (a : String), asName (renameJson c t) = asName t →
      asName (renameJson c (node "Attr" [t, .str a])) = asName (node "Attr" [t, .str a]) ∧
      asUserAttr (renameJson c (node "Attr" [t, .str a])) = asUserAttr (node "Attr" [t, .str a]) :=
    fun t a h => by
    rw [renameJson_attrNode, asName_node_ne _ (by decide), asName_node_ne _ (by decide), asUserAttr_attr,
      asUserAttr_attr, h]
    refine ⟨rfl, ?_⟩
    cases hn : asName t with
    | none => rfl
    | some n =>
      by_cases hu : n = "user"
      · rw [newName_userAttr c a (hu ▸ hn)]
      · simp only [Option.bind_some, if_neg hu]
  { boolOp := fun op _ _ _ => other _ (by cases op <;> decide) (by cases op <;> decide)
    binOp := fun op _ _ _ _ _ hn _ _ => other _ (by cases op <;> cases hn <;> decide) (binName_ne_attr hn)
    not := fun _ _ _ => other _ (by decide) (by decide)
    compare := fun _ op _ _ _ _ _ => other _ (by cases op <;> decide) (cmpName_ne_attr op)
    namedConst := fun _ _ _ => other _ (by decide) (by decide)
    name := fun id _ => by rw [node, renameJson_name]; exact ⟨rfl, rfl⟩
    dollar := fun x => attr _ x (by rw [node, renameJson_name])
    const := fun _ => other _ (by decide) (by decide)
    attr := fun _ a t h => attr t a h.1
    list := fun _ _ _ => other _ (by decide) (by decide)
    tuple := fun _ _ _ => other _ (by decide) (by decide)
    call := fun _ _ _ _ _ _ _ _ _ _ _ => other _ (by decide) (by decide)
    nil := trivial
    cons := fun _ _ _ _ _ _ _ => trivial
    knil := trivial
    kcons := fun _ _ _ _ _ _ _ => trivial }

/-- The renamed expression's value is classified as the old one was: `classify` reads the converted tree,
    where `classify_clauses` applies. -/
theorem classOf_rename (c : Ctx) (k : Kind) (v : PExpr) : classOf k (renameExpr c v) = classOf k v := by
  unfold classOf
  rw [convert_rename]
  cases hv : convert v with
  | error m => rfl
  | ok t =>
    obtain ⟨h1, h2⟩ := convert_induct (classify_clauses c) v t hv
    simp only [Functor.map, Except.map, classify, h1, h2]

mutual
theorem nodes_rename (c : Ctx) : ∀ (e : PExpr),
    nodes c.kind (renameExpr c e) = (nodes c.kind e).map (renameNode c)
  | .boolOp op vs => by simp only [renameExpr, nodes, nodesList_rename c vs]
  | .binOp op l r => by
    simp only [renameExpr, nodes, List.map_append, nodes_rename c l, nodes_rename c r]
  | .unaryOp op e => by simp only [renameExpr, nodes, nodes_rename c e]
  | .compare l ops cs => by
    simp only [renameExpr, nodes, List.map_append, nodes_rename c l, nodesList_rename c cs]
  | .name id => rfl
  | .dollar x => rfl
  | .const k => rfl
  | .attr v a => by
    simp only [renameExpr, nodes, List.map_append, nodes_rename c v, classOf_rename]
    rfl
  | .list es => by simp only [renameExpr, nodes, nodesList_rename c es]
  | .tuple es => by simp only [renameExpr, nodes, nodesList_rename c es]
  | .call f args kws => by
    simp only [renameExpr, nodes, List.map_append, nodes_rename c f, nodesList_rename c args,
      nodesKws_rename c kws]
  | .unsupported k cs => by simp only [renameExpr, nodes, nodesList_rename c cs]
theorem nodesList_rename (c : Ctx) : ∀ (es : List PExpr),
    nodesList c.kind (renameList c es) = (nodesList c.kind es).map (renameNode c)
  | [] => rfl
  | e :: es => by
    simp only [renameList, nodesList, List.map_append, nodes_rename c e, nodesList_rename c es]
theorem nodesKws_rename (c : Ctx) : ∀ (ks : List Keyword),
    nodesKws c.kind (renameKws c ks) = (nodesKws c.kind ks).map (renameNode c)
  | [] => rfl
  | .mk a e :: ks => by
    simp only [renameKws, nodesKws, List.map_append, nodes_rename c e, nodesKws_rename c ks]
end

theorem renameLexFrom_get (sel : Nat → Option Str) : ∀ (toks : List Lex) (base i : Nat),
    (renameLexFrom sel base toks)[i]? = (toks[i]?).map (fun l => renameLex l (sel (base + i)))
  | [], _, _ => rfl
  | l :: ls, base, 0 => by
    simp only [renameLexFrom, List.getElem?_cons_zero, Option.map_some, Nat.add_zero]
    cases l <;> cases sel base <;> rfl
  | l :: ls, base, j + 1 => by
    simp only [renameLexFrom, List.getElem?_cons_succ]
    rw [renameLexFrom_get sel ls (base + 1) j, show base + 1 + j = base + (j + 1) by omega]

theorem renameLexFrom_length (sel : Nat → Option Str) : ∀ (toks : List Lex) (base : Nat),
    (renameLexFrom sel base toks).length = toks.length
  | [], _ => rfl
  | l :: ls, base => by simp [renameLexFrom, renameLexFrom_length sel ls]

theorem selFrom_get (c : Ctx) : ∀ (nds : List NodeInfo) (ixs : List Nat), ixs.Nodup →
    ∀ (k : Nat) (nd : NodeInfo) (i : Nat), nds[k]? = some nd → ixs[k]? = some i →
    selFrom c nds ixs i = newOf c nd
  | [], _, _, _, _, _, h1, _ => nomatch h1
  | _ :: _, [], _, _, _, _, _, h2 => nomatch h2
  | nd :: nds, ix :: ixs, hnd, k, nd', i, h1, h2 => by
    have hnd' := List.nodup_cons.mp hnd
    rw [selFrom_cons]
    cases k with
    | zero =>
      cases h1
      cases h2
      exact if_pos rfl
    | succ k =>
      rw [if_neg fun (e : ix = i) => hnd'.1 (e ▸ List.mem_of_getElem? h2)]
      exact selFrom_get c nds ixs hnd'.2 k nd' i h1 h2

theorem renameNode_name (c : Ctx) (nd : NodeInfo) :
    (renameNode c nd).name.toList = (newOf c nd).getD nd.name.toList := by
  unfold renameNode newName newOf
  cases nd.cls with
  | none => rfl
  | some tx =>
    obtain ⟨t, x⟩ := tx
    show ((renamer c ⟨t, 0, nd.name, x⟩).getD nd.name).toList
      = ((renamer c ⟨t, 0, nd.name, x⟩).map String.toList).getD nd.name.toList
    cases renamer c ⟨t, 0, nd.name, x⟩ <;> rfl

theorem occName_renameLex (c : Ctx) (l : Lex) (nd : NodeInfo) (h : l.occName = some nd.name.toList) :
    (renameLex l (newOf c nd)).occName = some (renameNode c nd).name.toList := by
  rw [renameNode_name]
  cases newOf c nd with
  | none => cases l <;> exact h
  | some nw =>
    cases l with
    | other x => cases h
    | _ => rfl

theorem printed_rename (c : Ctx) (toks : List Lex) (sel : Nat → Option Str) :
    ∀ (nds : List NodeInfo) (ixs : List Nat),
    (∀ (k : Nat) nd i, nds[k]? = some nd → ixs[k]? = some i → sel i = newOf c nd) →
    Printed toks nds ixs →
    Printed (renameLexFrom sel 0 toks) (nds.map (renameNode c)) ixs
  | [], [], _, _ => trivial
  | nd :: nds, ix :: ixs, ha, ⟨⟨l, hl, hname⟩, hrest⟩ =>
    ⟨⟨renameLex l (sel ix), by rw [renameLexFrom_get, hl, Nat.zero_add]; rfl,
      by rw [ha 0 nd ix rfl rfl]; exact occName_renameLex c l nd hname⟩,
     printed_rename c toks sel nds ixs (fun k => ha (k + 1)) hrest⟩

theorem selFrom_some (c : Ctx) : ∀ (nds : List NodeInfo) (ixs : List Nat) (i : Nat) (nw : Str),
    selFrom c nds ixs i = some nw →
    ∃ (k : Nat) (nd : NodeInfo), nds[k]? = some nd ∧ ixs[k]? = some i ∧ newOf c nd = some nw
  | [], _, _, _, h => nomatch h
  | _ :: _, [], _, _, h => nomatch h
  | nd :: nds, ix :: ixs, i, nw, h => by
    rw [selFrom_cons] at h
    split at h
    · next hix => exact ⟨0, nd, rfl, hix ▸ rfl, h⟩
    · obtain ⟨k, nd', h1, h2, h3⟩ := selFrom_some c nds ixs i nw h
      exact ⟨k + 1, nd', h1, h2, h3⟩

end Grist.PredRename
