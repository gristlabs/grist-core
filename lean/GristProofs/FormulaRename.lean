/-
C16, the formula text.  Defines `TokOk` (a name occurrence is spelled with the name it denotes), `NameNe`
and `Ren.new`; proves `print_rename` (printing commutes with renaming, token by token).  The rendered text is
read as a list of `Piece`s (GristProofs/Pieces.lean), one per token with its trivia in front (`renderPieces`):
their source is the rendered text, their result renders the renamed tokens, and the patches of
`_prepare_formula_renames` are their patches (`makePatches_occs`).
-/
import GristModel.FormulaRename
import GristProofs.Pieces
namespace Grist.FormulaRename
open Grist.Textbuilder (Str Patch slice)
open Grist.PredRename (Piece srcOf dstOf patchesFrom slice_mid)

set_option linter.unusedVariables false in
def TokOk (tk : Tok) : Prop :=
  match tk.den with
  | some (t, some c) => tk.text = c
  | some (t, none) => tk.text = t
  | none => True

def Ren.new : Ren → Name
  | .col _ _ n => n
  | .tab _ n => n

/-- Name occurrences are not empty strings. -/
def NameNe (tk : Tok) : Prop := tk.den.isSome = true → tk.text ≠ []

instance : DecidablePred NameNe := fun tk => by unfold NameNe; infer_instance

@[simp] theorem renTok_p (ρ : Ren) (s : String) : renTok ρ (p s) = p s := rfl
@[simp] theorem renTok_plain (ρ : Ren) (x : Str) : renTok ρ ⟨x, none⟩ = ⟨x, none⟩ := rfl
@[simp] theorem renTok_colTok (ρ : Ren) (t c : Name) :
    renTok ρ (colTok t c) = colTok (ρ.tabOf t) (ρ.colOf t c) := rfl
@[simp] theorem renTok_tabTok (ρ : Ren) (t : Name) : renTok ρ (tabTok t) = tabTok (ρ.tabOf t) := rfl
@[simp] theorem renTok_quote (ρ : Ren) (q : Bool) : renTok ρ (quote q) = quote q := by
  cases q <;> rfl
@[simp] theorem renTok_opTok (ρ : Ren) (op : Op) : renTok ρ (opTok op) = opTok op := by
  cases op <;> rfl
@[simp] theorem renTok_pnTok (ρ : Ren) (f : PN) : renTok ρ (pnTok f) = pnTok f := by
  cases f <;> rfl

theorem joinItems_map (ρ : Ren) : ∀ (l : List (List Tok)),
    joinItems (l.map (List.map (renTok ρ))) = (joinItems l).map (renTok ρ)
  | [] => rfl
  | [x] => rfl
  | x :: y :: rest => by
    have ih := joinItems_map ρ (y :: rest)
    simp only [List.map_cons] at ih ⊢
    simp only [joinItems, List.map_append, ih, List.map_cons, List.map_nil, renTok_p]

theorem printItem_ren (ρ : Ren) (q : Bool) (t : Name) (it : Bool × Name) :
    printItem q (ρ.tabOf t) (it.1, ρ.colOf t it.2) = (printItem q t it).map (renTok ρ) := by
  unfold printItem
  cases it.1 <;> simp only [List.map_append, List.map_cons, List.map_nil, renTok_quote, renTok_p,
    renTok_colTok, if_true, Bool.false_eq_true, if_false]

theorem printOB_ren (ρ : Ren) (t : Name) (ob : OrderBy) :
    printOB (ρ.tabOf t) (renOB ρ t ob) = (printOB t ob).map (renTok ρ) := by
  have hitems : (renOB ρ t ob).items.map (printItem ob.sq (ρ.tabOf t)) =
      (ob.items.map (printItem ob.sq t)).map (List.map (renTok ρ)) := by
    simp only [renOB, List.map_map]
    exact List.map_congr_left fun it _ => printItem_ren ρ ob.sq t it
  have hlen : (renOB ρ t ob).items.length = ob.items.length := List.length_map _
  unfold printOB
  rw [show (renOB ρ t ob).tuple = ob.tuple from rfl, show (renOB ρ t ob).sq = ob.sq from rfl, hlen,
    hitems, joinItems_map]
  split
  · split <;> simp only [List.map_append, List.map_cons, List.map_nil, renTok_p, List.append_nil]
  · rfl

theorem isEnd_rename (ρ : Ren) (e : FExpr) : isEnd (rename ρ e) = isEnd e := by
  cases e with
  | kwEnd t ob => cases ob <;> rfl
  | _ => rfl

theorem print_rename (ρ : Ren) (e : FExpr) : print (rename ρ e) = (print e).map (renTok ρ) := by
  induction e with
  | kwEnd t ob => cases ob <;> simp only [rename, print, printOB_ren, Option.map_some, Option.map_none,
      List.map_append, List.map_cons, List.map_nil, renTok_p]
  | kw t k v rest ihv ihr =>
    simp only [rename, print, ihv, ihr, isEnd_rename, List.map_append, List.map_cons, List.map_nil,
      renTok_colTok, renTok_p]
    split <;> rfl
  | prevNext f e t gb ob ih =>
    cases gb <;> simp only [rename, print, ih, printOB_ren, Option.map_some, Option.map_none,
      List.map_append, List.map_cons, List.map_nil, renTok_p, renTok_pnTok]
  -- the other nodes print fixed pieces around the prints of their subtrees (`*`: their hypotheses)
  | _ => simp only [rename, print, List.map_append, List.map_cons, List.map_nil, renTok_p, renTok_plain,
      renTok_colTok, renTok_tabTok, renTok_opTok, *]

theorem TokOk.cases {tk : Tok} (h : TokOk tk) :
    (∃ x, tk = ⟨x, none⟩) ∨ (∃ t c, tk = colTok t c) ∨ (∃ t, tk = tabTok t) := by
  obtain ⟨text, _ | ⟨t, _ | c⟩⟩ := tk
  · exact .inl ⟨text, rfl⟩
  · exact .inr (.inr ⟨t, (h : text = t) ▸ rfl⟩)
  · exact .inr (.inl ⟨t, c, (h : text = c) ▸ rfl⟩)

@[simp] theorem tokOk_p (s : String) : TokOk (p s) := trivial
@[simp] theorem tokOk_plain (x : Str) : TokOk ⟨x, none⟩ := trivial
@[simp] theorem tokOk_colTok (t c : Name) : TokOk (colTok t c) := rfl
@[simp] theorem tokOk_tabTok (t : Name) : TokOk (tabTok t) := rfl
@[simp] theorem tokOk_quote (q : Bool) : TokOk (quote q) := by cases q <;> trivial
@[simp] theorem tokOk_opTok (op : Op) : TokOk (opTok op) := by cases op <;> trivial
@[simp] theorem tokOk_pnTok (f : PN) : TokOk (pnTok f) := by cases f <;> trivial

def AllOk (l : List Tok) : Prop := ∀ tk ∈ l, TokOk tk

@[simp] theorem allOk_nil : AllOk [] := nofun
@[simp] theorem allOk_cons (tk : Tok) (l : List Tok) : AllOk (tk :: l) ↔ TokOk tk ∧ AllOk l :=
  List.forall_mem_cons
@[simp] theorem allOk_append (a b : List Tok) : AllOk (a ++ b) ↔ AllOk a ∧ AllOk b :=
  List.forall_mem_append

theorem allOk_joinItems : ∀ (l : List (List Tok)), (∀ x ∈ l, AllOk x) → AllOk (joinItems l)
  | [], _ => allOk_nil
  | [x], h => h x List.mem_cons_self
  | x :: y :: rest, h => by
    have ih := allOk_joinItems (y :: rest) fun z hz => h z (List.mem_cons_of_mem _ hz)
    simp only [joinItems, allOk_append, allOk_cons, allOk_nil, tokOk_p, and_true]
    exact ⟨h x List.mem_cons_self, ih⟩

theorem allOk_printOB (t : Name) (ob : OrderBy) : AllOk (printOB t ob) := by
  have hitems : AllOk (joinItems (ob.items.map (printItem ob.sq t))) := by
    refine allOk_joinItems _ fun x hx => ?_
    obtain ⟨it, _, rfl⟩ := List.mem_map.mp hx
    unfold printItem
    split <;> simp only [allOk_append, allOk_cons, allOk_nil, tokOk_quote, tokOk_p, tokOk_colTok,
      and_self]
  unfold printOB
  split
  · split <;> simp only [allOk_append, allOk_cons, allOk_nil, tokOk_p, hitems, and_self]
  · exact hitems

theorem allOk_print (e : FExpr) : AllOk (print e) := by
  induction e with
  | kwEnd t ob =>
    cases ob <;> simp only [print, allOk_append, allOk_cons, allOk_nil, tokOk_p, allOk_printOB, and_self]
  | kw t k v rest ihv ihr =>
    unfold print
    split <;> simp only [allOk_append, allOk_cons, allOk_nil, tokOk_p, tokOk_colTok, ihv, ihr, and_self]
  | prevNext f e t gb ob ih =>
    cases gb <;> simp only [print, allOk_append, allOk_cons, allOk_nil, tokOk_p, tokOk_pnTok,
      allOk_printOB, ih, and_self]
  | _ => simp only [print, allOk_append, allOk_cons, allOk_nil, tokOk_p, tokOk_plain, tokOk_colTok,
      tokOk_tabTok, tokOk_opTok, and_self, *]

theorem render_length_le (triv : List Str) (toks : List Tok) : 0 ≤ (render triv toks).length :=
  Nat.zero_le _

/-- A token after its trivia `pre`, as a piece: its text is replaced if the rename is about what it denotes. -/
def tokPiece (ρ : Ren) (pre : Str) (tk : Tok) : Piece :=
  ⟨pre, tk.text, [], tk.den.bind fun dn => renamesGet ρ dn.1 dn.2⟩

/-- The rendered text as pieces (the closing trivia is a piece of its own). -/
def renderPieces (ρ : Ren) : List Str → List Tok → List Piece
  | triv, [] => [.copy (triv.headD [])]
  | triv, tk :: tks => tokPiece ρ (triv.headD []) tk :: renderPieces ρ triv.tail tks

theorem srcOf_renderPieces (ρ : Ren) : ∀ (toks : List Tok) (triv : List Str),
    srcOf (renderPieces ρ triv toks) = render triv toks
  | [], _ => by simp [renderPieces, srcOf, Piece.copy, Piece.src, render]
  | tk :: tks, triv => by
    simp [renderPieces, srcOf, tokPiece, Piece.src, render, srcOf_renderPieces ρ tks]

/-- `renamesGet` and `renTok` test the same condition. -/
theorem tokPiece_nw (ρ : Ren) (pre : Str) {tk : Tok} (hok : TokOk tk) :
    (tokPiece ρ pre tk).nw.getD tk.text = (renTok ρ tk).text ∧
    ∀ n, (tokPiece ρ pre tk).nw = some n → n = ρ.new := by
  obtain ⟨x, rfl⟩ | ⟨t, c, rfl⟩ | ⟨t, rfl⟩ := hok.cases
  · exact ⟨rfl, nofun⟩
  · cases ρ with
    | tab o n => exact ⟨rfl, nofun⟩
    | col T o n =>
      simp only [tokPiece, colTok, Option.bind_some, renamesGet, renTok, Ren.colOf, Ren.new]
      split <;> simp
  · cases ρ with
    | col T o n => exact ⟨rfl, nofun⟩
    | tab o n =>
      simp only [tokPiece, tabTok, Option.bind_some, renamesGet, renTok, Ren.tabOf, Ren.new]
      split <;> simp

theorem dstOf_renderPieces (ρ : Ren) : ∀ (toks : List Tok) (triv : List Str), (∀ tk ∈ toks, TokOk tk) →
    dstOf (renderPieces ρ triv toks) = render triv (toks.map (renTok ρ))
  | [], _, _ => by simp [renderPieces, dstOf, Piece.copy, Piece.dst, render]
  | tk :: tks, triv, h => by
    have := (tokPiece_nw ρ (triv.headD []) (h tk List.mem_cons_self)).1
    simp only [tokPiece] at this
    simp [renderPieces, dstOf, tokPiece, Piece.dst, render, this,
      dstOf_renderPieces ρ tks triv.tail fun x hx => h x (List.mem_cons_of_mem _ hx)]

theorem renderPieces_b_ne (ρ : Ren) : ∀ (toks : List Tok) (triv : List Str), (∀ tk ∈ toks, NameNe tk) →
    ∀ p ∈ renderPieces ρ triv toks, p.nw.isSome → p.b ++ p.c ≠ []
  | [], _, _, p, hp, hs => by
    cases List.mem_singleton.mp hp
    cases hs
  | tk :: tks, triv, h, p, hp, hs => by
    rcases List.mem_cons.mp hp with rfl | hp
    · refine List.append_nil tk.text ▸ h tk List.mem_cons_self ?_
      cases hd : tk.den with
      | none => simp [tokPiece, hd] at hs
      | some dn => rfl
    · exact renderPieces_b_ne ρ tks triv.tail (fun x hx => h x (List.mem_cons_of_mem _ hx)) p hp hs

theorem makePatches_append (ρ : Ren) (f : Str) (a b : List Occ) :
    makePatches ρ f (a ++ b) = makePatches ρ f a ++ makePatches ρ f b :=
  List.filterMap_append

theorem makePatches_miss {ρ : Ren} {f : Str} {pos : Nat} {t : Name} {c : Option Name}
    (h : renamesGet ρ t c = none) : makePatches ρ f [(pos, t, c)] = [] := by
  simp only [makePatches, List.filterMap_cons, List.filterMap_nil, h]

theorem makePatches_hit {ρ : Ren} {f : Str} {pos : Nat} {t : Name} {c : Option Name} {new : Name}
    (h : renamesGet ρ t c = some new) (hnew : new ≠ []) (hc : c ≠ some []) :
    makePatches ρ f [(pos, t, c)] = [⟨(pos : Int), (pos : Int) + (c.getD t).length,
      slice f pos ((pos : Int) + (c.getD t).length), new⟩] := by
  cases c with
  | none =>
    simp only [makePatches, List.filterMap_cons, List.filterMap_nil, h, if_neg hnew, Option.getD_none]
  | some c =>
    have hc' : c ≠ [] := fun e => hc (congrArg some e)
    simp only [makePatches, List.filterMap_cons, List.filterMap_nil, h, if_neg hnew, if_neg hc',
      Option.getD_some]

/-- The patch that `_prepare_formula_renames` makes for one occurrence is the patch of its piece: an
    occurrence is spelled with the non-empty name it denotes, and the new name is not empty. -/
theorem makePatches_tok (ρ : Ren) (hnew : ρ.new ≠ []) (f pre : Str) (off : Nat) {tk : Tok} (hok : TokOk tk)
    (hne : NameNe tk)
    (hsl : slice f ((off + pre.length : Nat) : Int) ((off + pre.length + tk.text.length : Nat) : Int) = tk.text) :
    makePatches ρ f (match tk.den with | some dn => [(off + pre.length, dn.1, dn.2)] | none => []) =
      (tokPiece ρ pre tk).patches off := by
  have hnw := (tokPiece_nw ρ pre hok).2
  have hd : ∀ dn, tk.den = some dn → dn.2 ≠ some [] ∧ dn.2.getD dn.1 = tk.text := by
    intro dn h
    have := hne (by rw [h]; rfl)
    obtain ⟨x, rfl⟩ | ⟨t, c, rfl⟩ | ⟨t, rfl⟩ := hok.cases <;> cases h
    · exact ⟨fun e => this (Option.some.inj e), rfl⟩
    · exact ⟨nofun, rfl⟩
  unfold Piece.patches
  cases hden : tk.den with
  | none => simp [tokPiece, hden, makePatches]
  | some dn =>
    obtain ⟨h1, h2⟩ := hd dn hden
    simp only [tokPiece, hden, Option.bind_some] at hnw ⊢
    cases hr : renamesGet ρ dn.1 dn.2 with
    | none => exact makePatches_miss hr
    | some n =>
      rw [makePatches_hit hr (hnw n hr ▸ hnew) h1, h2, ← Int.natCast_add, hsl]

/-- What `_prepare_formula_renames` builds from the occurrences in text order are the patches of the pieces
    (`A`: the text before them). -/
theorem makePatches_occs (ρ : Ren) (hnew : ρ.new ≠ []) (f : Str) : ∀ (toks : List Tok) (triv : List Str) (A : Str),
    (∀ tk ∈ toks, TokOk tk ∧ NameNe tk) → f = A ++ srcOf (renderPieces ρ triv toks) →
    makePatches ρ f (occs A.length triv toks) = patchesFrom A.length (renderPieces ρ triv toks)
  | [], _, _, _, _ => rfl
  | tk :: tks, triv, A, hok, hf => by
    obtain ⟨hk, hn⟩ := hok tk List.mem_cons_self
    have ih := makePatches_occs ρ hnew f tks triv.tail (A ++ (tokPiece ρ (triv.headD []) tk).src)
      (fun x hx => hok x (List.mem_cons_of_mem _ hx)) (by rw [hf, renderPieces, srcOf, List.append_assoc])
    have hsl := slice_mid (A ++ triv.headD []) tk.text (srcOf (renderPieces ρ triv.tail tks))
    rw [show A ++ triv.headD [] ++ tk.text ++ srcOf (renderPieces ρ triv.tail tks) = f by
      simp [hf, renderPieces, srcOf, tokPiece, Piece.src]] at hsl
    simp only [tokPiece, Piece.src, List.length_append, List.append_nil, ← Nat.add_assoc] at ih hsl
    rw [occs, renderPieces, patchesFrom, makePatches_append, ih]
    exact congr (congrArg _ (makePatches_tok ρ hnew f (triv.headD []) A.length hk hn hsl))
      (by simp only [tokPiece, Piece.src, List.length_append, List.append_nil, Nat.add_assoc])

end Grist.FormulaRename
