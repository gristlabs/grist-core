/-
C25: the insertion-ordered dicts of GristModel/Lenient.lean.  Every `TableDataSet` action does one of
four things to a dict keyed by table id (`Dict.Op`: alter an entry, put one, delete one, move one);
an `Op` commutes with a key filter that keeps its keys and is invisible to one that drops them.  The
schema projection of a run, the split into metadata and user tables and the frame all follow from that.
-/
import GristModel.Lenient
namespace Grist.Doc

namespace Dict
variable {α : Type}

/-- keep the entries whose key satisfies `p` -/
def fk (p : String → Bool) (s : Dict α) : Dict α := s.filter (fun e => p e.1)

theorem get?_nil (k : String) : Dict.get? ([] : Dict α) k = none := rfl

theorem get?_cons (e : String × α) (s : Dict α) (k : String) :
    Dict.get? (e :: s) k = if k = e.1 then some e.2 else Dict.get? s k := by
  obtain ⟨a, b⟩ := e
  by_cases h : k = a
  · subst h
    simp [Dict.get?, List.lookup]
  · have : (k == a) = false := by simpa using h
    simp [Dict.get?, List.lookup, this, h]

theorem has_cons (e : String × α) (s : Dict α) (k : String) :
    Dict.has (e :: s) k = (decide (e.1 = k) || Dict.has s k) := by
  simp only [Dict.has, List.any_cons]
  by_cases h : e.1 = k <;> simp [h]

theorem has_eq (s : Dict α) (k : String) : s.has k = (s.get? k).isSome := by
  induction s with
  | nil => rfl
  | cons e s ih =>
    rw [get?_cons, has_cons, ih]
    by_cases h : e.1 = k
    · simp [h]
    · have h' : ¬ k = e.1 := fun h' => h h'.symm
      simp [h, h']

theorem get?_isSome_has {s : Dict α} {k : String} {v : α} (h : s.get? k = some v) : s.has k = true := by
  rw [has_eq, h]
  rfl

/-- the "key already present" branch of `set` -/
def replace (k : String) (v : α) (s : Dict α) : Dict α :=
  s.map (fun e => if e.1 == k then (k, v) else e)

theorem set_eq (s : Dict α) (k : String) (v : α) :
    s.set k v = if s.has k then replace k v s else s ++ [(k, v)] := rfl

theorem replace_cons (k : String) (v : α) (e : String × α) (s : Dict α) :
    replace k v (e :: s) = (if e.1 = k then (k, v) else e) :: replace k v s := by
  by_cases h : e.1 = k <;> simp [replace, h]

/-- `(d[k] = v)[k]` -/
theorem get?_set_self (s : Dict α) (k : String) (v : α) : Dict.get? (s.set k v) k = some v := by
  rw [set_eq]
  induction s with
  | nil => simp [Dict.has, get?_cons]
  | cons e s ih =>
    rw [has_cons]
    by_cases he : e.1 = k
    · simp [he, replace_cons, get?_cons]
    · have he' : ¬ k = e.1 := fun h => he h.symm
      simp only [he, decide_false, Bool.false_or]
      split <;> rename_i hs <;> simp only [hs, ↓reduceIte] at ih
      · rw [replace_cons, if_neg he, get?_cons, if_neg he']
        exact ih
      · rw [List.cons_append, get?_cons, if_neg he']
        exact ih

/-! a key filter against `get?`, `has`, `set`, `erase` -/

theorem get?_fk_pos (p : String → Bool) (s : Dict α) (k : String) (h : p k = true) :
    Dict.get? (fk p s) k = Dict.get? s k := by
  induction s with
  | nil => rfl
  | cons e s ih =>
    unfold fk at ih ⊢
    rw [List.filter_cons]
    by_cases hp : p e.1 = true
    · rw [if_pos hp, get?_cons, get?_cons, ih]
    · rw [if_neg hp, ih, get?_cons, if_neg (fun hk => hp (by rw [← hk]; exact h))]

theorem has_fk_pos (p : String → Bool) (s : Dict α) (k : String) (h : p k = true) :
    Dict.has (fk p s) k = Dict.has s k := by
  rw [has_eq, has_eq, get?_fk_pos p s k h]

theorem fk_replace (p : String → Bool) (s : Dict α) (k : String) (v : α) :
    fk p (replace k v s) = replace k v (fk p s) := by
  unfold fk replace
  rw [List.filter_map]
  congr 2
  funext e
  by_cases he : e.1 = k <;> simp [he]

theorem set_fk_pos (p : String → Bool) (s : Dict α) (k : String) (v : α) (h : p k = true) :
    fk p (s.set k v) = (fk p s).set k v := by
  rw [set_eq, set_eq, has_fk_pos p s k h]
  split
  · exact fk_replace p s k v
  · simp [fk, h]

theorem set_fk_neg (p : String → Bool) (s : Dict α) (k : String) (v : α) (h : p k = false) :
    fk p (s.set k v) = fk p s := by
  rw [set_eq]
  split
  · rw [fk_replace, replace]
    refine (List.map_congr_left fun e he => ?_).trans (List.map_id _)
    have : e.1 ≠ k := fun hk => by simpa [hk, h] using (List.mem_filter.1 he).2
    simp [this]
  · simp [fk, h]

theorem erase_fk (p : String → Bool) (s : Dict α) (k : String) :
    fk p (s.erase k) = (fk p s).erase k := by
  simp only [fk, Dict.erase, List.filter_filter]
  congr 1
  funext e
  exact Bool.and_comm _ _

theorem erase_fk_neg (p : String → Bool) (s : Dict α) (k : String) (h : p k = false) :
    fk p (s.erase k) = fk p s := by
  simp only [fk, Dict.erase, List.filter_filter]
  apply List.filter_congr
  intro e _
  by_cases he : e.1 = k
  · rw [he, h]
    rfl
  · have : (e.1 == k) = false := by simpa using he
    simp [this]

/-! ### the four things an action does to a dict -/

inductive Op (α : Type) where
  | keep
  /-- `d[k] = f(d[k])` -/
  | alter (k : String) (f : α → Except String α)
  /-- `d[k] = v` -/
  | put (k : String) (v : α)
  /-- `del d[k]` -/
  | del (k : String)
  /-- `d[new] = d.pop(old)` -/
  | move (old new : String)

def Op.keys : Op α → List String
  | .keep => []
  | .alter k _ | .put k _ | .del k => [k]
  | .move old new => [old, new]

def Op.run : Op α → Dict α → Except String (Dict α)
  | .keep, s => .ok s
  | .alter k f, s =>
    match s.get? k with
    | none => .error "KeyError"
    | some v => (f v).map (s.set k)
  | .put k v, s => .ok (s.set k v)
  | .del k, s => if s.has k then .ok (s.erase k) else .error "KeyError"
  | .move old new, s =>
    match s.get? old with
    | none => .error "KeyError"
    | some v => .ok ((s.erase old).set new v)

/-- a filter that keeps the keys of `op` commutes with it -/
theorem Op.run_fk_inside (op : Op α) (p : String → Bool) (h : ∀ k ∈ op.keys, p k = true)
    (s : Dict α) : op.run (fk p s) = (op.run s).map (fk p) := by
  cases op with
  | keep => rfl
  | alter k f =>
    have hk := h k (.head _)
    simp only [Op.run, get?_fk_pos p s k hk]
    cases s.get? k with
    | none => rfl
    | some v =>
      simp only
      generalize f v = r
      cases r <;> simp [Except.map, set_fk_pos p s k _ hk]
  | put k v => simp [Op.run, Except.map, set_fk_pos p s k v (h k (.head _))]
  | del k =>
    simp only [Op.run, has_fk_pos p s k (h k (.head _))]
    split <;> simp [Except.map, erase_fk]
  | move old new =>
    simp only [Op.run, get?_fk_pos p s old (h old (.head _))]
    cases s.get? old with
    | none => rfl
    | some v => simp [Except.map, set_fk_pos p _ new v (h new (.tail _ (.head _))), erase_fk]

/-- `s'` differs from `s` at most under the keys `K`: no filter that drops `K` tells them apart -/
def SameOff (K : List String) (s s' : Dict α) : Prop :=
  ∀ p : String → Bool, (∀ k ∈ K, p k = false) → fk p s' = fk p s

theorem SameOff.refl (K : List String) (s : Dict α) : SameOff K s s := fun _ _ => rfl

theorem SameOff.set {K : List String} {s s' : Dict α} (h : SameOff K s s') {k : String} (hk : k ∈ K)
    (v : α) : SameOff K s (s'.set k v) :=
  fun p hp => (set_fk_neg p s' k v (hp k hk)).trans (h p hp)

theorem SameOff.erase {K : List String} {s s' : Dict α} (h : SameOff K s s') {k : String}
    (hk : k ∈ K) : SameOff K s (s'.erase k) :=
  fun p hp => (erase_fk_neg p s' k (hp k hk)).trans (h p hp)

theorem SameOff.mono {K K' : List String} {s s' : Dict α} (h : SameOff K s s')
    (hK : ∀ k ∈ K, k ∈ K') : SameOff K' s s' :=
  fun p hp => h p fun k hk => hp k (hK k hk)

/-- the entries under other keys stay -/
theorem SameOff.get? {K : List String} {s s' : Dict α} (h : SameOff K s s') {u : String}
    (hu : u ∉ K) : s'.get? u = s.get? u := by
  have := h (fun k => k == u) fun k hk => beq_false_of_ne fun e => hu (e ▸ hk)
  rw [← get?_fk_pos (fun k => k == u) s' u (beq_self_eq_true u), this,
    get?_fk_pos (fun k => k == u) s u (beq_self_eq_true u)]

/-- a filter that drops the keys of `op` does not see it -/
theorem Op.run_sameOff (op : Op α) {s s' : Dict α} (hr : op.run s = .ok s') :
    SameOff op.keys s s' := by
  cases op with
  | keep =>
    cases hr
    exact .refl _ _
  | alter k f =>
    simp only [Op.run] at hr
    split at hr
    · cases hr
    · cases hf : f _ with
      | error e =>
        rw [hf] at hr
        cases hr
      | ok w =>
        rw [hf] at hr
        cases hr
        exact (SameOff.refl _ _).set (.head _) w
  | put k v =>
    cases hr
    exact (SameOff.refl _ _).set (.head _) v
  | del k =>
    simp only [Op.run] at hr
    split at hr
    · cases hr
      exact (SameOff.refl _ _).erase (.head _)
    · cases hr
  | move old new =>
    simp only [Op.run] at hr
    split at hr
    · cases hr
    · cases hr
      exact ((SameOff.refl _ _).erase (.head _)).set (.tail _ (.head _)) _

/-- `(d[k] = v)[u]` for `u ≠ k` -/
theorem get?_set_ne (s : Dict α) (k u : String) (v : α) (h : u ≠ k) :
    Dict.get? (s.set k v) u = Dict.get? s u :=
  ((SameOff.refl [k] s).set (.head _) v).get? (by simpa using h)

theorem get?_erase_ne (s : Dict α) (k u : String) (h : u ≠ k) :
    Dict.get? (s.erase k) u = Dict.get? s u :=
  ((SameOff.refl [k] s).erase (.head _)).get? (by simpa using h)

end Dict

theorem metaOf_eq_fk (s : SDoc) : metaOf s = Dict.fk isMetaTable s := rfl

/-! ### what an action does to `_schema` and to `all_tables` -/

/-- `_schema` is a dict of dicts: column actions alter the table's entry (itself by an `Op` on the
    columns where it is one), table actions put, delete or move an entry -/
def LAction.schemaOp : LAction → Dict.Op (Dict ColInfo)
  | .addColumn t c info => .alter t fun sc => .ok (sc.set c info)
  | .removeColumn t c => .alter t fun sc => .ok (sc.erase c)
  | .renameColumn t old new => .alter t (Dict.Op.move old new).run
  | .modifyColumn t c p => .alter t (Dict.Op.alter c fun ci => .ok (ci.update p)).run
  | .addTable t cols => .put t (schemaOfCols cols)
  | .removeTable t => .del t
  | .renameTable old new => .move old new
  | _ => .keep

theorem applySchemaLenient_eq (s : SDoc) (a : LAction) :
    applySchemaLenient s a = a.schemaOp.run s := by
  cases a with
  | addColumn t c info | removeColumn t c | renameTable t c =>
    simp only [applySchemaLenient, LAction.schemaOp, Dict.Op.run]
    cases s.get? t <;> rfl
  | renameColumn t old new =>
    simp only [applySchemaLenient, LAction.schemaOp, Dict.Op.run]
    cases s.get? t with
    | none => rfl
    | some sc =>
      dsimp only
      cases sc.get? old <;> rfl
  | modifyColumn t c p =>
    simp only [applySchemaLenient, LAction.schemaOp, Dict.Op.run]
    cases s.get? t with
    | none => rfl
    | some sc =>
      dsimp only
      cases sc.get? c <;> rfl
  | _ => rfl

theorem LAction.schemaOp_keys (a : LAction) : ∀ k ∈ a.schemaOp.keys, k ∈ a.targets := by
  cases a <;> first | exact fun _ h => h | exact fun _ h => nomatch h

theorem lBulkAdd_ok {d d' : LDoc} {t rows cols} (h : lBulkAdd d t rows cols = .ok d') :
    d'.schema = d.schema ∧ ∃ td, d'.allTables = d.allTables.set t td := by
  unfold lBulkAdd at h
  split at h
  · cases h
  · split at h
    · cases h
    · cases h
      exact ⟨rfl, _, rfl⟩

theorem lBulkUpdate_schema {d d' : LDoc} {t rows cols} (h : lBulkUpdate d t rows cols = .ok d') :
    d'.schema = d.schema := by
  unfold lBulkUpdate at h
  split at h
  · cases h
  · split at h
    · cases h
    · split at h
      · cases h
      · cases h
        rfl

/-- One successful step: `_schema` changes as `applySchemaLenient` says, from the schema alone;
    `all_tables` changes at most under the table ids the action names. -/
theorem applyL_ok {d d' : LDoc} {a : LAction} (h : applyL d a = .ok d') :
    applySchemaLenient d.schema a = .ok d'.schema ∧
      Dict.SameOff a.targets d.allTables d'.allTables := by
  have here := Dict.SameOff.refl a.targets d.allTables
  cases a with
  | bulkAdd t rows cols =>
    obtain ⟨hs, td, ht⟩ := lBulkAdd_ok h
    exact ⟨hs ▸ rfl, ht ▸ here.set (.head _) td⟩
  | bulkRemove t rows =>
    simp only [applyL, lBulkRemove] at h
    split at h
    · cases h
    · cases h
      exact ⟨rfl, here.set (.head _) _⟩
  | bulkUpdate t rows cols =>
    refine ⟨lBulkUpdate_schema h ▸ rfl, ?_⟩
    simp only [applyL, lBulkUpdate] at h
    split at h
    · cases h
    · split at h
      · cases h
      · split at h
        · cases h
        · cases h
          exact here.set (.head _) _
  | replaceData t rows cols =>
    simp only [applyL, lReplaceData] at h
    split at h
    · cases h
    · obtain ⟨hs, td, ht⟩ := lBulkAdd_ok h
      exact ⟨hs ▸ rfl, ht ▸ (here.set (.head _) _).set (.head _) td⟩
  | addColumn t c info | removeColumn t c =>
    simp only [applyL] at h
    split at h
    · cases h
    · split at h
      · cases h
      · cases h
        exact ⟨by simp only [applySchemaLenient, *], here.set (.head _) _⟩
  | renameColumn t old new =>
    simp only [applyL] at h
    split at h
    · cases h
    · split at h
      · cases h
      · split at h
        · cases h
        · split at h
          · cases h
          · cases h
            exact ⟨by simp only [applySchemaLenient, *], here.set (.head _) _⟩
  | modifyColumn t c p =>
    simp only [applyL] at h
    split at h
    · cases h
    · split at h
      · cases h
      · cases h
        exact ⟨by simp only [applySchemaLenient, *], here⟩
  | addTable t cols =>
    cases h
    exact ⟨rfl, here.set (.head _) _⟩
  | removeTable t =>
    simp only [applyL] at h
    split at h
    · split at h
      · cases h
        exact ⟨by simp only [applySchemaLenient, *, if_true], here.erase (.head _)⟩
      · cases h
    · cases h
  | renameTable old new =>
    simp only [applyL] at h
    split at h
    · cases h
    · split at h
      · cases h
      · cases h
        exact ⟨by simp only [applySchemaLenient, *], (here.erase (.head _)).set (.tail _ (.head _)) _⟩

theorem applyL_schema {d d' : LDoc} {a : LAction} (h : applyL d a = .ok d') :
    applySchemaLenient d.schema a = .ok d'.schema := (applyL_ok h).1

/-- One step leaves every table it does not name exactly as it was (data and schema). -/
theorem applyL_frame {d d' : LDoc} {a : LAction} {u : String} (h : applyL d a = .ok d')
    (hu : u ∉ a.targets) :
    d'.allTables.get? u = d.allTables.get? u ∧ d'.schema.get? u = d.schema.get? u := by
  obtain ⟨hs, ht⟩ := applyL_ok h
  rw [applySchemaLenient_eq] at hs
  exact ⟨ht.get? hu, ((a.schemaOp.run_sameOff hs).mono a.schemaOp_keys).get? hu⟩

theorem runL_schema {d d' : LDoc} {as : List LAction} (h : runL d as = .ok d') :
    runSchema d.schema as = .ok d'.schema := by
  induction as generalizing d with
  | nil =>
    simp only [runL] at h
    cases h
    rfl
  | cons a rest ih =>
    simp only [runL] at h
    split at h
    · cases h
    · rename_i d1 h1
      simp only [runSchema, applyL_schema h1]
      exact ih h

theorem LAction.isSchema_of_key {a : LAction} {k : String} (hk : k ∈ a.schemaOp.keys) :
    a.isSchema = true := by
  cases a <;> first | rfl | nomatch hk

/-! ### a key filter against a run -/

/-- The part of the schema inside `p` evolves by the actions `keep` selects alone, provided those
    touch only keys inside `p` and the others only keys outside. -/
theorem runSchema_fk (p : String → Bool) (keep : LAction → Bool) {s s' : SDoc} {as : List LAction}
    (hk : ∀ a ∈ as, ∀ k ∈ a.schemaOp.keys, p k = keep a) (h : runSchema s as = .ok s') :
    runSchema (Dict.fk p s) (as.filter keep) = .ok (Dict.fk p s') := by
  induction as generalizing s with
  | nil =>
    cases h
    rfl
  | cons a rest ih =>
    simp only [runSchema] at h
    split at h
    · cases h
    · rename_i s1 h1
      have hrest := ih (fun b hb => hk b (List.mem_cons_of_mem _ hb)) h
      have ha := hk a List.mem_cons_self
      rw [applySchemaLenient_eq] at h1
      cases hm : keep a with
      | true =>
        have := a.schemaOp.run_fk_inside p (fun k hk => (ha k hk).trans hm) s
        rw [h1] at this
        simp only [List.filter_cons, hm, if_true, runSchema, applySchemaLenient_eq, this, Except.map]
        exact hrest
      | false =>
        simp only [List.filter_cons, hm, Bool.false_eq_true, if_false]
        rw [← a.schemaOp.run_sameOff h1 p fun k hk => (ha k hk).trans hm]
        exact hrest

/-- record actions can be dropped: the schema run only sees the schema-action subsequence -/
theorem runSchema_filter {s s' : SDoc} {as : List LAction} (h : runSchema s as = .ok s') :
    runSchema s (as.filter LAction.isSchema) = .ok s' := by
  have e : ∀ s : SDoc, Dict.fk (fun _ => true) s = s := fun s => List.filter_eq_self.2 fun _ _ => rfl
  have := runSchema_fk (fun _ => true) LAction.isSchema
    (fun a _ k hk => (LAction.isSchema_of_key hk).symm) h
  rwa [e, e] at this

/-- A run in which every action names only metadata tables or only user tables: the metadata part
    of the schema evolves by the metadata schema actions alone. -/
theorem runSchema_meta {s s' : SDoc} {as : List LAction}
    (hsep : ∀ a ∈ as, a.targetsMeta = true ∨ a.targetsUser = true)
    (h : runSchema s as = .ok s') :
    runSchema (metaOf s) (as.filter fun a => a.isSchema && a.targetsMeta) = .ok (metaOf s') := by
  refine runSchema_fk isMetaTable _ (fun a ha k hk => ?_) h
  have hkt := a.schemaOp_keys k hk
  rw [LAction.isSchema_of_key hk, Bool.true_and]
  rcases hsep a ha with hm | hu
  · rw [hm]
    exact List.all_eq_true.1 hm k hkt
  · have hku : isMetaTable k = false := by simpa using List.all_eq_true.1 hu k hkt
    rw [hku]
    exact (List.all_eq_false.2 ⟨k, hkt, by simp [hku]⟩).symm

end Grist.Doc
