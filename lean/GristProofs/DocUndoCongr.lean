/-
On `Same` well-formed documents an action succeeds on both, gives `Same` documents, and undo lists that
agree up to the order of per-column entries (`UndoEqv`): `post_congr`, from `TPost.congr` at the table.
On well-formed tables `Table.Same` means the same columns in some order (`Table.Same.cols_perm`).
-/
import GristProofs.DocUndoSingle
namespace Grist.Doc

theorem Same.find_some {d1 d2 : Doc} (h : Same d1 d2) {t : String} {tb1 : Table}
    (hf : findTable? d1 t = some tb1) : ∃ tb2, findTable? d2 t = some tb2 ∧ Table.Same tb1 tb2 := by
  have := (same_iff _ _).1 h t
  rw [hf] at this
  exact this.left_some

theorem Same.find_none {d1 d2 : Doc} (h : Same d1 d2) {t : String}
    (hf : findTable? d1 t = none) : findTable? d2 t = none := by
  have := (same_iff _ _).1 h t
  rw [hf] at this
  exact this.left_none

theorem Table.Same.col_some {tb1 tb2 : Table} (h : Table.Same tb1 tb2) {c : String} {c1 : Col}
    (hc : tb1.findCol? c = some c1) : ∃ c2, tb2.findCol? c = some c2 ∧ Col.SameOn tb1.rows c1 c2 := by
  have := ((tableSame_iff _ _).1 h).2 c
  rw [hc] at this
  exact this.left_some

theorem Table.Same.col_none {tb1 tb2 : Table} (h : Table.Same tb1 tb2) {c : String}
    (hc : tb1.findCol? c = none) : tb2.findCol? c = none := by
  have := ((tableSame_iff _ _).1 h).2 c
  rw [hc] at this
  exact this.left_none

theorem Table.Same.hasCol_eq {tb1 tb2 : Table} (h : Table.Same tb1 tb2) (c : String) :
    tb1.hasCol c = tb2.hasCol c := by
  have := ((tableSame_iff _ _).1 h).2 c
  unfold Table.hasCol
  cases h1 : tb1.findCol? c <;> cases h2 : tb2.findCol? c <;> simp [h1, h2] at this ⊢

theorem tableSame_map2 {tb1 tb2 tb1' tb2' : Table} (hs : Table.Same tb1 tb2) (F1 F2 : Col → Col)
    (hid1 : ∀ x, (F1 x).id = x.id) (hid2 : ∀ x, (F2 x).id = x.id)
    (hc1 : tb1'.cols = tb1.cols.map F1) (hc2 : tb2'.cols = tb2.cols.map F2)
    (hr : tb1'.rows = tb2'.rows)
    (h : ∀ c x y, tb1.findCol? c = some x → tb2.findCol? c = some y → Col.SameOn tb1.rows x y →
      Col.SameOn tb1'.rows (F1 x) (F2 y)) :
    Table.Same tb1' tb2' := by
  rw [tableSame_iff]
  refine ⟨hr, fun c => ?_⟩
  have e1 : tb1'.findCol? c = (tb1.findCol? c).map F1 := by
    unfold Table.findCol?
    rw [hc1]
    exact find_key_map Col.id F1 hid1
  have e2 : tb2'.findCol? c = (tb2.findCol? c).map F2 := by
    unfold Table.findCol?
    rw [hc2]
    exact find_key_map Col.id F2 hid2
  rw [e1, e2]
  have := ((tableSame_iff _ _).1 hs).2 c
  cases h1 : tb1.findCol? c <;> cases h2 : tb2.findCol? c <;> simp [h1, h2] at this ⊢
  exact h c _ _ h1 h2 this

theorem Table.Same.written {tb1 tb2 : Table} (hs : Table.Same tb1 tb2) (rows : List Nat)
    (cols : List (String × List Val)) : Table.Same (tb1.written rows cols) (tb2.written rows cols) := by
  apply tableSame_map2 (tb1' := tb1.written rows cols) (tb2' := tb2.written rows cols) hs
    (Col.written rows cols) (Col.written rows cols) (fun _ => by dsimp only [Col.written])
    (fun _ => by dsimp only [Col.written]) rfl rfl hs.1
  intro c x y hx hy hsame
  have hxy : x.id = y.id := (findCol?_some hx).1.trans (findCol?_some hy).1.symm
  refine ⟨hsame.1, fun r hr => ?_⟩
  simp only [Col.written, hxy, hsame.1]
  exact writeCells_congr_at _ _ _ _ _ _ (hsame.2 r hr)

theorem Table.Same.addRows {tb1 tb2 : Table} (hs : Table.Same tb1 tb2) (h1 : tb1.WF) (h2 : tb2.WF)
    (rows : List Nat) :
    Table.Same { tb1 with rows := insertRows rows tb1.rows }
      { tb2 with rows := insertRows rows tb2.rows } := by
  apply tableSame_map2 (tb1' := { tb1 with rows := insertRows rows tb1.rows })
    (tb2' := { tb2 with rows := insertRows rows tb2.rows }) hs (fun x => x) (fun x => x)
    (fun _ => rfl) (fun _ => rfl) (by simp) (by simp)
    (by show insertRows rows tb1.rows = insertRows rows tb2.rows; rw [hs.1])
  intro c x y hx hy hsame
  refine ⟨hsame.1, fun r _ => ?_⟩
  by_cases hr : r ∈ tb1.rows
  · exact hsame.2 r hr
  · have e1 := h1.2.2.2 x (findCol?_some hx).2 r hr
    have e2 := h2.2.2.2 y (findCol?_some hy).2 r (by rw [← hs.1]; exact hr)
    show x.cells r = y.cells r
    rw [e1, e2, hsame.1]

theorem Table.Same.congr_id {a b : Table} (h : Table.Same a b) (k k' : String) :
    Table.Same { a with id := k } { b with id := k' } := by
  rw [tableSame_iff] at h ⊢
  exact h

theorem Table.Same.removeRows {tb1 tb2 : Table} (hs : Table.Same tb1 tb2) (rows' : List Nat) :
    Table.Same (tb1.removeRows rows') (tb2.removeRows rows') := by
  apply tableSame_map2 (tb1' := tb1.removeRows rows') (tb2' := tb2.removeRows rows') hs
    (Col.unsetRows rows') (Col.unsetRows rows') (fun _ => by dsimp only [Col.unsetRows])
    (fun _ => by dsimp only [Col.unsetRows]) rfl rfl
    (by simp only [Table.removeRows]; rw [hs.1])
  intro c x y _ _ hsame
  refine ⟨hsame.1, fun r hr => ?_⟩
  have hr1 : r ∈ tb1.rows := (List.mem_filter.1 hr).1
  simp only [Col.unsetRows, hsame.1, hsame.2 r hr1]

theorem Table.Same.cleared {tb1 tb2 : Table} (hs : Table.Same tb1 tb2) (rows : List Nat) :
    Table.Same (tb1.cleared rows) (tb2.cleared rows) := by
  apply tableSame_map2 (tb1' := tb1.cleared rows) (tb2' := tb2.cleared rows) hs
    Col.clear Col.clear (fun _ => by dsimp only [Col.clear]) (fun _ => by dsimp only [Col.clear])
    rfl rfl rfl
  intro c x y _ _ hsame
  refine ⟨hsame.1, fun r _ => ?_⟩
  simp only [Col.clear, hsame.1]

theorem Table.Same.addCol {tb1 tb2 : Table} (hs : Table.Same tb1 tb2) (col : Col) :
    Table.Same { tb1 with cols := tb1.cols ++ [col] } { tb2 with cols := tb2.cols ++ [col] } := by
  rw [tableSame_iff] at hs ⊢
  refine ⟨hs.1, fun c => ?_⟩
  rw [findCol?_append_single, findCol?_append_single]
  exact ORel.or (hs.2 c) (ORel.ite_some _ (Col.SameOn.refl _ _))

theorem Table.Same.dropCol {tb1 tb2 : Table} (hs : Table.Same tb1 tb2) (c : String) :
    Table.Same { tb1 with cols := tb1.cols.filter (fun x => x.id != c) }
      { tb2 with cols := tb2.cols.filter (fun x => x.id != c) } := by
  rw [tableSame_iff] at hs ⊢
  refine ⟨hs.1, fun k => ?_⟩
  rw [findCol?_filter_ne, findCol?_filter_ne]
  exact ORel.ite _ (hs.2 k)

theorem Table.Same.swapCol {tb1 tb2 : Table} (hs : Table.Same tb1 tb2) (c : String) {col1 col2 : Col}
    (hid : col1.id = col2.id) (hso : Col.SameOn tb1.rows col1 col2) :
    Table.Same { tb1 with cols := tb1.cols.filter (fun x => x.id != c) ++ [col1] }
      { tb2 with cols := tb2.cols.filter (fun x => x.id != c) ++ [col2] } := by
  rw [tableSame_iff] at hs ⊢
  refine ⟨hs.1, fun k => ?_⟩
  rw [findCol?_swap, findCol?_swap, hid]
  exact ORel.or (ORel.ite _ (hs.2 k)) (ORel.ite_some _ hso)

/-- equality of doc actions up to the order of the column entries -/
inductive DocAction.Eqv : DocAction → DocAction → Prop
  | refl (a : DocAction) : DocAction.Eqv a a
  | bulkAdd (t : String) (rows : List Nat) {c1 c2 : List (String × List Val)} :
      c1.Perm c2 → DocAction.Eqv (.bulkAdd t rows c1) (.bulkAdd t rows c2)
  | replaceData (t : String) (rows : List Nat) {c1 c2 : List (String × List Val)} :
      c1.Perm c2 → DocAction.Eqv (.replaceData t rows c1) (.replaceData t rows c2)
  | addTable (t : String) {c1 c2 : List (String × ColInfo)} :
      c1.Perm c2 → DocAction.Eqv (.addTable t c1) (.addTable t c2)

inductive UndoEqv : List DocAction → List DocAction → Prop
  | nil : UndoEqv [] []
  | cons {a b : DocAction} {l1 l2 : List DocAction} :
      DocAction.Eqv a b → UndoEqv l1 l2 → UndoEqv (a :: l1) (b :: l2)

theorem UndoEqv.single {a b : DocAction} (h : DocAction.Eqv a b) :
    UndoEqv [a] [b] := .cons h .nil

theorem UndoEqv.refl (l : List DocAction) : UndoEqv l l := by
  induction l with
  | nil => exact .nil
  | cons a rest ih => exact .cons (.refl a) ih

theorem Table.Same.mem_cols {a b : Table} (hs : Table.Same a b) (ha : a.WF) (hb : b.WF) {x : Col}
    (hx : x ∈ a.cols) : x ∈ b.cols := by
  obtain ⟨y, hy, hso⟩ := hs.col_some (findCol?_of_mem ha.1 hx)
  obtain ⟨hid, hy⟩ := findCol?_some hy
  -- off the rows both columns hold the default of their common type
  have hc : x.cells = y.cells := funext fun r => by
    by_cases hr : r ∈ a.rows
    · exact hso.2 r hr
    · rw [ha.2.2.2 x hx r hr, hb.2.2.2 y hy r (hs.1 ▸ hr), hso.1]
  have : x = y := by
    cases x
    cases y
    cases hid
    cases hso.1
    cases hc
    rfl
  exact this ▸ hy

theorem nodup_of_map_key {α β : Type} (f : α → β) {l : List α} (h : (l.map f).Nodup) : l.Nodup :=
  List.Pairwise.of_map f (fun _ _ hne hab => hne (congrArg f hab)) h

theorem Table.Same.cols_perm {a b : Table} (hs : Table.Same a b) (ha : a.WF) (hb : b.WF) :
    a.cols.Perm b.cols :=
  (List.perm_ext_iff_of_nodup (nodup_of_map_key _ ha.1) (nodup_of_map_key _ hb.1)).2 fun _ =>
    ⟨hs.mem_cols ha hb, hs.symm.mem_cols hb ha⟩

theorem TPost.congr {tb1 tb2 : Table} {a : DocAction} {o1 : Option Table} {U1 : List DocAction}
    (hts : Table.Same tb1 tb2) (ht1 : tb1.WF) (ht2 : tb2.WF) (h : TPost tb1 a o1 U1) :
    ∃ o2 U2, TPost tb2 a o2 U2 ∧ Table.Same (o1.getD tb1) (o2.getD tb2) ∧ UndoEqv U1 U2 := by
  cases h with
  | @bulkAdd _ rows cols _ hno hw =>
    have hsa := hts.addRows ht1 ht2 (rows.filter (· != 0))
    obtain ⟨hk, rfl⟩ := (writeCols_ok_iff
      (tb := { tb1 with rows := insertRows (rows.filter (· != 0)) tb1.rows }) ht1.1).1 hw
    exact ⟨_, _, .bulkAdd (hts.1 ▸ hno) (writeCols_eq_written cols
      { tb2 with rows := insertRows (rows.filter (· != 0)) tb2.rows } rows ht2.1 fun cv hcv =>
        hsa.hasCol_eq _ ▸ hk cv hcv), hsa.written rows cols, .refl _⟩
  | bulkRemove_none he => exact ⟨none, _, .bulkRemove_none (hts.1 ▸ he), hts, .nil⟩
  | bulkRemove he =>
    refine ⟨_, _, .bulkRemove (hts.1 ▸ he), ?_, ?_⟩ <;> rw [← hts.1]
    · exact hts.removeRows _
    · exact .single (.bulkAdd _ _ (((hts.cols_perm ht1 ht2).filter _).map _))
  | @bulkUpdate _ rows cols _ hr hk hw =>
    obtain ⟨_, rfl⟩ := (writeCols_ok_iff ht1.1).1 hw
    have hk2 : ∀ cv ∈ cols, tb2.hasCol cv.1 = true := fun cv hcv => hts.hasCol_eq _ ▸ hk cv hcv
    have hu : tb1.updUndoVals rows cols = tb2.updUndoVals rows cols := by
      refine List.map_congr_left fun cv hcv => ?_
      obtain ⟨c1, hc1⟩ := hasCol_eq_true.1 (hk cv hcv)
      obtain ⟨c2, hc2, hso⟩ := hts.col_some hc1
      simp only [hc1, hc2]
      exact congrArg _ (List.map_congr_left fun r hr' => hso.2 r (hr r hr'))
    exact ⟨_, _, .bulkUpdate (hts.1 ▸ hr) hk2 (writeCols_eq_written cols _ rows ht2.1 hk2),
      hts.written rows cols, hu ▸ .refl _⟩
  | @replaceData _ rows cols _ hw =>
    have hnd : ∀ (tb : Table) (l : List Nat), (tb.cols.map (·.id)).Nodup →
        ((tb.cleared l).cols.map (·.id)).Nodup := fun tb l h => by
      simp only [Table.cleared, List.map_map]
      exact h
    obtain ⟨hk, rfl⟩ := (writeCols_ok_iff (hnd tb1 _ ht1.1)).1 hw
    have hsc := hts.cleared (insertRows (rows.filter (· != 0)) [])
    have hkn : cols.filter (fun cv => tb2.hasCol cv.1) = cols.filter (fun cv => tb1.hasCol cv.1) :=
      List.filter_congr fun cv _ => (hts.hasCol_eq _).symm
    refine ⟨_, _, .replaceData ?_, hsc.written rows _, ?_⟩
    · rw [hkn]
      exact writeCols_eq_written _ _ rows (hnd tb2 _ ht2.1) fun cv hcv =>
        hsc.hasCol_eq _ ▸ hk cv hcv
    · have hp : tb1.dataVals.Perm tb2.dataVals := by
        unfold Table.dataVals
        rw [← hts.1]
        exact ((hts.cols_perm ht1 ht2).filter _).map _
      rw [← hts.1]
      exact .single (.replaceData _ _ hp)
  | addColumn hc => exact ⟨_, _, .addColumn (hts.hasCol_eq _ ▸ hc), hts.addCol _, .refl _⟩
  | @removeColumn t c col1 hc =>
    obtain ⟨col2, hc2, hso⟩ := hts.col_some hc
    refine ⟨_, _, .removeColumn hc2, hts.dropCol c, ?_⟩
    -- the undo reads `col` only at the rows and through its info
    have : removeColUndoUpd t c tb2 col2 = removeColUndoUpd t c tb1 col1 := by
      have hnd : tb2.rows.filter (fun r => col2.cells r != typeDefault col1.info.type) =
          tb1.rows.filter (fun r => col1.cells r != typeDefault col1.info.type) := by
        rw [← hts.1]
        exact List.filter_congr fun r hr => by rw [hso.2 r hr]
      simp only [removeColUndoUpd, ← hso.1, hnd]
      rw [List.map_congr_left fun r hr => (hso.2 r (List.mem_filter.1 hr).1).symm]
    rw [this, ← hso.1]
    exact .refl _
  | @renameColumn _ old new col1 hc hn =>
    obtain ⟨col2, hc2, hso⟩ := hts.col_some hc
    exact ⟨_, _, .renameColumn hc2 (hts.hasCol_eq _ ▸ hn),
      hts.swapCol old (col1 := { col1 with id := new }) (col2 := { col2 with id := new }) rfl hso,
      .refl _⟩
  | modifyColumn_none hc he =>
    obtain ⟨col2, hc2, hso⟩ := hts.col_some hc
    exact ⟨none, _, .modifyColumn_none hc2 (hso.1 ▸ he), hts, .nil⟩
  | @modifyColumn _ c p col1 hc hne =>
    obtain ⟨col2, hc2, hso⟩ := hts.col_some hc
    refine ⟨_, _, .modifyColumn hc2 (hso.1 ▸ hne),
      hts.swapCol c (col1 := modCol tb1 col1 c p) (col2 := modCol tb2 col2 c p) rfl
        ⟨?_, fun r hr => ?_⟩, hso.1 ▸ .refl _⟩
    · simp only [modCol, hso.1]
    · simp only [modCol, ← hts.1, hso.1, hso.2 r hr]

theorem post_congr {d1 d2 : Doc} {a : DocAction} {D1 : Doc} {U1 : List DocAction}
    (hw1 : WF d1) (hw2 : WF d2) (hs : Same d1 d2) (h : Post d1 a D1 U1) :
    ∃ D2 U2, Post d2 a D2 U2 ∧ Same D1 D2 ∧ UndoEqv U1 U2 := by
  cases ha : a.table? with
  | some t =>
    obtain ⟨tb1, o1, hf1, hp1, rfl⟩ := (post_local ha).1 h
    obtain ⟨tb2, hf2, hts⟩ := hs.find_some hf1
    obtain ⟨o2, U2, hp2, hso, hu⟩ := hp1.congr hts (hw1.table hf1) (hw2.table hf2)
    refine ⟨_, U2, (post_local ha).2 ⟨tb2, o2, hf2, hp2, rfl⟩, (same_iff _ _).2 fun t' => ?_, hu⟩
    rw [findTable?_applyLocal hf1 (fun _ e => (e ▸ hp1).id.trans (findTable?_some hf1).1),
      findTable?_applyLocal hf2 (fun _ e => (e ▸ hp2).id.trans (findTable?_some hf2).1)]
    split
    · exact hso
    · exact (same_iff _ _).1 hs t'
  | none =>
    cases a with
    | addTable t cols =>
      obtain ⟨hf1, rfl, rfl⟩ := h
      have hf2 := hs.find_none hf1
      refine ⟨_, _, ⟨hf2, rfl, rfl⟩, ?_, .refl _⟩
      rw [same_iff] at hs ⊢
      intro t'
      rw [findTable?_append_single, findTable?_append_single]
      exact ORel.or (hs t') (ORel.ite_some _ (Table.Same.refl _))
    | removeTable t =>
      obtain ⟨tb1, hf1, rfl, rfl⟩ := h
      obtain ⟨tb2, hf2, hts⟩ := hs.find_some hf1
      have hperm := hts.cols_perm (hw1.table hf1) (hw2.table hf2)
      refine ⟨_, _, ⟨tb2, hf2, rfl, rfl⟩, ?_, ?_⟩
      · rw [same_iff] at hs ⊢
        intro t'
        rw [findTable?_filter_ne, findTable?_filter_ne]
        exact ORel.ite _ (hs t')
      · have hlast : UndoEqv [DocAction.addTable t (tb1.cols.map fun col => (col.id, col.info))]
            [DocAction.addTable t (tb2.cols.map fun col => (col.id, col.info))] :=
          .single (.addTable t (hperm.map _))
        simp only [removeTableDataUndo, ← hts.1]
        split
        · exact hlast
        · exact .cons (.bulkAdd t tb1.rows (hperm.map _)) hlast
    | renameTable old new =>
      obtain ⟨tb1, hf1, hn1, rfl, rfl⟩ := h
      obtain ⟨tb2, hf2, hts⟩ := hs.find_some hf1
      have hn2 := hs.find_none hn1
      refine ⟨_, _, ⟨tb2, hf2, hn2, rfl, rfl⟩, ?_, .refl _⟩
      rw [same_iff] at hs ⊢
      intro t'
      rw [findTable?_append_single, findTable?_append_single, findTable?_filter_ne,
        findTable?_filter_ne]
      exact ORel.or (ORel.ite _ (hs t')) (ORel.ite_some (new = t') (hts.congr_id new new))
    | _ => cases ha

end Grist.Doc
