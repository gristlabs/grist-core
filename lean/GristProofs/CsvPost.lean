/-
Lemmas about GristModel/CsvPost.lean (C32): bounds of `_count_nonempty`, width of the expanded
headers, what `plan` returns when the first row is not skipped, and the columns by index.
-/
import GristModel.CsvPost
namespace Grist.CsvPost

theorem countGo_spec : ∀ (r : Row) (i count : Nat), count ≤ i →
    count ≤ countGo i count r ∧ countGo i count r ≤ i + r.length ∧
    ∀ j t, r[j]? = some t → blank t = false → i + j + 1 ≤ countGo i count r := by
  intro r
  induction r with
  | nil =>
    intro i count h
    exact ⟨Nat.le_refl _, h, fun _ _ hj => nomatch hj⟩
  | cons c rest ih =>
    intro i count h
    rw [countGo, List.length_cons]
    obtain ⟨h1, h2, h3⟩ := ih (i + 1) (if !blank c then i + 1 else count) (by split <;> omega)
    refine ⟨Nat.le_trans (by split <;> omega) h1, by omega, fun j t hj ht => ?_⟩
    cases j with
    | zero =>
      cases hj
      rw [ht, Bool.not_false, if_pos rfl] at h1 ⊢
      exact h1
    | succ j =>
      have := h3 j t hj ht
      omega

theorem countGo_all_blank : ∀ (r : Row) (i count : Nat), (∀ c ∈ r, blank c = true) →
    countGo i count r = count := by
  intro r
  induction r with
  | nil =>
    intro i count _
    rfl
  | cons c rest ih =>
    intro i count h
    rw [countGo, h c List.mem_cons_self]
    exact ih _ _ fun x hx => h x (List.mem_cons_of_mem _ hx)

theorem lt_countNonempty {r : Row} {c : Nat} {t : Cell} (h : r[c]? = some t) (ht : blank t = false) :
    c < countNonempty r := by
  have := (countGo_spec r 0 0 (Nat.le_refl _)).2.2 c t h ht
  unfold countNonempty
  omega

theorem countNonempty_le_length (r : Row) : countNonempty r ≤ r.length := by
  have := (countGo_spec r 0 0 (Nat.le_refl _)).2.1
  unfold countNonempty
  omega

theorem exists_nonblank_of_countNonempty_pos {r : Row} (h : 0 < countNonempty r) :
    ∃ x ∈ r, blank x = false := by
  cases hall : r.all blank with
  | false =>
    obtain ⟨x, hx, hb⟩ := List.all_eq_false.mp hall
    exact ⟨x, hx, (Bool.not_eq_true _).mp hb⟩
  | true =>
    rw [countNonempty, countGo_all_blank r 0 0 (List.all_eq_true.mp hall)] at h
    exact absurd h (Nat.lt_irrefl 0)

theorem exists_dropWhile {α} (p : α → Bool) : ∀ (l : List α), (∃ x ∈ l, p x = false) →
    ∃ x ∈ l.dropWhile p, p x = false := by
  intro l
  induction l with
  | nil => exact fun ⟨_, hx, _⟩ => nomatch hx
  | cons a l ih =>
    intro ⟨x, hx, hp⟩
    simp only [List.dropWhile_cons]
    cases hpa : p a with
    | true =>
      simp only [if_true]
      apply ih
      rcases List.mem_cons.mp hx with rfl | hx'
      · rw [hp] at hpa
        cases hpa
      · exact ⟨x, hx', hp⟩
    | false => exact ⟨x, by simpa using hx, hp⟩

theorem strip_ne_nil {h : Cell} (hb : blank h = false) : strip h ≠ [] := by
  have h0 : ∃ x ∈ h, isSpace x = false := by
    simp only [blank, List.all_eq_false] at hb
    obtain ⟨x, hx, hp⟩ := hb
    exact ⟨x, hx, by simpa using hp⟩
  obtain ⟨x, hx, hp⟩ := exists_dropWhile isSpace h h0
  have h1 : ∃ y ∈ (h.dropWhile isSpace).reverse, isSpace y = false := ⟨x, by simpa using hx, hp⟩
  obtain ⟨y, hy, _⟩ := exists_dropWhile isSpace _ h1
  intro hs
  unfold strip at hs
  have : ((h.dropWhile isSpace).reverse.dropWhile isSpace) = [] := by simpa using hs
  rw [this] at hy
  cases hy

theorem ne_nil_of_not_blank {t : Cell} (ht : blank t = false) : t ≠ [] :=
  fun h => nomatch (h ▸ ht : blank [] = false)

theorem foldl_max_ge_init : ∀ (l : List Nat) (init : Nat), init ≤ l.foldl max init := by
  intro l
  induction l with
  | nil => exact fun init => Nat.le_refl init
  | cons a l ih => exact fun init => Nat.le_trans (Nat.le_max_left _ _) (ih (max init a))

theorem foldl_max_ge_mem : ∀ (l : List Nat) (init x : Nat), x ∈ l → x ≤ l.foldl max init := by
  intro l
  induction l with
  | nil => exact fun _ _ h => nomatch h
  | cons a l ih =>
    intro init x h
    simp only [List.foldl_cons]
    rcases List.mem_cons.mp h with rfl | h'
    · exact Nat.le_trans (Nat.le_max_right _ _) (foldl_max_ge_init _ _)
    · exact ih _ _ h'

theorem foldl_max_le : ∀ (l : List Nat) (init w : Nat), init ≤ w → (∀ x ∈ l, x ≤ w) →
    l.foldl max init ≤ w := by
  intro l
  induction l with
  | nil => exact fun _ _ h _ => h
  | cons a l ih =>
    intro init w h hl
    simp only [List.foldl_cons]
    apply ih
    · exact Nat.max_le.mpr ⟨h, hl a List.mem_cons_self⟩
    · exact fun x hx => hl x (List.mem_cons_of_mem _ hx)

theorem expandHeaders_length (hs : Row) (off : Nat) (S : List Row) :
    (expandHeaders hs off S).length = ((S.drop off).map countNonempty).foldl max hs.length := by
  have := foldl_max_ge_init ((S.drop off).map countNonempty) hs.length
  simp only [expandHeaders, List.length_append, List.length_map, List.length_replicate]
  omega

theorem expandHeaders_length_ge (hs : Row) (off : Nat) (S : List Row) :
    hs.length ≤ (expandHeaders hs off S).length := by
  rw [expandHeaders_length]
  exact foldl_max_ge_init _ _

theorem expandHeaders_covers (hs : Row) (off : Nat) (S : List Row) :
    ∀ ρ ∈ S.drop off, countNonempty ρ ≤ (expandHeaders hs off S).length := by
  intro ρ hρ
  rw [expandHeaders_length]
  exact foldl_max_ge_mem _ _ _ (List.mem_map_of_mem hρ)

theorem expandHeaders_covers_sample (r0 : Row) (S' : List Row) :
    ∀ ρ ∈ r0 :: S', countNonempty ρ ≤ (expandHeaders r0 1 (r0 :: S')).length := by
  intro ρ hρ
  rcases List.mem_cons.mp hρ with rfl | hρ'
  · exact Nat.le_trans (countNonempty_le_length _) (expandHeaders_length_ge ..)
  · exact expandHeaders_covers r0 1 (r0 :: S') ρ hρ'

theorem expandHeaders_getElem? (hs : Row) (off : Nat) (S : List Row) (c : Nat) (h : Cell)
    (hc : hs[c]? = some h) :
    (expandHeaders hs off S)[c]? = some (if h != [] then strip h else []) := by
  have hlt : c < hs.length := (List.getElem?_eq_some_iff.mp hc).1
  simp only [expandHeaders]
  rw [List.getElem?_append_left (by simpa using hlt)]
  simp [hc]

theorem replicate_nil_any (n : Nat) :
    (List.replicate n ([] : Cell)).any (fun h => h != []) = false := by
  induction n with
  | zero => rfl
  | succ n ih => simp [List.replicate_succ, ih]

theorem getElem?_filter_countP {α} (p : α → Bool) : ∀ (l : List α) (c : Nat) (x : α),
    l[c]? = some x → p x = true → (l.filter p)[(l.take c).countP p]? = some x := by
  intro l
  induction l with
  | nil => exact fun _ _ h => nomatch h
  | cons a l ih =>
    intro c x h hp
    cases c with
    | zero =>
      cases h
      rw [List.filter_cons_of_pos hp]
      rfl
    | succ c =>
      -- a kept head shifts both the filtered list and the count by one; a dropped head neither
      rw [List.take_succ_cons]
      by_cases hpa : p a = true
      · rw [List.filter_cons_of_pos hpa, List.countP_cons_of_pos hpa]
        exact ih c x h hp
      · rw [List.filter_cons_of_neg hpa, List.countP_cons_of_neg hpa]
        exact ih c x h hp

theorem find_first_of_le {r0 : Row} {S' : List Row}
    (h : columnCountModal (r0 :: S') ≤ countNonempty r0 + 1) :
    findFirstNonEmptyRow (r0 :: S') = (1, r0) := by
  simp [findFirstNonEmptyRow, findGo, h]

theorem headersGuess_of_find (isNum : Cell → Bool) {r0 : Row} {S' : List Row}
    (hf : findFirstNonEmptyRow (r0 :: S') = (1, r0)) :
    headersGuess isNum (r0 :: S') =
      if r0.isEmpty then (1, r0)
      else if isHeader isNum r0 S' then (1, expandHeaders r0 1 (r0 :: S'))
      else (0, expandHeaders [] 0 (r0 :: S')) := by
  unfold headersGuess
  rw [hf]
  by_cases he : r0.isEmpty = true
  · simp [he]
  · by_cases hh : isHeader isNum r0 S' = true <;> simp [he, hh]

theorem expandHeaders_nil_any (off : Nat) (S : List Row) :
    (expandHeaders [] off S).any (fun h => h != []) = false := by
  simp only [expandHeaders, List.map_nil, List.nil_append]
  exact replicate_nil_any _

/-- headers on: the first row is the header row, whatever `_is_header` says -/
theorem plan_incl (isNum : Cell → Bool) {r0 : Row} {S' : List Row}
    (hf : findFirstNonEmptyRow (r0 :: S') = (1, r0)) (rows : List Row)
    (hS : rows.take sampleLen = r0 :: S') :
    plan isNum true rows = (1, expandHeaders r0 1 (r0 :: S')) := by
  unfold plan
  simp only [hS, headersGuess_of_find isNum hf, hf]
  by_cases he : r0.isEmpty = true
  · have : r0 = [] := by simpa using he
    subst this
    simp
  · by_cases hh : isHeader isNum r0 S' = true
    · simp only [he, hh, if_true, Bool.false_eq_true, if_false, Bool.true_and, Bool.not_true,
        Bool.false_and]
      split <;> rfl
    · simp [he, hh, expandHeaders_nil_any]

/-- headers off and a first row with a non-empty cell: nothing is skipped, all headers are '' -/
theorem plan_noincl (isNum : Cell → Bool) {r0 : Row} {S' : List Row}
    (hf : findFirstNonEmptyRow (r0 :: S') = (1, r0)) (hpos : 0 < countNonempty r0)
    (rows : List Row) (hS : rows.take sampleLen = r0 :: S') :
    ∃ W, plan isNum false rows = (0, List.replicate W []) ∧
      ∀ ρ ∈ r0 :: S', countNonempty ρ ≤ W := by
  obtain ⟨x, hx, hxb⟩ := exists_nonblank_of_countNonempty_pos hpos
  have he : r0.isEmpty = false := by
    cases r0 with
    | nil => cases hx
    | cons _ _ => rfl
  unfold plan
  simp only [hS, headersGuess_of_find isNum hf]
  by_cases hh : isHeader isNum r0 S' = true
  · -- guessed headers are moved back to the data
    have hg : (expandHeaders r0 1 (r0 :: S')).any (fun h => h != []) = true := by
      rw [List.any_eq_true]
      obtain ⟨i, hi⟩ := List.getElem?_of_mem hx
      refine ⟨if x != [] then strip x else [], ?_, ?_⟩
      · exact List.mem_of_getElem? (expandHeaders_getElem? r0 1 (r0 :: S') i x hi)
      · have hxne : x ≠ [] := ne_nil_of_not_blank hxb
        simp [hxne, strip_ne_nil hxb]
    refine ⟨(expandHeaders r0 1 (r0 :: S')).length, ?_, ?_⟩
    · simp [he, hh, hg]
    · exact expandHeaders_covers_sample r0 S'
  · refine ⟨(expandHeaders [] 0 (r0 :: S')).length, ?_, ?_⟩
    · have hrep : expandHeaders [] 0 (r0 :: S') =
          List.replicate (expandHeaders [] 0 (r0 :: S')).length [] := by
        simp [expandHeaders]
      simp only [he, hh, Bool.false_eq_true, if_false, expandHeaders_nil_any, Bool.false_and,
        Bool.not_false, Bool.and_false]
      exact Prod.ext rfl hrep
    · exact expandHeaders_covers [] 0 (r0 :: S')

theorem allColumns_getElem? (isNum : Cell → Bool) (incl : Bool) (rows : List Row) (c : Nat)
    (h : Cell) (hc : (plan isNum incl rows).2[c]? = some h) :
    (allColumns isNum incl rows)[c]? =
      some ⟨h, (rows.drop (plan isNum incl rows).1).map
        (fun r => (tableRow (plan isNum incl rows).2.length r).getD c [])⟩ := by
  have hlt := (List.getElem?_eq_some_iff.mp hc).1
  rw [allColumns, List.getElem?_zipWith, hc, getTableData, List.getElem?_map,
    List.getElem?_range hlt]
  rfl

theorem allColumns_data_length (isNum : Cell → Bool) (incl : Bool) (rows : List Row) (col : Col)
    (hm : col ∈ allColumns isNum incl rows) :
    col.data.length = (rows.drop (plan isNum incl rows).1).length := by
  obtain ⟨i, hi⟩ := List.getElem?_of_mem hm
  have hlt : i < (plan isNum incl rows).2.length := by
    have := (List.getElem?_eq_some_iff.mp hi).1
    rw [allColumns, List.length_zipWith] at this
    omega
  rw [allColumns_getElem? isNum incl rows i _ (List.getElem?_eq_getElem hlt)] at hi
  cases hi
  exact List.length_map _

theorem tableRow_getElem? {n c : Nat} {ρ : Row} {t : Cell} (hc : ρ[c]? = some t) (hn : c < n) :
    (tableRow n ρ)[c]? = some t := by
  rw [tableRow, padRow, List.getElem?_take_of_lt hn,
    List.getElem?_append_left (List.getElem?_eq_some_iff.mp hc).1, hc]

end Grist.CsvPost
