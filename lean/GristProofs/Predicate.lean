/-
`convert` (TreeConverter): induction along its graph (`convert_induct`), the equations of `evalTree`
per node type, and from these `faithful`, `accepts_iff`, `jsonSafe_convert`.
-/
import GristModel.Predicate
namespace Grist.Predicate

theorem bind_ok {ε α β} {x : Except ε α} {f : α → Except ε β} {b : β} :
    (x >>= f) = .ok b ↔ ∃ a, x = .ok a ∧ f a = .ok b := by
  cases x <;> simp [bind, Except.bind]

theorem pure_ok {ε α} {a b : α} : (pure a : Except ε α) = .ok b ↔ a = b := by
  simp [pure, Except.pure]

theorem throw_ok {ε α} {e : ε} {a : α} : (throw e : Except ε α) = .ok a ↔ False := by
  simp [throw, throwThe, MonadExceptOf.throw]

theorem isOk_bind {ε α β} (x : Except ε α) (f : α → Except ε β) :
    (∃ b, (x >>= f) = .ok b) ↔ ∃ a, x = .ok a ∧ ∃ b, f a = .ok b := by
  simp only [bind_ok]
  exact ⟨fun ⟨b, a, hx, hf⟩ => ⟨a, hx, b, hf⟩, fun ⟨a, hx, b, hf⟩ => ⟨b, a, hx, hf⟩⟩

theorem isOk_pure {ε α} (a : α) : ∃ b, (pure a : Except ε α) = .ok b := ⟨a, rfl⟩

/-- One clause per node type of `TreeConverter`; `convert_induct` then gives `P e t` whenever
    `convert e = .ok t` (`PL`, `PK`: the same for argument and keyword lists). -/
structure ConvertClauses (P : PExpr → PTree → Prop) (PL : List PExpr → List PTree → Prop)
    (PK : List Keyword → List PTree → Prop) : Prop where
  boolOp : ∀ op vs ts, PL vs ts → P (.boolOp op vs) (node op.name ts)
  binOp : ∀ op n l r a b, op.name? = some n → P l a → P r b → P (.binOp op l r) (node n [a, b])
  not : ∀ e a, P e a → P (.unaryOp .not e) (node "Not" [a])
  compare : ∀ l op c a b, P l a → P c b → P (.compare l [op] [c]) (node op.name [a, b])
  namedConst : ∀ id c, namedConstant id = some c → P (.name id) (node "Const" [constTree c])
  name : ∀ id, namedConstant id = none → P (.name id) (node "Name" [.str id])
  dollar : ∀ x, P (.dollar x) (node "Attr" [node "Name" [.str "rec"], .str x])
  const : ∀ c, P (.const c) (node "Const" [constTree c])
  attr : ∀ e a t, P e t → P (.attr e a) (node "Attr" [t, .str a])
  list : ∀ es ts, PL es ts → P (.list es) (node "List" ts)
  tuple : ∀ es ts, PL es ts → P (.tuple es) (node "List" ts)
  call : ∀ f args kws fn as ks, convertList args = .ok as → convertKws kws = .ok ks →
    P f fn → PL args as → PK kws ks →
    P (.call f args kws) (node "Call" (fn :: (as ++ if kws.isEmpty then [] else [node "keywords" ks])))
  nil : PL [] []
  cons : ∀ e es t ts, convertList es = .ok ts → P e t → PL es ts → PL (e :: es) (t :: ts)
  knil : PK [] []
  kcons : ∀ arg v ks t ts, P v t → PK ks ts →
    PK (.mk arg v :: ks) (.list [match arg with | some s => .str s | none => .null, t] :: ts)

section
variable {P : PExpr → PTree → Prop} {PL : List PExpr → List PTree → Prop}
  {PK : List Keyword → List PTree → Prop}

mutual
theorem convert_induct (H : ConvertClauses P PL PK) :
    ∀ (e : PExpr) (t : PTree), convert e = .ok t → P e t
  | .boolOp op vs, t, h => by
    simp only [convert, bind_ok, pure_ok] at h
    obtain ⟨ts, hts, rfl⟩ := h
    exact H.boolOp _ _ _ (convertList_induct H vs ts hts)
  | .binOp op l r, t, h => by
    simp only [convert] at h
    cases hn : op.name? with
    | none => simp only [hn, throw_ok] at h
    | some n =>
      simp only [hn, bind_ok, pure_ok] at h
      obtain ⟨a, ha, b, hb, rfl⟩ := h
      exact H.binOp _ _ _ _ _ _ hn (convert_induct H l a ha) (convert_induct H r b hb)
  | .unaryOp op e, t, h => by
    cases op <;> simp only [convert, bind_ok, pure_ok, throw_ok] at h
    obtain ⟨a, ha, rfl⟩ := h
    exact H.not _ _ (convert_induct H e a ha)
  | .compare l [op] [c], t, h => by
    simp only [convert, bind_ok, pure_ok] at h
    obtain ⟨a, ha, b, hb, rfl⟩ := h
    exact H.compare _ _ _ _ _ (convert_induct H l a ha) (convert_induct H c b hb)
  | .compare l [] cs, t, h => by simp only [convert, throw_ok] at h
  | .compare l (_ :: _ :: _) cs, t, h => by simp only [convert, throw_ok] at h
  | .compare l [_] [], t, h => by simp only [convert, throw_ok] at h
  | .compare l [_] (_ :: _ :: _), t, h => by simp only [convert, throw_ok] at h
  | .name id, t, h => by
    simp only [convert] at h
    cases hc : namedConstant id <;> simp only [hc, pure_ok] at h <;> subst h
    · exact H.name _ hc
    · exact H.namedConst _ _ hc
  | .dollar x, t, h => by
    simp only [convert, pure_ok] at h
    subst h
    exact H.dollar x
  | .const c, t, h => by
    simp only [convert, pure_ok] at h
    subst h
    exact H.const c
  | .attr e a, t, h => by
    simp only [convert, bind_ok, pure_ok] at h
    obtain ⟨t', ht', rfl⟩ := h
    exact H.attr _ _ _ (convert_induct H e t' ht')
  | .list es, t, h => by
    simp only [convert, bind_ok, pure_ok] at h
    obtain ⟨ts, hts, rfl⟩ := h
    exact H.list _ _ (convertList_induct H es ts hts)
  | .tuple es, t, h => by
    simp only [convert, bind_ok, pure_ok] at h
    obtain ⟨ts, hts, rfl⟩ := h
    exact H.tuple _ _ (convertList_induct H es ts hts)
  | .call f args kws, t, h => by
    simp only [convert, bind_ok, pure_ok] at h
    obtain ⟨as, has, ks, hks, fn, hfn, rfl⟩ := h
    exact H.call _ _ _ _ _ _ has hks (convert_induct H f fn hfn) (convertList_induct H args as has)
      (convertKws_induct H kws ks hks)
  | .unsupported k cs, t, h => by simp only [convert, throw_ok] at h
theorem convertList_induct (H : ConvertClauses P PL PK) :
    ∀ (es : List PExpr) (ts : List PTree), convertList es = .ok ts → PL es ts
  | [], ts, h => by
    simp only [convertList, pure_ok] at h
    subst h
    exact H.nil
  | e :: es, ts, h => by
    simp only [convertList, bind_ok, pure_ok] at h
    obtain ⟨t, ht, ts', hts, rfl⟩ := h
    exact H.cons _ _ _ _ hts (convert_induct H e t ht) (convertList_induct H es ts' hts)
theorem convertKws_induct (H : ConvertClauses P PL PK) :
    ∀ (ks : List Keyword) (ts : List PTree), convertKws ks = .ok ts → PK ks ts
  | [], ts, h => by
    simp only [convertKws, pure_ok] at h
    subst h
    exact H.knil
  | .mk arg v :: ks, ts, h => by
    simp only [convertKws, bind_ok, pure_ok] at h
    obtain ⟨t, ht, ts', hts, rfl⟩ := h
    exact H.kcons _ _ _ _ _ (convert_induct H v t ht) (convertKws_induct H ks ts' hts)
end

end

/-- Every converted tree is `[tag, ...]`, and no node type is called "keywords". -/
theorem tag_clauses : ConvertClauses (fun _ t => ∃ tag args, t = node tag args ∧ tag ≠ "keywords")
    (fun _ ts => ∀ t ∈ ts, ∃ tag args, t = node tag args ∧ tag ≠ "keywords") (fun _ _ => True) where
  boolOp op _ _ _ := ⟨_, _, rfl, by cases op <;> decide⟩
  binOp op _ _ _ _ _ hn _ _ := ⟨_, _, rfl, by cases op <;> cases hn <;> decide⟩
  not _ _ _ := ⟨_, _, rfl, by decide⟩
  compare _ op _ _ _ _ _ := ⟨_, _, rfl, by cases op <;> decide⟩
  namedConst _ _ _ := ⟨_, _, rfl, by decide⟩
  name _ _ := ⟨_, _, rfl, by decide⟩
  dollar _ := ⟨_, _, rfl, by decide⟩
  const _ := ⟨_, _, rfl, by decide⟩
  attr _ _ _ _ := ⟨_, _, rfl, by decide⟩
  list _ _ _ := ⟨_, _, rfl, by decide⟩
  tuple _ _ _ := ⟨_, _, rfl, by decide⟩
  call _ _ _ _ _ _ _ _ _ _ _ := ⟨_, _, rfl, by decide⟩
  nil _ h := nomatch h
  cons _ _ _ _ _ h ih x hx := by
    rcases List.mem_cons.mp hx with rfl | hx
    · exact h
    · exact ih x hx
  knil := trivial
  kcons _ _ _ _ _ _ _ := trivial

theorem evalTree_node (ρ : Env) (tag : String) (args : List PTree) :
    evalTree ρ (.list (.str tag :: args)) =
    if tag = "And" then evalAndT ρ args
    else if tag = "Or" then evalOrT ρ args
    else if tag = "Const" then constNode args
    else if tag = "Name" then
      (match args with
      | [.str id] => ρ.lookup id
      | _ => throw eMalformed)
    else if tag = "Attr" then
      (match args with
      | [t, .str a] => do
        let v ← evalTree ρ t
        getAttr v a
      | _ => throw eMalformed)
    else if tag = "Comment" then
      (match args with
      | [t, .str _] => evalTree ρ t
      | _ => throw eMalformed)
    else if tag = "Call" then
      (match args with
      | f :: rest => do
        let fv ← evalTree ρ f
        let (vs, ks) ← evalCallArgs ρ rest
        applyCall fv vs ks
      | [] => throw eMalformed)
    else (do
      let vs ← evalTrees ρ args
      applyOp tag vs) := by
  conv => lhs; rw [evalTree.eq_def]
  rfl

/-- Positional arguments of a `Call` node are read back unambiguously: no converted tree has the
    head "keywords". -/
theorem evalCallArgs_append (ρ : Env) : ∀ (ts tail : List PTree),
    (∀ t ∈ ts, ∃ tag args, t = node tag args ∧ tag ≠ "keywords") →
    evalCallArgs ρ (ts ++ tail) = (do
      let vs ← evalTrees ρ ts
      let (ws, ks) ← evalCallArgs ρ tail
      pure (vs ++ ws, ks)) := by
  intro ts
  induction ts with
  | nil =>
    intro tail _
    simp only [List.nil_append, evalTrees, pure_bind]
    cases evalCallArgs ρ tail with
    | error e => rfl
    | ok p =>
      cases p
      rfl
  | cons t ts ih =>
    intro tail hts
    obtain ⟨tag, args, rfl, hm⟩ := hts t (by simp)
    have ih' := ih tail (fun t ht => hts t (by simp [ht]))
    rw [List.cons_append]
    generalize evalCallArgs ρ tail = R at ih' ⊢
    unfold evalCallArgs
    split
    · rename_i heq
      cases heq
    · rename_i kws heq
      simp only [node, List.cons.injEq, PTree.list.injEq, PTree.str.injEq] at heq
      exact absurd heq.1.1 hm
    · rename_i t' ts' _ heq
      simp only [List.cons.injEq] at heq
      obtain ⟨rfl, rfl⟩ := heq
      rw [ih']
      simp only [evalTrees, bind_assoc, pure_bind, List.cons_append]

theorem applyOp_bin {op : BinOp} {n : String} (h : op.name? = some n) (a b : Value) :
    applyOp n [a, b] = arith op a b := by
  cases op <;> cases h <;> rfl

theorem applyOp_cmp (op : CmpOp) (a b : Value) : applyOp op.name [a, b] = compareOp op a b := by
  cases op <;> rfl

theorem evalTrees_two (ρ : Env) (a b : PTree) (k : List Value → Res) :
    evalTrees ρ [a, b] >>= k = (do
      let x ← evalTree ρ a
      let y ← evalTree ρ b
      k [x, y]) := by
  simp only [evalTrees, bind_assoc, pure_bind]

theorem evalTree_op (ρ : Env) {tag : String} (args : List PTree)
    (h : tag ∉ ["And", "Or", "Const", "Name", "Attr", "Comment", "Call"]) :
    evalTree ρ (node tag args) = evalTrees ρ args >>= applyOp tag := by
  simp only [List.mem_cons, List.not_mem_nil, or_false, not_or] at h
  rw [node, evalTree_node]
  simp only [h, if_false]

theorem evalTree_bin (ρ : Env) {op : BinOp} {n : String} (h : op.name? = some n) (a b : PTree) :
    evalTree ρ (node n [a, b]) = (do
      let x ← evalTree ρ a
      let y ← evalTree ρ b
      arith op x y) := by
  rw [evalTree_op ρ _ (by cases op <;> cases h <;> decide), evalTrees_two]
  simp only [applyOp_bin h]

theorem evalTree_cmp (ρ : Env) (op : CmpOp) (a b : PTree) :
    evalTree ρ (node op.name [a, b]) = (do
      let x ← evalTree ρ a
      let y ← evalTree ρ b
      compareOp op x y) := by
  rw [evalTree_op ρ _ (by cases op <;> decide), evalTrees_two]
  simp only [applyOp_cmp]

theorem evalTree_not (ρ : Env) (a : PTree) :
    evalTree ρ (node "Not" [a]) = (do let x ← evalTree ρ a; pure (.bool (!truthy x))) := by
  rw [evalTree_op ρ _ (by decide)]
  simp only [evalTrees, bind_assoc, pure_bind]
  rfl

theorem evalTree_list (ρ : Env) (ts : List PTree) :
    evalTree ρ (node "List" ts) = (do let vs ← evalTrees ρ ts; pure (.list vs)) := by
  rw [evalTree_op ρ _ (by decide)]
  rfl

theorem evalTree_and (ρ : Env) (ts : List PTree) : evalTree ρ (node "And" ts) = evalAndT ρ ts := by
  rw [node, evalTree_node]
  rfl

theorem evalTree_or (ρ : Env) (ts : List PTree) : evalTree ρ (node "Or" ts) = evalOrT ρ ts := by
  rw [node, evalTree_node]
  rfl

theorem evalTree_const (ρ : Env) (c : Const) : evalTree ρ (node "Const" [constTree c]) = constValue c := by
  rw [node, evalTree_node]
  cases c <;> rfl

theorem evalTree_name (ρ : Env) (id : String) : evalTree ρ (node "Name" [.str id]) = ρ.lookup id := by
  rw [node, evalTree_node]
  rfl

theorem evalTree_attr (ρ : Env) (t : PTree) (a : String) :
    evalTree ρ (node "Attr" [t, .str a]) = (do let v ← evalTree ρ t; getAttr v a) := by
  rw [node, evalTree_node]
  rfl

theorem evalTree_call (ρ : Env) (f : PTree) (rest : List PTree) :
    evalTree ρ (node "Call" (f :: rest)) = (do
      let fv ← evalTree ρ f
      let (vs, ks) ← evalCallArgs ρ rest
      applyCall fv vs ks) := by
  rw [node, evalTree_node]
  rfl

theorem evalCallArgs_keywords (ρ : Env) {kws : List Keyword} {ks : List PTree}
    (h : convertKws kws = .ok ks) :
    evalCallArgs ρ (if kws.isEmpty then [] else [node "keywords" ks]) = (do
      let k ← evalKwsT ρ ks
      pure ([], k)) := by
  cases kws with
  | nil =>
    cases h
    rfl
  | cons k kws => rfl

theorem evalExpr_bin (ρ : Env) {op : BinOp} {n : String} (h : op.name? = some n) (l r : PExpr) :
    evalExpr ρ (.binOp op l r) = (do
      let a ← evalExpr ρ l
      let b ← evalExpr ρ r
      arith op a b) := by
  cases op with
  | other k => cases h
  | _ => rfl

theorem faithful_clauses (ρ : Env) : ConvertClauses (fun e t => evalTree ρ t = evalExpr ρ e)
    (fun es ts => evalTrees ρ ts = evalExprs ρ es ∧ evalAndT ρ ts = evalAndE ρ es ∧
      evalOrT ρ ts = evalOrE ρ es)
    (fun ks ts => evalKwsT ρ ts = evalKwsE ρ ks) where
  boolOp op _ _ h := by
    cases op
    · rw [BoolOp.name, evalTree_and, h.2.1, evalExpr]
    · rw [BoolOp.name, evalTree_or, h.2.2, evalExpr]
  binOp _ _ _ _ _ _ hn hl hr := by rw [evalTree_bin ρ hn, evalExpr_bin ρ hn, hl, hr]
  not _ _ h := by rw [evalTree_not, h, evalExpr]
  compare _ _ _ _ _ hl hc := by rw [evalTree_cmp, hl, hc, evalExpr]
  namedConst _ _ hc := by rw [evalTree_const, evalExpr, hc]
  name _ hc := by rw [evalTree_name, evalExpr, hc]
  dollar _ := by rw [evalTree_attr, evalTree_name, evalExpr]
  const _ := by rw [evalTree_const, evalExpr]
  attr _ _ _ h := by rw [evalTree_attr, h, evalExpr]
  list _ _ h := by rw [evalTree_list, h.1, evalExpr]
  tuple _ _ h := by rw [evalTree_list, h.1, evalExpr]
  call _ _ _ _ _ _ has hks hf ha hk := by
    rw [evalTree_call, evalCallArgs_append ρ _ _ (convertList_induct tag_clauses _ _ has),
      evalCallArgs_keywords ρ hks, hf, ha.1, hk]
    simp only [evalExpr, bind_assoc, pure_bind, List.append_nil]
  nil := ⟨rfl, rfl, rfl⟩
  cons e es t ts hts h ih := by
    refine ⟨by rw [evalTrees, evalExprs, h, ih.1], ?_, ?_⟩
    -- `a and b …` / `a or b …` read a one-element list differently from a longer one
    all_goals
      cases es with
      | nil =>
        simp only [convertList, pure_ok] at hts
        subst hts
        simp only [evalAndT, evalAndE, evalOrT, evalOrE, h]
      | cons e2 es =>
        simp only [convertList, bind_ok, pure_ok] at hts
        obtain ⟨t2, -, ts2, -, rfl⟩ := hts
        simp only [evalAndT, evalAndE, evalOrT, evalOrE, h, ih.2.1, ih.2.2]
  knil := rfl
  kcons arg _ _ _ _ h ih := by cases arg <;> simp [evalKwsT, evalKwsE, h, ih]

theorem faithful (ρ : Env) : ∀ (e : PExpr) (t : PTree), convert e = .ok t →
    evalTree ρ t = evalExpr ρ e :=
  convert_induct (faithful_clauses ρ)

theorem faithfulList (ρ : Env) : ∀ (es : List PExpr) (ts : List PTree), convertList es = .ok ts →
    evalTrees ρ ts = evalExprs ρ es ∧ evalAndT ρ ts = evalAndE ρ es ∧ evalOrT ρ ts = evalOrE ρ es :=
  convertList_induct (faithful_clauses ρ)

theorem faithfulKws (ρ : Env) : ∀ (ks : List Keyword) (ts : List PTree), convertKws ks = .ok ts →
    evalKwsT ρ ts = evalKwsE ρ ks :=
  convertKws_induct (faithful_clauses ρ)

/- `isOk_bind`, `isOk_pure`: "the do-block returns something" becomes "each part does"; the recursive
   facts turn that into the clauses of `supported`. -/
mutual
theorem accepts_iff : ∀ (e : PExpr), (∃ t, convert e = .ok t) ↔ supported e = true
  | .boolOp op vs => by
    simp only [convert, supported, isOk_bind, isOk_pure, and_true, acceptsList_iff vs]
  | .binOp op l r => by
    cases op <;>
      simp only [convert, supported, BinOp.name?, isOk_bind, isOk_pure, and_true, exists_and_right,
        accepts_iff l, accepts_iff r, throw_ok, exists_false, Option.isSome, Bool.and_eq_true,
        true_and, Bool.false_and, Bool.false_eq_true]
  | .unaryOp op e => by
    cases op <;>
      simp only [convert, supported, isOk_bind, isOk_pure, and_true, accepts_iff e, throw_ok,
        exists_false, Bool.and_eq_true, true_and, Bool.false_and, Bool.false_eq_true]
  | .compare l [op] [c] => by
    simp only [convert, supported, isOk_bind, isOk_pure, and_true, exists_and_right,
      accepts_iff l, accepts_iff c, Bool.and_eq_true]
  | .compare l [] cs => by simp [convert, supported, throw_ok]
  | .compare l (_ :: _ :: _) cs => by simp [convert, supported, throw_ok]
  | .compare l [_] [] => by simp [convert, supported, throw_ok]
  | .compare l [_] (_ :: _ :: _) => by simp [convert, supported, throw_ok]
  | .name id => by
    simp only [convert, supported, iff_true]
    split <;> exact ⟨_, rfl⟩
  | .dollar x => by simp only [convert, supported, isOk_pure]
  | .const c => by simp only [convert, supported, isOk_pure]
  | .attr e a => by
    simp only [convert, supported, isOk_bind, isOk_pure, and_true, accepts_iff e]
  | .list es => by
    simp only [convert, supported, isOk_bind, isOk_pure, and_true, acceptsList_iff es]
  | .tuple es => by
    simp only [convert, supported, isOk_bind, isOk_pure, and_true, acceptsList_iff es]
  | .call f args kws => by
    simp only [convert, supported, isOk_bind, isOk_pure, and_true, exists_and_right,
      accepts_iff f, acceptsList_iff args, acceptsKws_iff kws, Bool.and_eq_true]
    exact ⟨fun ⟨a, k, f⟩ => ⟨⟨f, a⟩, k⟩, fun ⟨⟨f, a⟩, k⟩ => ⟨a, k, f⟩⟩
  | .unsupported k cs => by simp [convert, supported, throw_ok]
theorem acceptsList_iff : ∀ (es : List PExpr),
    (∃ ts, convertList es = .ok ts) ↔ supportedList es = true
  | [] => by simp only [convertList, supportedList, isOk_pure]
  | e :: es => by
    simp only [convertList, supportedList, isOk_bind, isOk_pure, and_true, exists_and_right,
      accepts_iff e, acceptsList_iff es, Bool.and_eq_true]
theorem acceptsKws_iff : ∀ (ks : List Keyword),
    (∃ ts, convertKws ks = .ok ts) ↔ supportedKws ks = true
  | [] => by simp only [convertKws, supportedKws, isOk_pure]
  | .mk arg e :: ks => by
    simp only [convertKws, supportedKws, isOk_bind, isOk_pure, and_true, exists_and_right,
      accepts_iff e, acceptsKws_iff ks, Bool.and_eq_true]
end

theorem jsonSafe_node (tag : String) (args : List PTree) :
    jsonSafe (node tag args) = jsonSafeList args := by
  simp only [node, jsonSafe, jsonSafeList, Bool.true_and]

theorem jsonSafeList_append : ∀ (xs ys : List PTree),
    jsonSafeList (xs ++ ys) = (jsonSafeList xs && jsonSafeList ys)
  | [], ys => by simp [jsonSafeList]
  | x :: xs, ys => by simp [jsonSafeList, jsonSafeList_append xs ys, Bool.and_assoc]

theorem jsonSafe_constTree (c : Const) : jsonSafe (constTree c) = c.jsonOk := by
  cases c <;> simp [constTree, jsonSafe, Const.jsonOk]

theorem namedConstant_jsonOk {id : String} {c : Const} (h : namedConstant id = some c) :
    c.jsonOk = true := by
  unfold namedConstant at h
  split at h <;> cases h <;> rfl

theorem jsonSafe_clauses : ConvertClauses (fun e t => jsonSafe t = constsOk e)
    (fun es ts => jsonSafeList ts = constsOkList es) (fun ks ts => jsonSafeList ts = constsOkKws ks) where
  boolOp _ _ _ h := by rw [jsonSafe_node, constsOk, h]
  binOp _ _ _ _ _ _ _ hl hr := by
    rw [jsonSafe_node, constsOk, ← hl, ← hr]
    simp only [jsonSafeList, Bool.and_true]
  not _ _ h := by
    rw [jsonSafe_node, constsOk, ← h]
    simp only [jsonSafeList, Bool.and_true]
  compare _ _ _ _ _ hl hc := by
    rw [jsonSafe_node, constsOk, ← hl]
    simp only [jsonSafeList, constsOkList, hc]
  namedConst _ _ hc := by
    simp only [jsonSafe_node, jsonSafeList, jsonSafe_constTree, constsOk, namedConstant_jsonOk hc,
      Bool.and_true]
  name _ _ := rfl
  dollar _ := rfl
  const _ := by simp only [jsonSafe_node, jsonSafeList, jsonSafe_constTree, constsOk, Bool.and_true]
  attr _ _ _ h := by
    rw [jsonSafe_node, constsOk, ← h]
    simp only [jsonSafeList, jsonSafe, Bool.and_true]
  list _ _ h := by rw [jsonSafe_node, constsOk, h]
  tuple _ _ h := by rw [jsonSafe_node, constsOk, h]
  call _ _ kws _ _ _ _ _ hf ha hk := by
    rw [jsonSafe_node, constsOk, ← hf, ← ha]
    cases kws <;> simp [jsonSafeList, jsonSafeList_append, jsonSafe_node, hk, constsOkKws, Bool.and_assoc]
  nil := rfl
  cons _ _ _ _ _ h ih := by rw [jsonSafeList, constsOkList, h, ih]
  knil := rfl
  kcons arg _ _ _ _ h ih := by
    rw [constsOkKws, ← h, ← ih]
    cases arg <;> simp [jsonSafeList, jsonSafe]

theorem jsonSafe_convert : ∀ (e : PExpr) (t : PTree), convert e = .ok t →
    jsonSafe t = constsOk e :=
  convert_induct jsonSafe_clauses

theorem jsonSafeList_convert : ∀ (es : List PExpr) (ts : List PTree), convertList es = .ok ts →
    jsonSafeList ts = constsOkList es :=
  convertList_induct jsonSafe_clauses

theorem jsonSafeKws_convert : ∀ (ks : List Keyword) (ts : List PTree), convertKws ks = .ok ts →
    jsonSafeList ts = constsOkKws ks :=
  convertKws_induct jsonSafe_clauses

theorem dropWhile_head_not {α} (p : α → Bool) : ∀ (l : List α) (x : α) (xs : List α),
    l.dropWhile p = x :: xs → p x = false
  | [], x, xs, h => by simp at h
  | y :: ys, x, xs, h => by
    simp only [List.dropWhile_cons] at h
    split at h
    · exact dropWhile_head_not p ys x xs h
    · rename_i hy
      simp only [List.cons.injEq] at h
      rw [← h.1]
      simpa using hy

end Grist.Predicate
