/-
The `stored` / `direct` lists of the engine model and the association lists of `ActionSummary`.
Defines `StepTags` / `WordTags`: the block of stored actions and direct flags a step / a word
contributes.  Main facts: `run_append`, `WordTags.directActions_eq`, `addChangesFold_lookup`.
Doc steps are read through `Post` (DocUndoPost); `List.lookup` through the find-by-key lemmas of
DocUndoBase (`lookup_eq_find`).
-/
import GristProofs.DocUndoPost
namespace Grist.Doc

/-- What a step contributes to the (stored action, direct flag) stream. -/
inductive StepTags : Step → List DocAction → List Bool → Prop where
  | doc (a b) : StepTags (.doc a b) [a] [b]
  | calcStep (t c chs) : StepTags (.calc t c chs) [] []
  | flushcol (t c ext) : StepTags (.flushcol t c) ext (List.replicate ext.length false)
  | finish (ext) : StepTags .finish ext (List.replicate ext.length false)

/-- The concatenation of the blocks of the steps.  Relational: the blocks of flush steps are
    arbitrary, but their flags are all `false`. -/
inductive WordTags : List Step → List DocAction → List Bool → Prop where
  | nil : WordTags [] [] []
  | cons {s w e1 f1 e2 f2} : StepTags s e1 f1 → WordTags w e2 f2 →
      WordTags (s :: w) (e1 ++ e2) (f1 ++ f2)

def directActions (stored : List DocAction) (direct : List Bool) : List DocAction :=
  ((stored.zip direct).filter (·.2)).map (·.1)

def directDocSteps (w : List Step) : List DocAction :=
  w.filterMap (fun s => match s with | .doc a true => some a | _ => none)

/-- the fold `add_changes` performs over the `(row, before, after)` triples -/
def addChangesFold (m : List (Nat × Val × Val)) (chs : List (Nat × Val × Val)) :
    List (Nat × Val × Val) :=
  chs.foldl (fun m ch => addChange m ch.1 ch.2.1 ch.2.2) m

/-- the per-row fold of `add_records` (`v = false` for before, `true` for after) and of
    `remove_records` (`v = true` for before, `false` for after) -/
def presenceFold (bv av : Bool) (td : TableDelta) (rows : List Nat) : TableDelta :=
  rows.foldl (fun td r =>
    { td with presentBefore := amSetDefault td.presentBefore r bv,
              presentAfter := amSet td.presentAfter r av }) td

/-! ### every step appends a block to `stored` and a parallel block to `direct` -/

theorem foldl_fst_prefix {α β γ : Type} (f : List α × β → γ → List α × β)
    (hf : ∀ acc x, ∃ ext, (f acc x).1 = acc.1 ++ ext) :
    ∀ (l : List γ) (acc : List α × β), ∃ ext, (l.foldl f acc).1 = acc.1 ++ ext := by
  intro l
  induction l with
  | nil =>
    intro acc
    exact ⟨[], (List.append_nil _).symm⟩
  | cons x xs ih =>
    intro acc
    obtain ⟨e1, h1⟩ := hf acc x
    obtain ⟨e2, h2⟩ := ih (f acc x)
    exact ⟨e1 ++ e2, by simp [List.foldl_cons, h2, h1]⟩

theorem flushAll_stored_prefix (s : Summary) (stored undo : List DocAction) :
    ∃ ext, (flushAll s stored undo).1 = stored ++ ext := by
  unfold flushAll
  exact foldl_fst_prefix _ (fun acc tk =>
    foldl_fst_prefix _ (fun acc ck => ⟨_, rfl⟩) _ acc) _ (stored, undo)

theorem stepFinish_stored (st : EState) :
    (stepFinish st).stored = (flushAll st.summary st.stored st.undo).1 := rfl

theorem stepFinish_direct (st : EState) :
    (stepFinish st).direct =
      st.direct ++ List.replicate ((stepFinish st).stored.length - st.stored.length) false := rfl

theorem stepFinish_doc (st : EState) : (stepFinish st).doc = st.doc := rfl

theorem stepDoc_ok_iff {st st' : EState} {a : DocAction} {b : Bool} :
    stepDoc st a b = .ok st' ↔
      ∃ r, docAction st.doc st.summary a = .ok r ∧
        st' = { st with doc := r.doc, stored := st.stored ++ [a], direct := st.direct ++ [b],
                        undo := st.undo ++ r.undo, summary := r.summary } := by
  unfold stepDoc
  cases hd : docAction st.doc st.summary a with
  | error e => simp
  | ok r =>
    simp only [Except.ok.injEq]
    constructor
    · intro h
      exact ⟨r, rfl, h.symm⟩
    · rintro ⟨r', h1, h2⟩
      cases h1
      exact h2.symm

theorem stepFlushCol_append {st st' : EState} {t c : String}
    (h : stepFlushCol st t c = .ok st') :
    ∃ ext, st'.stored = st.stored ++ ext ∧
           st'.direct = st.direct ++ List.replicate ext.length false := by
  unfold stepFlushCol at h
  split at h
  · cases h
    exact ⟨_, rfl, congrArg _ (List.map_const' ..)⟩
  · cases h

theorem stepCalc_stored (st : EState) (t c : String) (chs) :
    (stepCalc st t c chs).stored = st.stored := rfl
theorem stepCalc_direct (st : EState) (t c : String) (chs) :
    (stepCalc st t c chs).direct = st.direct := rfl

theorem StepTags.length_eq {s : Step} {ext : List DocAction} {fl : List Bool}
    (h : StepTags s ext fl) : ext.length = fl.length := by
  cases h <;> simp

theorem step_append {st st' : EState} {s : Step} (h : step st s = .ok st') :
    ∃ ext fl, StepTags s ext fl ∧ st'.stored = st.stored ++ ext ∧ st'.direct = st.direct ++ fl := by
  cases s with
  | doc a b =>
    obtain ⟨r, _, rfl⟩ := stepDoc_ok_iff.mp (show stepDoc st a b = .ok st' from h)
    exact ⟨[a], [b], .doc a b, rfl, rfl⟩
  | «calc» t c chs =>
    cases h
    exact ⟨[], [], .calcStep t c chs, (List.append_nil _).symm, (List.append_nil _).symm⟩
  | flushcol t c =>
    obtain ⟨ext, h1, h2⟩ := stepFlushCol_append (show stepFlushCol st t c = .ok st' from h)
    exact ⟨ext, _, .flushcol t c ext, h1, h2⟩
  | finish =>
    cases h
    obtain ⟨ext, h1⟩ := flushAll_stored_prefix st.summary st.stored st.undo
    rw [← stepFinish_stored] at h1
    refine ⟨ext, _, .finish ext, h1, ?_⟩
    rw [stepFinish_direct, h1, List.length_append, Nat.add_sub_cancel_left]

theorem run_cons_ok {st st' : EState} {s : Step} {w : List Step}
    (h : run st (s :: w) = .ok st') : ∃ st1, step st s = .ok st1 ∧ run st1 w = .ok st' := by
  simp only [run] at h
  split at h
  · cases h
  · exact ⟨_, by assumption, h⟩

theorem run_append_word : ∀ (w v : List Step) {st st' : EState}, run st (w ++ v) = .ok st' →
    ∃ st1, run st w = .ok st1 ∧ run st1 v = .ok st' := by
  intro w
  induction w with
  | nil =>
    intro v st st' h
    exact ⟨st, rfl, h⟩
  | cons s w ih =>
    intro v st st' h
    obtain ⟨st2, h1, h2⟩ := run_cons_ok (show run st (s :: (w ++ v)) = .ok st' from h)
    obtain ⟨st1, g1, g2⟩ := ih v h2
    exact ⟨st1, by simp only [run, h1, g1], g2⟩

/-- `_undo_to_checkpoint` replays the undo tail as a word of direct `doc` steps. -/
theorem run_doc_steps (l : List DocAction) (st : EState) :
    run st (l.map (Step.doc · true)) = l.foldlM (fun s a => stepDoc s a true) st := by
  induction l generalizing st with
  | nil => rfl
  | cons a l ih =>
    rw [List.map_cons, List.foldlM_cons, run]
    show (match stepDoc st a true with | .error e => _ | .ok st' => _) = _
    cases stepDoc st a true with
    | error e => rfl
    | ok st1 => exact ih st1

theorem directActions_length (s : List DocAction) (d : List Bool) (h : s.length = d.length) :
    (directActions s d).length = d.count true := by
  rw [directActions, List.length_map, ← List.countP_eq_length_filter]
  -- the second components of the zip are `d` itself
  conv => rhs; rw [← List.map_snd_zip (l₁ := s) (l₂ := d) (by omega), List.count, List.countP_map]
  exact List.countP_congr (fun p _ => by simp)

theorem directActions_append {s1 s2 : List DocAction} {d1 d2 : List Bool}
    (h : s1.length = d1.length) :
    directActions (s1 ++ s2) (d1 ++ d2) = directActions s1 d1 ++ directActions s2 d2 := by
  simp [directActions, List.zip_append h]

theorem directActions_replicate_false (ext : List DocAction) :
    directActions ext (List.replicate ext.length false) = [] := by
  simp only [directActions, List.map_eq_nil_iff, List.filter_eq_nil_iff]
  intro p hp
  have := List.eq_of_mem_replicate (List.of_mem_zip hp).2
  simp [this]

theorem StepTags.directActions_eq {s : Step} {ext : List DocAction} {fl : List Bool}
    (h : StepTags s ext fl) : directActions ext fl = directDocSteps [s] := by
  cases h with
  | doc a b => cases b <;> simp [directActions, directDocSteps]
  | calcStep t c chs => simp [directActions, directDocSteps]
  | flushcol t c ext => simp [directActions_replicate_false, directDocSteps]
  | finish ext => simp [directActions_replicate_false, directDocSteps]

theorem WordTags.length_eq {w : List Step} {ext : List DocAction} {fl : List Bool}
    (h : WordTags w ext fl) : ext.length = fl.length := by
  induction h with
  | nil => rfl
  | cons hs _ ih => simp [hs.length_eq, ih]

theorem run_append : ∀ (w : List Step) {st st' : EState}, run st w = .ok st' →
    ∃ ext fl, WordTags w ext fl ∧ st'.stored = st.stored ++ ext ∧ st'.direct = st.direct ++ fl := by
  intro w
  induction w with
  | nil =>
    intro st st' h
    cases h
    exact ⟨[], [], .nil, (List.append_nil _).symm, (List.append_nil _).symm⟩
  | cons s w ih =>
    intro st st' h
    obtain ⟨st1, h1, h2⟩ := run_cons_ok h
    obtain ⟨e1, f1, ht, a1, a2⟩ := step_append h1
    obtain ⟨e2, f2, hw, b1, b2⟩ := ih h2
    exact ⟨e1 ++ e2, f1 ++ f2, .cons ht hw, by rw [b1, a1, List.append_assoc],
      by rw [b2, a2, List.append_assoc]⟩

theorem directDocSteps_cons (s : Step) (w : List Step) :
    directDocSteps (s :: w) = directDocSteps [s] ++ directDocSteps w := by
  show directDocSteps ([s] ++ w) = _
  unfold directDocSteps
  rw [List.filterMap_append]

theorem WordTags.directActions_eq {w : List Step} {ext : List DocAction} {fl : List Bool}
    (h : WordTags w ext fl) : directActions ext fl = directDocSteps w := by
  induction h with
  | nil => rfl
  | @cons s w e1 f1 e2 f2 hs _ ih =>
    rw [directActions_append hs.length_eq, hs.directActions_eq, ih, ← directDocSteps_cons]

theorem WordTags.true_flag_from_doc_step {w : List Step} {ext : List DocAction} {fl : List Bool}
    (h : WordTags w ext fl) (i : Nat) (hi : fl[i]? = some true) :
    ∃ a, ext[i]? = some a ∧ Step.doc a true ∈ w := by
  obtain ⟨hlt, hv⟩ := List.getElem?_eq_some_iff.mp hi
  have hlt' : i < ext.length := h.length_eq ▸ hlt
  refine ⟨ext[i], List.getElem?_eq_getElem hlt', ?_⟩
  -- `ext[i]` is one of the direct-flagged actions, and those are the `doc _ true` steps
  have hm : ext[i] ∈ directActions ext fl :=
    List.mem_map.mpr ⟨(ext[i], true), List.mem_filter.mpr
      ⟨List.mem_iff_getElem.mpr ⟨i, by rw [List.length_zip]; omega, by simp [hv]⟩, rfl⟩, rfl⟩
  rw [h.directActions_eq] at hm
  obtain ⟨s, hs, e⟩ := List.mem_filterMap.mp hm
  split at e <;> cases e
  exact hs

/-! ### association-list lookups: `List.lookup` is `find?` by the key `Prod.fst` -/

theorem lookup_eq_find {α β : Type} [DecidableEq α] (m : List (α × β)) (k : α) :
    m.lookup k = (m.find? (fun p => p.1 == k)).map (·.2) := by
  induction m with
  | nil => rfl
  | cons p m ih =>
    rw [List.lookup_cons, List.find?_cons, ih]
    by_cases h : k = p.1
    · simp [h]
    · rw [beq_false_of_ne h, beq_false_of_ne (Ne.symm h)]

theorem mem_of_lookup_eq_some {α β : Type} [DecidableEq α] {m : List (α × β)} {k : α} {v : β}
    (h : m.lookup k = some v) : (k, v) ∈ m := by
  rw [lookup_eq_find, Option.map_eq_some_iff] at h
  obtain ⟨p, hp, rfl⟩ := h
  obtain ⟨rfl, hm⟩ := find_key_some Prod.fst hp
  exact hm

theorem lookup_eq_some_of_mem_nodup {α β : Type} [DecidableEq α] {m : List (α × β)} {k : α} {v : β}
    (hn : (m.map (·.1)).Nodup) (h : (k, v) ∈ m) : m.lookup k = some v := by
  rw [lookup_eq_find, find_key_of_mem_nodup Prod.fst hn h]
  rfl

theorem lookup_filter_ne_append {α β : Type} [DecidableEq α] (m : List (α × β)) (k j : α)
    (v : β) :
    ((m.filter (·.1 != k)) ++ [(k, v)]).lookup j = if j = k then some v else m.lookup j := by
  rw [lookup_eq_find, find_key_append_single Prod.fst, find_key_filter_ne Prod.fst, lookup_eq_find]
  by_cases h : j = k
  · simp [h]
  · simp [h, Ne.symm h]

theorem lookup_append_singleton_of_none {α β : Type} [DecidableEq α] (m : List (α × β))
    (k j : α) (v : β) (h : m.lookup k = none) :
    (m ++ [(k, v)]).lookup j = if j = k then some v else m.lookup j := by
  rw [lookup_eq_find] at h
  rw [lookup_eq_find, find_key_append_single Prod.fst, lookup_eq_find]
  by_cases hj : j = k
  · subst hj
    simp [Option.map_eq_none_iff.mp h]
  · simp [hj, Ne.symm hj]

theorem keys_filter_ne_append_nodup {α β : Type} [DecidableEq α] (m : List (α × β)) (k : α)
    (v : β) (h : (m.map (·.1)).Nodup) :
    (((m.filter (·.1 != k)) ++ [(k, v)]).map (·.1)).Nodup :=
  nodup_map_append_single Prod.fst (nodup_map_filter _ _ h)
    (fun y hy => by simpa using (List.mem_filter.1 hy).2)

/-! ### `ActionSummary.add_changes`: first `before`, last `after` -/

theorem addChange_lookup (m : List (Nat × Val × Val)) (r : Nat) (b a : Val) (k : Nat) :
    (addChange m r b a).lookup k =
      if k = r then some (((m.lookup r).map (·.1)).getD b, a) else m.lookup k := by
  unfold addChange
  cases h : m.lookup r with
  | none =>
    simp only [lookup_append_singleton_of_none m r k _ h]
    by_cases hk : k = r <;> simp [hk]
  | some p =>
    obtain ⟨b0, a0⟩ := p
    simp only [lookup_filter_ne_append]
    by_cases hk : k = r <;> simp [hk]

theorem addChange_keys_nodup (m : List (Nat × Val × Val)) (r : Nat) (b a : Val)
    (h : (m.map (·.1)).Nodup) : ((addChange m r b a).map (·.1)).Nodup := by
  unfold addChange
  cases hl : m.lookup r with
  | none =>
    simp only [List.map_append, List.nodup_append]
    refine ⟨h, by simp, ?_⟩
    intro x hx y hy
    simp only [List.map_cons, List.map_nil, List.mem_singleton] at hy
    subst hy
    rw [List.lookup_eq_none_iff] at hl
    simp only [List.mem_map] at hx
    obtain ⟨p, hp, rfl⟩ := hx
    have := hl p hp
    intro heq
    simp [heq] at this
  | some p => exact keys_filter_ne_append_nodup m r _ h

theorem addChangesFold_keys_nodup (chs m) (h : (m.map (·.1)).Nodup) :
    ((addChangesFold m chs).map (·.1)).Nodup := by
  unfold addChangesFold
  induction chs generalizing m with
  | nil => exact h
  | cons ch chs ih => exact ih _ (addChange_keys_nodup m _ _ _ h)

theorem addChangesFold_lookup (chs : List (Nat × Val × Val)) (m : List (Nat × Val × Val))
    (r : Nat) :
    (addChangesFold m chs).lookup r =
      match (chs.filter (·.1 == r)).getLast? with
      | none => m.lookup r
      | some last =>
        some (match m.lookup r with
              | some p => p.1
              | none => (((chs.filter (·.1 == r)).head?).map (·.2.1)).getD last.2.1,
              last.2.2) := by
  unfold addChangesFold
  induction chs generalizing m with
  | nil => simp
  | cons ch chs ih =>
    rw [List.foldl_cons, ih, addChange_lookup, List.filter_cons]
    by_cases hr : ch.1 = r
    · subst hr
      simp only [BEq.rfl, ↓reduceIte, List.getLast?_cons, List.head?_cons, Option.map_some,
        Option.getD_some]
      cases hl : (chs.filter (fun x => x.1 == ch.1)).getLast? with
      | none => cases hm : m.lookup ch.1 <;> simp
      | some last => cases hm : m.lookup ch.1 <;> simp
    · have h1 : (ch.1 == r) = false := by simpa using hr
      have h2 : ¬ r = ch.1 := fun h => hr h.symm
      simp only [h1, Bool.false_eq_true, ↓reduceIte, h2]

/-! ### row presence: `add_records` / `remove_records` -/

theorem amSet_lookup (m : List (Nat × Bool)) (k : Nat) (v : Bool) (j : Nat) :
    (amSet m k v).lookup j = if j = k then some v else m.lookup j :=
  lookup_filter_ne_append m k j v

theorem amSetDefault_lookup (m : List (Nat × Bool)) (k : Nat) (v : Bool) (j : Nat) :
    (amSetDefault m k v).lookup j = if j = k then some ((m.lookup k).getD v) else m.lookup j := by
  unfold amSetDefault
  cases h : m.lookup k with
  | none => simp [lookup_append_singleton_of_none m k j v h]
  | some x =>
    by_cases hj : j = k
    · subst hj
      simp [h]
    · simp [hj]

theorem Summary.get_put (s : Summary) (t : String) (td : TableDelta) : (s.put t td).get t = td := by
  simp [Summary.get, Summary.put, lookup_filter_ne_append]

theorem Summary.get_put_ne (s : Summary) (t t' : String) (td : TableDelta) (h : t' ≠ t) :
    (s.put t td).get t' = s.get t' := by
  simp [Summary.get, Summary.put, lookup_filter_ne_append, h]

theorem Summary.addRecords_eq (s : Summary) (t : String) (rows : List Nat) :
    s.addRecords t rows = s.put t (presenceFold false true (s.get t) rows) := rfl

theorem Summary.removeRecords_eq (s : Summary) (t : String) (rows : List Nat) :
    s.removeRecords t rows = s.put t (presenceFold true false (s.get t) rows) := rfl

theorem presenceFold_after (bv av : Bool) (rows : List Nat) (td : TableDelta) (r : Nat) :
    (presenceFold bv av td rows).presentAfter.lookup r =
      if r ∈ rows then some av else td.presentAfter.lookup r := by
  unfold presenceFold
  induction rows generalizing td with
  | nil => simp
  | cons x rows ih =>
    rw [List.foldl_cons, ih]
    simp only [amSet_lookup, List.mem_cons]
    by_cases h1 : r ∈ rows <;> simp [h1]

theorem presenceFold_before (bv av : Bool) (rows : List Nat) (td : TableDelta) (r : Nat) :
    (presenceFold bv av td rows).presentBefore.lookup r =
      if r ∈ rows then some ((td.presentBefore.lookup r).getD bv)
      else td.presentBefore.lookup r := by
  unfold presenceFold
  induction rows generalizing td with
  | nil => simp
  | cons x rows ih =>
    rw [List.foldl_cons, ih]
    simp only [amSetDefault_lookup, List.mem_cons]
    by_cases h1 : r ∈ rows <;> by_cases h2 : r = x <;> simp [h1, h2]

theorem presenceFold_colDeltas (bv av : Bool) (rows : List Nat) (td : TableDelta) :
    (presenceFold bv av td rows).colDeltas = td.colDeltas ∧
    (presenceFold bv av td rows).colRenames = td.colRenames := by
  unfold presenceFold
  induction rows generalizing td with
  | nil => simp
  | cons x rows ih =>
    rw [List.foldl_cons]
    exact ih _

theorem addRecords_presentAfter (s : Summary) (t : String) (rows : List Nat) (r : Nat) :
    ((s.addRecords t rows).get t).presentAfter.lookup r =
      if r ∈ rows then some true else (s.get t).presentAfter.lookup r := by
  rw [Summary.addRecords_eq, Summary.get_put, presenceFold_after]

theorem addRecords_presentBefore (s : Summary) (t : String) (rows : List Nat) (r : Nat) :
    ((s.addRecords t rows).get t).presentBefore.lookup r =
      if r ∈ rows then some (((s.get t).presentBefore.lookup r).getD false)
      else (s.get t).presentBefore.lookup r := by
  rw [Summary.addRecords_eq, Summary.get_put, presenceFold_before]

theorem removeRecords_presentAfter (s : Summary) (t : String) (rows : List Nat) (r : Nat) :
    ((s.removeRecords t rows).get t).presentAfter.lookup r =
      if r ∈ rows then some false else (s.get t).presentAfter.lookup r := by
  rw [Summary.removeRecords_eq, Summary.get_put, presenceFold_after]

theorem removeRecords_presentBefore (s : Summary) (t : String) (rows : List Nat) (r : Nat) :
    ((s.removeRecords t rows).get t).presentBefore.lookup r =
      if r ∈ rows then some (((s.get t).presentBefore.lookup r).getD true)
      else (s.get t).presentBefore.lookup r := by
  rw [Summary.removeRecords_eq, Summary.get_put, presenceFold_before]

theorem addRecords_get_ne (s : Summary) (t t' : String) (rows : List Nat) (h : t' ≠ t) :
    (s.addRecords t rows).get t' = s.get t' := by
  rw [Summary.addRecords_eq, Summary.get_put_ne _ _ _ _ h]

theorem removeRecords_get_ne (s : Summary) (t t' : String) (rows : List Nat) (h : t' ≠ t) :
    (s.removeRecords t rows).get t' = s.get t' := by
  rw [Summary.removeRecords_eq, Summary.get_put_ne _ _ _ _ h]

end Grist.Doc
