/-
After undoing a run, re-applying its actions gives the post-run document again
(`redo_after_undo_WF`, C03); `stepDoc` only appends to stored / direct / undo (C04).
-/
import GristProofs.DocUndoList
namespace Grist.Doc

theorem runActs_applyAll {as : List DocAction} {d d' : Doc} {u : List DocAction}
    (h : runActs d as = .ok (d', u)) : applyAll d as = .ok d' := by
  induction as generalizing d u with
  | nil =>
    simp only [runActs, Except.ok.injEq, Prod.mk.injEq] at h
    obtain ⟨rfl, rfl⟩ := h
    rfl
  | cons a rest ih =>
    obtain ⟨r, u', hr, hrest, rfl⟩ := runActs_cons_ok h
    simp only [applyAll, hr]
    exact ih hrest

theorem redo_after_undo_WF {as : List DocAction} {d d' : Doc} {u : List DocAction} (hwf : WF d)
    (hn : Normal d) (hargs : ∀ a ∈ as, a.rowsPositive ∧ a.colsDistinct) (hex : undoExactRun d as)
    (h : runActs d as = .ok (d', u)) :
    ∃ d'' d''', applyAll d' u.reverse = .ok d'' ∧ Same d'' d ∧ WF d'' ∧ Normal d'' ∧
      applyAll d'' as = .ok d''' ∧ Same d''' d' := by
  obtain ⟨hwf', hn', hu, d'', hd'', hs⟩ := runActs_undo_WF hwf hn hargs hex h
  have hw'' := applyAll_WF hwf' hn' (fun b hb => hu b (List.mem_reverse.1 hb)) hd''
  obtain ⟨y, hy, hsy⟩ := applyAll_congr hwf hw''.1 hs.symm hargs (runActs_applyAll h)
  exact ⟨d'', y, hd'', hs, hw''.1, hw''.2, hy, hsy.symm⟩

theorem foldlM_stepDoc_lists {l : List DocAction} {st st2 : EState}
    (h : l.foldlM (fun s a => stepDoc s a true) st = .ok st2) :
    ∃ x y z, st2.stored = st.stored ++ x ∧ st2.direct = st.direct ++ y ∧ st2.undo = st.undo ++ z := by
  have h' : stepDocs st (l.map (·, true)) = .ok st2 := by
    rw [stepDocs, List.foldlM_map]
    exact h
  obtain ⟨_, _, hu, hs, hd⟩ := stepDocs_ok h'
  exact ⟨_, _, _, hs, hd, hu⟩

end Grist.Doc
