/-
`get_reverse_adjustments` for a two-way reference column (C11).  Defines `newVal` (the value of a row
after an update).  `mem_revVal`: the reverse value computed for a target is exactly the set of rows
referring to it after the update; `toValues_spec`: `_list_to_value` fails only on a `Ref` given two rows.
-/
import GristProofs.Refs
import GristProofs.Basics
namespace Grist.Refs

/-- the value of row `a` after the (trimmed) main action -/
def newVal (c : Col) (rows : List Nat) (vals : List Cell) (a : Nat) : Cell :=
  (lastVal (trimUpdate c rows vals) a).getD (rawGet c a)

def keys {β : Type} (m : List (Nat × β)) : List Nat := m.map Prod.fst

theorem aHas_iff_mem_keys {β : Type} (m : List (Nat × β)) (t : Nat) :
    aHas m t = true ↔ t ∈ keys m := by
  induction m with
  | nil => simp [aHas, keys]
  | cons e rest ih =>
    rw [aHas]
    show _ ↔ t ∈ e.1 :: keys rest
    rw [List.mem_cons, ← ih]
    split
    · next h => simp [h]
    · next h => simp [Ne.symm h]

theorem keys_aUpd {β : Type} (d : β) (m : List (Nat × β)) (t : Nat) (f : β → β) :
    keys (aUpd d m t f) = if aHas m t then keys m else keys m ++ [t] := by
  induction m with
  | nil => rfl
  | cons e rest ih =>
    rw [aUpd, aHas]
    split
    · rfl
    · show e.1 :: keys (aUpd d rest t f) = _
      rw [ih]
      split <;> rfl

theorem nodup_keys_aUpd {β : Type} (d : β) (m : List (Nat × β)) (t : Nat) (f : β → β)
    (h : (keys m).Nodup) : (keys (aUpd d m t f)).Nodup := by
  rw [keys_aUpd]
  split
  · exact h
  · next hh =>
    rw [aHas_iff_mem_keys] at hh
    rw [List.nodup_append]
    refine ⟨h, by simp, ?_⟩
    intro a ha b hb
    rw [List.mem_singleton.1 hb]
    intro hab
    exact hh (hab ▸ ha)

theorem mem_of_aHas {β : Type} (d : β) : ∀ (m : List (Nat × β)) (t : Nat), aHas m t = true →
    (t, aGet d m t) ∈ m := by
  intro m t
  induction m with
  | nil =>
    intro h
    cases h
  | cons e rest ih =>
    rw [aHas, aGet]
    split
    next hk =>
      intro _
      rw [← hk]
      exact List.mem_cons_self
    next =>
      intro h
      exact List.mem_cons_of_mem _ (ih h)

theorem aGet_of_mem {β : Type} (d : β) : ∀ (m : List (Nat × β)), (keys m).Nodup →
    ∀ e ∈ m, aGet d m e.1 = e.2 := by
  intro m hn e he
  have hm := mem_of_aHas d m e.1 ((aHas_iff_mem_keys m e.1).mpr (List.mem_map_of_mem he))
  exact congrArg Prod.snd (eq_of_map_eq Prod.fst hn hm he rfl)

theorem lastVal_map_assoc {β : Type} (d : β) (g : Nat × β → Cell) : ∀ (m : List (Nat × β)),
    (keys m).Nodup → ∀ b, lastVal (m.map (fun e => (e.1, g e))) b =
      if aHas m b then some (g (b, aGet d m b)) else none := by
  intro m
  induction m with
  | nil =>
    intro _ _
    rfl
  | cons e rest ih =>
    intro hn b
    have hn' : e.1 ∉ keys rest ∧ (keys rest).Nodup := List.nodup_cons.1 hn
    rw [List.map_cons, lastVal, ih hn'.2 b, aHas, aGet]
    by_cases hk : e.1 = b
    · -- the key of the head occurs nowhere in the rest
      have hr : aHas rest b = false := by
        rw [← hk, ← Bool.not_eq_true, aHas_iff_mem_keys]
        exact hn'.1
      simp only [hr, hk, if_true, Bool.false_eq_true, if_false]
      rw [← hk]
    · simp only [hk, if_false]
      cases aHas rest b <;> rfl

theorem lastVal_eq {l : List (Nat × Cell)} (h : (keys l).Nodup) (a : Nat) :
    lastVal l a = if aHas l a then some (aGet .none l a) else none := by
  have := lastVal_map_assoc .none Prod.snd l h a
  rwa [List.map_id'' (fun _ => rfl)] at this

theorem lastVal_some_iff (l : List (Nat × Cell)) (h : (keys l).Nodup) (a : Nat) (v : Cell) :
    lastVal l a = some v ↔ (a, v) ∈ l := by
  rw [lastVal_eq h]
  constructor
  · split
    · next hh =>
      intro hv
      rw [← Option.some.inj hv]
      exact mem_of_aHas _ _ _ hh
    · intro hv
      cases hv
  · intro hm
    rw [if_pos ((aHas_iff_mem_keys l a).2 (List.mem_map_of_mem (f := Prod.fst) hm)),
      aGet_of_mem _ l h _ hm]

theorem lastVal_filter {l : List (Nat × Cell)} (h : (keys l).Nodup) (keep : Nat × Cell → Bool)
    (a : Nat) : lastVal (l.filter keep) a = (lastVal l a).filter (fun v => keep (a, v)) := by
  have hf : (keys (l.filter keep)).Nodup := (List.filter_sublist.map _).nodup h
  apply Option.ext
  intro v
  rw [lastVal_some_iff _ hf, List.mem_filter, Option.filter_eq_some_iff, lastVal_some_iff _ h]

theorem nodup_keys_foldl_aUpd {β : Type} (d : β) (f : β → β) :
    ∀ (ts : List Nat) (a : List (Nat × β)), (keys a).Nodup →
    (keys (ts.foldl (fun a t => aUpd d a t f) a)).Nodup := by
  intro ts
  induction ts with
  | nil =>
    intro a h
    exact h
  | cons t0 rest ih =>
    intro a h
    exact ih _ (nodup_keys_aUpd d a t0 f h)

/-- the loop body of `get_reverse_adjustments` for a changed row `(row, old, new)` -/
def noteChange (k : Kind) (a : Affected) (e : Nat × Cell × Cell) : Affected :=
  addAdditions (addRemovals a e.1 (refs k e.2.1)) e.1 (refs k e.2.2)

theorem mem_noteChange (k : Kind) (a : Affected) (e : Nat × Cell × Cell) (t x : Nat) :
    (x ∈ (aGet ([], []) (noteChange k a e) t).1 ↔
      x ∈ (aGet ([], []) a t).1 ∨ (e.1 = x ∧ t ∈ refs k e.2.1)) ∧
    (x ∈ (aGet ([], []) (noteChange k a e) t).2 ↔
      x ∈ (aGet ([], []) a t).2 ∨ (e.1 = x ∧ t ∈ refs k e.2.2)) := by
  unfold noteChange addAdditions addRemovals
  rw [aGet_foldl_aUpd _ _ (fun p => by simp only [setAdd_idem]),
    aGet_foldl_aUpd _ _ (fun p => by simp only [setAdd_idem])]
  split <;> split <;> simp [mem_setAdd, *, eq_comm]

theorem aHas_noteChange (k : Kind) (a : Affected) (e : Nat × Cell × Cell) (t : Nat) :
    aHas (noteChange k a e) t = true ↔ aHas a t = true ∨ t ∈ refs k e.2.1 ∨ t ∈ refs k e.2.2 := by
  unfold noteChange addAdditions addRemovals
  simp only [aHas_foldl_aUpd, Bool.or_eq_true, decide_eq_true_eq, or_assoc]

theorem nodup_keys_noteChange (k : Kind) (a : Affected) (e : Nat × Cell × Cell)
    (h : (keys a).Nodup) : (keys (noteChange k a e)).Nodup :=
  nodup_keys_foldl_aUpd _ _ _ _ (nodup_keys_foldl_aUpd _ _ _ _ h)

theorem collect_eq_foldl (k : Kind) : ∀ (tr : List (Nat × Cell × Cell)) (a : Affected),
    collect k tr a = (tr.filter (fun e => e.2.2 ≠ e.2.1)).foldl (noteChange k) a := by
  intro tr
  induction tr with
  | nil =>
    intro a
    rfl
  | cons e rest ih =>
    intro a
    rw [collect, ih, List.filter_cons]
    by_cases h : e.2.2 = e.2.1 <;> simp [h, noteChange]

/-- `listToValue` made total (the error case is never looked at) -/
def listToValueD (k : Kind) (l : List Nat) : Cell :=
  match listToValue k l with
  | .ok v => v
  | .error _ => .alt

theorem listToValue_spec (k : Kind) (l : List Nat) :
    (listToValue k l = .ok (listToValueD k l) ∧ ¬ (k = .ref ∧ l.length > 1)) ∨
    (listToValue k l = .error .uniqueReference ∧ k = .ref ∧ l.length > 1) := by
  cases k with
  | refList => exact Or.inl ⟨rfl, fun h => nomatch h.1⟩
  | ref =>
    by_cases h : l.length > 1
    · exact Or.inr ⟨if_pos h, rfl, h⟩
    · exact Or.inl ⟨by simp only [listToValueD, listToValue, if_neg h], fun g => h g.2⟩

theorem toValues_spec (k : Kind) (adj : List (Nat × List Nat)) :
    (toValues k adj = .ok (adj.map (fun e => (e.1, listToValueD k e.2))) ∧
      ∀ e ∈ adj, ¬ (k = .ref ∧ e.2.length > 1)) ∨
    (toValues k adj = .error .uniqueReference ∧ k = .ref ∧ ∃ e ∈ adj, e.2.length > 1) := by
  induction adj with
  | nil => exact Or.inl ⟨rfl, fun _ h => nomatch h⟩
  | cons e rest ih =>
    rw [toValues]
    rcases listToValue_spec k e.2 with ⟨h1, h2⟩ | ⟨h1, hk, h2⟩
    · rcases ih with ⟨i1, i2⟩ | ⟨i1, hk, en, hen, hl⟩
      · refine Or.inl ⟨?_, List.forall_mem_cons.2 ⟨h2, i2⟩⟩
        rw [h1, i1]
        rfl
      · exact Or.inr ⟨by rw [h1, i1], hk, en, List.mem_cons_of_mem _ hen, hl⟩
    · exact Or.inr ⟨by rw [h1], hk, e, List.mem_cons_self, h2⟩

theorem toValues_ok {k : Kind} {adj : List (Nat × List Nat)} {vals : List (Nat × Cell)}
    (h : toValues k adj = .ok vals) :
    vals = adj.map (fun e => (e.1, listToValueD k e.2)) ∧ ∀ e ∈ adj, ¬ (k = .ref ∧ e.2.length > 1) := by
  rcases toValues_spec k adj with ⟨h1, h2⟩ | ⟨h1, _⟩
  · exact ⟨Except.ok.inj (h.symm.trans h1), h2⟩
  · rw [h1] at h
    cases h

theorem toValues_error_iff (k : Kind) (adj : List (Nat × List Nat)) :
    toValues k adj = .error .uniqueReference ↔ k = .ref ∧ ∃ e ∈ adj, e.2.length > 1 := by
  constructor
  · intro h
    rcases toValues_spec k adj with ⟨h1, _⟩ | ⟨_, h2⟩
    · rw [h1] at h
      cases h
    · exact h2
  · rintro ⟨hk, e, he, hl⟩
    rcases toValues_spec k adj with ⟨_, h2⟩ | ⟨h1, _⟩
    · exact absurd ⟨hk, hl⟩ (h2 e he)
    · exact h1

theorem toValues_total {k : Kind} : ∀ (adj : List (Nat × List Nat)),
    (∀ e ∈ adj, ¬ (k = .ref ∧ e.2.length > 1)) → ∃ vals, toValues k adj = .ok vals := by
  intro adj h
  rcases toValues_spec k adj with ⟨h1, _⟩ | ⟨_, hk, e, he, hl⟩
  · exact ⟨_, h1⟩
  · exact absurd ⟨hk, hl⟩ (h e he)

theorem mem_refs_listToValueD {k : Kind} {l : List Nat} (hok : ¬ (k = .ref ∧ l.length > 1))
    {a : Nat} (ha : a ≠ 0) : a ∈ refs k (listToValueD k l) ↔ a ∈ l := by
  cases k with
  | ref =>
    match l, hok with
    | [], _ => simp [listToValueD, listToValue, refs]
    | [c], _ => by_cases hc : c = 0 <;> simp [listToValueD, listToValue, refs, hc, ha]
    | _ :: _ :: _, hok => exact absurd ⟨rfl, by simp⟩ hok
  | refList => cases l <;> simp [listToValueD, listToValue, refs]

theorem zip3_map (f : Nat → Cell) : ∀ (rows : List Nat) (vals : List Cell),
    zip3 rows (rows.map f) vals = (rows.zip vals).map (fun e => (e.1, f e.1, e.2)) := by
  intro rows
  induction rows with
  | nil =>
    intro vals
    rfl
  | cons r rest ih =>
    intro vals
    cases vals with
    | nil => rfl
    | cons v vs => simp only [List.map_cons, zip3, ih, List.zip_cons_cons]

theorem keys_zip_sublist : ∀ (rows : List Nat) (vals : List Cell),
    (keys (rows.zip vals)).Sublist rows := by
  intro rows
  induction rows with
  | nil =>
    intro vals
    exact List.Sublist.slnil
  | cons r rest ih =>
    intro vals
    cases vals with
    | nil => exact List.nil_sublist _
    | cons v vs => exact (ih vs).cons_cons r

theorem nodup_keys_trim (c : Col) (rows : List Nat) (vals : List Cell) (h : rows.Nodup) :
    (keys (trimUpdate c rows vals)).Nodup :=
  ((List.filter_sublist.map _).trans (keys_zip_sublist rows vals)).nodup h

/-- the loop over the changed rows `(row, new value)`; the old value is the stored one -/
def noteAll (c : Col) (ups : List (Nat × Cell)) (a : Affected) : Affected :=
  ups.foldl (fun a e => noteChange c.kind a (e.1, rawGet c e.1, e.2)) a

theorem noteAll_spec (c : Col) : ∀ (ups : List (Nat × Cell)) (a : Affected) (b : Nat),
    (∀ x, x ∈ (aGet ([], []) (noteAll c ups a) b).1 ↔
        x ∈ (aGet ([], []) a b).1 ∨ ∃ e ∈ ups, e.1 = x ∧ b ∈ refs c.kind (rawGet c e.1)) ∧
    (∀ x, x ∈ (aGet ([], []) (noteAll c ups a) b).2 ↔
        x ∈ (aGet ([], []) a b).2 ∨ ∃ e ∈ ups, e.1 = x ∧ b ∈ refs c.kind e.2) ∧
    (aHas (noteAll c ups a) b = true ↔
        aHas a b = true ∨ ∃ e ∈ ups, b ∈ refs c.kind (rawGet c e.1) ∨ b ∈ refs c.kind e.2) ∧
    ((keys a).Nodup → (keys (noteAll c ups a)).Nodup) := by
  intro ups
  induction ups with
  | nil =>
    intro a b
    simp [noteAll]
  | cons e rest ih =>
    intro a b
    obtain ⟨i1, i2, i3, i4⟩ := ih (noteChange c.kind a (e.1, rawGet c e.1, e.2)) b
    simp only [List.mem_cons, exists_eq_or_imp]
    refine ⟨fun x => ?_, fun x => ?_, ?_, fun h => i4 (nodup_keys_noteChange _ _ _ h)⟩
    · exact (i1 x).trans (by rw [(mem_noteChange _ _ _ _ _).1, or_assoc])
    · exact (i2 x).trans (by rw [(mem_noteChange _ _ _ _ _).2, or_assoc])
    · exact i3.trans (by rw [aHas_noteChange, or_assoc])

/-- `affected_target_rows` of an update: only rows surviving `trim_update_action` count -/
def affOf (c : Col) (rows : List Nat) (vals : List Cell) : Affected :=
  noteAll c (trimUpdate c rows vals) []

theorem reverseAdjustments_eq (c : Col) (rows : List Nat) (vals : List Cell) :
    reverseAdjustments c.kind c.inv rows (rows.map (rawGet c)) vals =
      (affOf c rows vals).map (adjustOne c.inv) := by
  rw [reverseAdjustments, collect_eq_foldl, zip3_map, List.filter_map, List.foldl_map]
  -- the rows passing `new != old` are those of `trimUpdate`
  rfl

/-- the reverse value computed for target `b`, before sorting -/
def revVal (c : Col) (rows : List Nat) (vals : List Cell) (b : Nat) : List Nat :=
  (aGet ([], []) (affOf c rows vals) b).2.foldl setAdd
    ((aGet ([], []) (affOf c rows vals) b).1.foldl setDiscard (invGet c.inv b))

theorem exists_write_iff {l : List (Nat × Cell)} (h : (keys l).Nodup) (a : Nat)
    (P : Nat × Cell → Prop) :
    (∃ e ∈ l, e.1 = a ∧ P e) ↔ ∃ v, lastVal l a = some v ∧ P (a, v) := by
  constructor
  · rintro ⟨e, he, rfl, hp⟩
    exact ⟨e.2, (lastVal_some_iff l h e.1 e.2).2 he, hp⟩
  · rintro ⟨v, hv, hp⟩
    exact ⟨(a, v), (lastVal_some_iff l h a v).1 hv, rfl, hp⟩

/-- Core of C11: the reverse value computed for ANY target `b` is the set of rows referring to `b`
    after the update. -/
theorem mem_revVal {c : Col} (hc : Exact c) {rows : List Nat} (hnd : rows.Nodup) (vals : List Cell)
    (a b : Nat) : a ∈ revVal c rows vals b ↔ b ∈ refs c.kind (newVal c rows vals a) := by
  obtain ⟨h1, h2, _, _⟩ := noteAll_spec c (trimUpdate c rows vals) [] b
  have hk := nodup_keys_trim c rows vals hnd
  unfold revVal newVal affOf
  rw [mem_foldl_setAdd, mem_foldl_setDiscard, h1, h2, hc]
  simp only [aGet, List.not_mem_nil, false_or,
    exists_write_iff hk a (fun e => b ∈ refs c.kind (rawGet c e.1)),
    exists_write_iff hk a (fun e => b ∈ refs c.kind e.2)]
  -- a changed row withdraws its old references and adds its new ones
  cases lastVal (trimUpdate c rows vals) a <;> simp

end Grist.Refs
