/-
C16, the evaluator.  Defines `ValHasTy` (a run-time value has a schema type), `EnvOk` and `renEnv`; proves
`eval_sound` (a record carries the table the schema predicts), `eval_rename` (evaluation commutes with a
fresh, safe rename of document and formula) and `check_sound`.
-/
import GristModel.FormulaRename
namespace Grist.FormulaRename

def AtomHasTy : Atom → ATy → Prop
  | .int _, .int => True
  | .str _, .text => True
  | .bool _, .bool => True
  | .rcd t _, .rcd t' => t = t'
  | _, _ => False

def ValHasTy (d : Doc) : Val → Ty → Prop
  | .err _, _ => True
  | .atom a, .atom τ => AtomHasTy a τ
  | .recs t _, .recs t' => t = t'
  | .list as, .list τ => ∀ a ∈ as, AtomHasTy a τ
  | .kws t l ob, .kws t' => t = t' ∧ (∀ p ∈ l, (colTypeOf d t p.1).isSome = true) ∧
      colsExist d t (ob.getD [])
  | _, _ => False

def EnvOk (Γ : List (Name × Name)) (env : List (Name × Name × Nat)) : Prop :=
  env.map (fun e => (e.1, e.2.1)) = Γ

def renEnv (ρ : Ren) (env : List (Name × Name × Nat)) : List (Name × Name × Nat) :=
  env.map (fun e => (e.1, ρ.tabOf e.2.1, e.2.2))

theorem find?_key_some {α : Type} {key : α → Name} {l : List α} {c : Name} {x : α}
    (h : l.find? (fun a => key a == c) = some x) : x ∈ l ∧ key x = c :=
  ⟨List.mem_of_find?_eq_some h, by simpa using List.find?_some h⟩

theorem findCol_some {tb : Table} {c : Name} {col : Col} (h : findCol tb c = some col) :
    col ∈ tb.cols ∧ col.name = c :=
  find?_key_some h

theorem find?_map_of_inj {α : Type} (key : α → Name) (f : α → α) (g : Name → Name)
    (hkey : ∀ a, key (f a) = g (key a)) {c : Name} {x : α} :
    ∀ (l : List α), (∀ a ∈ l, ∀ b ∈ l, g (key a) = g (key b) → key a = key b) →
      l.find? (fun a => key a == c) = some x →
      (l.map f).find? (fun a => key a == g c) = some (f x)
  | [], _, h => by cases h
  | a :: l, hinj, h => by
    rw [List.map_cons, List.find?_cons, hkey]
    rw [List.find?_cons] at h
    by_cases ha : key a = c
    · simp only [ha, beq_self_eq_true, Option.some.injEq] at h ⊢
      rw [h]
    · simp only [beq_eq_false_iff_ne.mpr ha] at h
      obtain ⟨hx, rfl⟩ := find?_key_some h
      have hne : g (key a) ≠ g (key x) := fun e =>
        ha (hinj a List.mem_cons_self x (List.mem_cons_of_mem a hx) e)
      simp only [beq_eq_false_iff_ne.mpr hne]
      exact find?_map_of_inj key f g hkey l
        (fun p hp q hq => hinj p (List.mem_cons_of_mem a hp) q (List.mem_cons_of_mem a hq)) h

/-- Both `Ren.tabOf` and `Ren.colOf` have this shape: injective on names other than `n`. -/
theorem ite_new_inj {p q : Prop} [Decidable p] [Decidable q] {a b o n : Name} (hp : p → a = o)
    (hq : q → b = o) (ha : a ≠ n) (hb : b ≠ n) (h : (if p then n else a) = (if q then n else b)) :
    a = b := by
  by_cases h1 : p <;> by_cases h2 : q <;> simp only [h1, h2, if_true, if_false] at h
  · rw [hp h1, hq h2]
  · exact absurd h.symm hb
  · exact absurd h ha
  · exact h

theorem tabOf_inj {ρ : Ren} {d : Doc} (hf : Fresh ρ d) {a b : Table} (ha : a ∈ d) (hb : b ∈ d)
    (h : ρ.tabOf a.name = ρ.tabOf b.name) : a.name = b.name := by
  cases ρ with
  | col T o n => exact h
  | tab o n => exact ite_new_inj id id (hf a ha) (hf b hb) h

theorem colOf_inj {ρ : Ren} {d : Doc} (hf : Fresh ρ d) {tb : Table} (htb : tb ∈ d) {a b : Col}
    (ha : a ∈ tb.cols) (hb : b ∈ tb.cols) (h : ρ.colOf tb.name a.name = ρ.colOf tb.name b.name) :
    a.name = b.name := by
  cases ρ with
  | tab o n => exact h
  | col T o n =>
    by_cases ht : tb.name = T
    · exact ite_new_inj And.right And.right (hf tb htb ht a ha) (hf tb htb ht b hb) h
    · simpa only [Ren.colOf, ht, false_and, if_false] using h

theorem findTable_rename {ρ : Ren} {d : Doc} (hf : Fresh ρ d) {t : Name} {tb : Table}
    (h : findTable d t = some tb) :
    findTable (renameDoc ρ d) (ρ.tabOf t) = some (renTable ρ tb) :=
  find?_map_of_inj Table.name (renTable ρ) ρ.tabOf (fun _ => rfl) d
    (fun _ ha _ hb => tabOf_inj hf ha hb) h

theorem findCol_rename {ρ : Ren} {d : Doc} (hf : Fresh ρ d) {t c : Name} {tb : Table} {col : Col}
    (h1 : findTable d t = some tb) (h2 : findCol tb c = some col) :
    findCol (renTable ρ tb) (ρ.colOf t c) = some (renCol ρ t col) := by
  obtain ⟨hmem, rfl⟩ := find?_key_some h1
  exact find?_map_of_inj Col.name (renCol ρ tb.name) (ρ.colOf tb.name) (fun _ => rfl) tb.cols
    (fun _ ha _ hb => colOf_inj hf hmem ha hb) h2

theorem colTypeOf_of_findTable {d : Doc} {t : Name} {tb : Table} (h : findTable d t = some tb)
    (c : Name) : colTypeOf d t c = (findCol tb c).map (·.ty) := by
  simp only [colTypeOf, h]

theorem colTypeOf_isSome {d : Doc} {t c : Name} (h : (colTypeOf d t c).isSome = true) :
    ∃ tb col, findTable d t = some tb ∧ findCol tb c = some col ∧ colTypeOf d t c = some col.ty := by
  cases h1 : findTable d t with
  | none =>
    simp only [colTypeOf, h1] at h
    cases h
  | some tb =>
    rw [colTypeOf_of_findTable h1] at h ⊢
    cases h2 : findCol tb c with
    | none =>
      rw [h2] at h
      cases h
    | some col => exact ⟨tb, col, rfl, h2, rfl⟩

theorem renameVal_atom (ρ : Ren) (a : Atom) : renameVal ρ (.atom a) = .atom (renAtom ρ a) := rfl
theorem renameVal_recs (ρ : Ren) (t : Name) (ids : List Nat) :
    renameVal ρ (.recs t ids) = .recs (ρ.tabOf t) ids := rfl
theorem renameVal_list (ρ : Ren) (as : List Atom) :
    renameVal ρ (.list as) = .list (as.map (renAtom ρ)) := rfl
theorem renameVal_err (ρ : Ren) (e : Err) : renameVal ρ (.err e) = .err e := rfl
theorem renameVal_kws (ρ : Ren) (t : Name) (l : List (Name × Atom)) (ob : Option (List (Bool × Name))) :
    renameVal ρ (.kws t l ob) = .kws (ρ.tabOf t) (l.map (fun p => (ρ.colOf t p.1, renAtom ρ p.2)))
      (ob.map (fun o => o.map (fun p => (p.1, ρ.colOf t p.2)))) := rfl
theorem renAtom_rcd (ρ : Ren) (t : Name) (id : Nat) : renAtom ρ (.rcd t id) = .rcd (ρ.tabOf t) id := rfl
theorem renAtom_int (ρ : Ren) (n : Int) : renAtom ρ (.int n) = .int n := rfl
theorem renAtom_str (ρ : Ren) (x : Name) : renAtom ρ (.str x) = .str x := rfl
theorem renAtom_bool (ρ : Ren) (b : Bool) : renAtom ρ (.bool b) = .bool b := rfl

theorem fieldVal_ren (ρ : Ren) (ty : ColType) (c : Option Cell) :
    fieldVal (renColType ρ ty) c = renameVal ρ (fieldVal ty c) := by
  cases ty <;> cases c with
  | none => rfl
  | some x => cases x <;> rfl

theorem collectAtoms_ren (ρ : Ren) : ∀ (vs : List Val),
    collectAtoms (vs.map (renameVal ρ)) = renameVal ρ (collectAtoms vs)
  | [] => rfl
  | .atom a :: vs => by
    simp only [List.map_cons, renameVal, collectAtoms, collectAtoms_ren ρ vs]
    cases collectAtoms vs <;> rfl
  | .recs .. :: _ | .list _ :: _ | .kws .. :: _ | .err _ :: _ => rfl

theorem collectAtoms_fieldVal_ren (ρ : Ren) (ty : ColType) (cs : List (Option Cell)) :
    collectAtoms (cs.map (fieldVal (renColType ρ ty))) =
      renameVal ρ (collectAtoms (cs.map (fieldVal ty))) := by
  rw [← collectAtoms_ren, List.map_map]
  congr 2
  funext c
  exact fieldVal_ren ρ ty c

theorem fieldVals_ren (ρ : Ren) (ty : ColType) (cs : List (Option Cell)) :
    fieldVals (renColType ρ ty) cs = renameVal ρ (fieldVals ty cs) := by
  cases ty with
  | int => exact collectAtoms_fieldVal_ren ρ .int cs
  | text => exact collectAtoms_fieldVal_ren ρ .text cs
  | ref u =>
    simp only [renColType, fieldVals]
    cases cs.mapM refId <;> rfl
  | refList u => rfl

theorem fieldOf_ren {ρ : Ren} {d : Doc} (hf : Fresh ρ d) {t c : Name} (id : Nat)
    (h : (colTypeOf d t c).isSome = true) :
    fieldOf (renameDoc ρ d) (ρ.tabOf t) id (ρ.colOf t c) = renameVal ρ (fieldOf d t id c) := by
  obtain ⟨tb, col, h1, h2, _⟩ := colTypeOf_isSome h
  simp only [fieldOf, findTable_rename hf h1, findCol_rename hf h1 h2, h1, h2]
  exact fieldVal_ren ρ col.ty _

theorem fieldsOf_ren {ρ : Ren} {d : Doc} (hf : Fresh ρ d) {t c : Name} (ids : List Nat)
    (h : (colTypeOf d t c).isSome = true) :
    fieldsOf (renameDoc ρ d) (ρ.tabOf t) ids (ρ.colOf t c) = renameVal ρ (fieldsOf d t ids c) := by
  obtain ⟨tb, col, h1, h2, _⟩ := colTypeOf_isSome h
  simp only [fieldsOf, findTable_rename hf h1, findCol_rename hf h1 h2, h1, h2]
  exact fieldVals_ren ρ col.ty _

theorem matchCell_ren (ρ : Ren) (c : Option Cell) (a : Atom) :
    matchCell c (renAtom ρ a) = matchCell c a := by
  cases a with
  | rcd t id =>
    cases c with
    | none => rfl
    | some x => cases x <;> rfl
  | _ => rfl

/-- Only two integers or two strings are combined, so table names never matter. -/
theorem evalOp_ren (ρ : Ren) (op : Op) (a b : Val) :
    evalOp op (renameVal ρ a) (renameVal ρ b) = renameVal ρ (evalOp op a b) := by
  cases a with
  | err e => rfl
  | atom x =>
    cases b with
    | atom y =>
      cases x with
      | int => cases y with
        | int => cases op <;> rfl
        | _ => rfl
      | str => cases y with
        | str => cases op <;> rfl
        | _ => rfl
      | _ => cases y <;> rfl
    | _ => cases x <;> rfl
  | _ => cases b <;> rfl

theorem findCol_of_colTypeOf {d : Doc} {t c : Name} {tb : Table} (h1 : findTable d t = some tb)
    (h : (colTypeOf d t c).isSome = true) : ∃ col, findCol tb c = some col := by
  rw [colTypeOf_of_findTable h1, Option.isSome_map] at h
  exact Option.isSome_iff_exists.mp h

theorem resolveKws_ren {ρ : Ren} {d : Doc} (hf : Fresh ρ d) {t : Name} {tb : Table}
    (h1 : findTable d t = some tb) :
    ∀ (l : List (Name × Atom)), (∀ p ∈ l, (colTypeOf d t p.1).isSome = true) →
    resolveKws (renTable ρ tb) (l.map (fun p => (ρ.colOf t p.1, renAtom ρ p.2))) =
      (resolveKws tb l).map (List.map (fun kc => (kc.1, renAtom ρ kc.2)))
  | [], _ => rfl
  | (k, a) :: rest, h => by
    obtain ⟨col, h2⟩ := findCol_of_colTypeOf h1 (h (k, a) List.mem_cons_self)
    simp only [List.map_cons, resolveKws, findCol_rename hf h1 h2, h2,
      resolveKws_ren hf h1 rest (fun q hq => h q (List.mem_cons_of_mem _ hq))]
    cases resolveKws tb rest <;> rfl

theorem resolveOrder_ren {ρ : Ren} {d : Doc} (hf : Fresh ρ d) {t : Name} {tb : Table}
    (h1 : findTable d t = some tb) :
    ∀ (o : List (Bool × Name)), colsExist d t o →
    resolveOrder (renTable ρ tb) (o.map (fun p => (p.1, ρ.colOf t p.2))) = resolveOrder tb o
  | [], _ => rfl
  | (desc, c) :: rest, h => by
    obtain ⟨col, h2⟩ := findCol_of_colTypeOf h1 (h (desc, c) List.mem_cons_self)
    simp only [List.map_cons, resolveOrder, findCol_rename hf h1 h2, h2,
      resolveOrder_ren hf h1 rest (fun q hq => h q (List.mem_cons_of_mem _ hq))]
    cases resolveOrder tb rest <;> rfl

theorem doLookup_ren {ρ : Ren} {d : Doc} (hf : Fresh ρ d) {t : Name}
    (ht : (findTable d t).isSome = true) (l : List (Name × Atom)) (ob : Option (List (Bool × Name)))
    (one : Bool) (hl : ∀ p ∈ l, (colTypeOf d t p.1).isSome = true) (ho : colsExist d t (ob.getD [])) :
    doLookup (renameDoc ρ d) (ρ.tabOf t) (l.map (fun p => (ρ.colOf t p.1, renAtom ρ p.2)))
        (ob.map (fun o => o.map (fun p => (p.1, ρ.colOf t p.2)))) one =
      renameVal ρ (doLookup d t l ob one) := by
  obtain ⟨tb, h1⟩ := Option.isSome_iff_exists.mp ht
  have hob : (ob.map (fun o => o.map (fun p => (p.1, ρ.colOf t p.2)))).getD [] =
      (ob.getD []).map (fun p => (p.1, ρ.colOf t p.2)) := by cases ob <;> rfl
  simp only [doLookup, findTable_rename hf h1, h1, hob, resolveKws_ren hf h1 l hl,
    resolveOrder_ren hf h1 _ ho]
  cases resolveKws tb l with
  | none => rfl
  | some kcs =>
    cases resolveOrder tb (ob.getD []) with
    | none => rfl
    | some ocs =>
      -- the filter sees the renamed keys only through `matchCell`, which ignores table names
      simp only [Option.map_some, renTable, List.all_map, Function.comp_def, matchCell_ren]
      cases one <;> rfl

theorem doPrevNext_ren {ρ : Ren} {d : Doc} (hf : Fresh ρ d) {t : Name}
    (ht : (findTable d t).isSome = true) (f : PN) (id : Nat) (gb ob : List (Bool × Name))
    (hg : colsExist d t gb) (ho : colsExist d t ob) :
    doPrevNext (renameDoc ρ d) f (ρ.tabOf t) id (gb.map (fun p => (p.1, ρ.colOf t p.2)))
        (ob.map (fun p => (p.1, ρ.colOf t p.2))) =
      renameVal ρ (doPrevNext d f t id gb ob) := by
  obtain ⟨tb, h1⟩ := Option.isSome_iff_exists.mp ht
  simp only [doPrevNext, findTable_rename hf h1, h1, resolveOrder_ren hf h1 _ hg,
    resolveOrder_ren hf h1 _ ho]
  cases resolveOrder tb gb with
  | none => rfl
  | some gcs =>
    cases resolveOrder tb ob with
    | none => rfl
    | some ocs =>
      simp only [renTable]
      split
      · rfl
      · cases f <;> rfl

theorem lookupVar_ren (ρ : Ren) (x : Name) : ∀ (env : List (Name × Name × Nat)),
    lookupVar (env.map (fun e => (e.1, ρ.tabOf e.2.1, e.2.2))) x =
      (lookupVar env x).map (fun r => (ρ.tabOf r.1, r.2))
  | [] => rfl
  | (y, t, id) :: rest => by
    simp only [List.map_cons, lookupVar]
    split
    · rfl
    · exact lookupVar_ren ρ x rest

theorem sumInts_ren (ρ : Ren) : ∀ (as : List Atom), sumInts (as.map (renAtom ρ)) = sumInts as
  | [] => rfl
  | .int n :: rest => congrArg (Option.map (n + ·)) (sumInts_ren ρ rest)
  | .str _ :: _ | .bool _ :: _ | .rcd .. :: _ => rfl

theorem maxInts_ren (ρ : Ren) : ∀ (as : List Atom), maxInts (as.map (renAtom ρ)) = maxInts as
  | [] => rfl
  | [.int _] => rfl
  | .int n :: b :: r => congrArg (Option.map fun m => if n < m then m else n) (maxInts_ren ρ (b :: r))
  | .str _ :: rest | .bool _ :: rest | .rcd _ _ :: rest => by cases rest <;> rfl

/-- `ValHasTy` as an inductive family: `cases` leaves an error or the one shape of the type.
    A keyword list also remembers that its table exists. -/
inductive WT (d : Doc) : Val → Ty → Prop
  | err (e : Err) (τ : Ty) : WT d (.err e) τ
  | int (n : Int) : WT d (.atom (.int n)) (.atom .int)
  | str (s : Name) : WT d (.atom (.str s)) (.atom .text)
  | bool (b : Bool) : WT d (.atom (.bool b)) (.atom .bool)
  | rcd (t : Name) (id : Nat) : WT d (.atom (.rcd t id)) (.atom (.rcd t))
  | recs (t : Name) (ids : List Nat) : WT d (.recs t ids) (.recs t)
  | list {as : List Atom} {τ : ATy} : (∀ a ∈ as, WT d (.atom a) (.atom τ)) → WT d (.list as) (.list τ)
  | kws {t : Name} {l : List (Name × Atom)} {ob : Option (List (Bool × Name))} :
      (findTable d t).isSome = true → (∀ p ∈ l, (colTypeOf d t p.1).isSome = true) →
      colsExist d t (ob.getD []) → WT d (.kws t l ob) (.kws t)

theorem valHasTy_err (d : Doc) (e : Err) (τ : Ty) : ValHasTy d (.err e) τ := by
  cases τ <;> trivial

theorem WT.valHasTy {d : Doc} {v : Val} {τ : Ty} (h : WT d v τ) : ValHasTy d v τ := by
  cases h with
  | err e τ => exact valHasTy_err d e τ
  | int | str | bool => trivial
  | rcd | recs => rfl
  | list h =>
    intro a ha
    cases h a ha with
    | int | str | bool => trivial
    | rcd => rfl
  | kws _ hl ho => exact ⟨rfl, hl, ho⟩

theorem fieldVal_wt (d : Doc) (ty : ColType) (c : Option Cell) :
    WT d (fieldVal ty c) (fieldTy ty) := by
  cases ty <;> cases c with
  | none => constructor
  | some x => cases x <;> constructor

/-! The same as eliminators: a proof about `match v with …` supplies one argument per shape. -/

section
variable {d : Doc} {motive : Val → Prop} {v : Val} (err : ∀ x, motive (.err x))
include err

@[elab_as_elim] theorem WT.atom_elim {a : ATy} (h : WT d v (.atom a))
    (atom : ∀ x, WT d (.atom x) (.atom a) → motive (.atom x)) : motive v := by
  cases h with
  | err x => exact err x
  | int | str | bool | rcd => exact atom _ (by constructor)

@[elab_as_elim] theorem WT.bool_elim (h : WT d v (.atom .bool))
    (bool : ∀ b, motive (.atom (.bool b))) : motive v := by
  cases h with
  | err x => exact err x
  | bool b => exact bool b

@[elab_as_elim] theorem WT.rcd_elim {t : Name} (h : WT d v (.atom (.rcd t)))
    (rcd : ∀ id, motive (.atom (.rcd t id))) : motive v := by
  cases h with
  | err x => exact err x
  | rcd _ id => exact rcd id

@[elab_as_elim] theorem WT.recs_elim {t : Name} (h : WT d v (.recs t))
    (recs : ∀ ids, motive (.recs t ids)) : motive v := by
  cases h with
  | err x => exact err x
  | recs _ ids => exact recs ids

@[elab_as_elim] theorem WT.list_elim {a : ATy} (h : WT d v (.list a))
    (list : ∀ as, (∀ x ∈ as, WT d (.atom x) (.atom a)) → motive (.list as)) : motive v := by
  cases h with
  | err x => exact err x
  | list has => exact list _ has

@[elab_as_elim] theorem WT.kws_elim {t : Name} (h : WT d v (.kws t))
    (kws : ∀ l ob, (findTable d t).isSome = true → (∀ p ∈ l, (colTypeOf d t p.1).isSome = true) →
      colsExist d t (ob.getD []) → motive (.kws t l ob)) : motive v := by
  cases h with
  | err x => exact err x
  | kws ht hl ho => exact kws _ _ ht hl ho

end

theorem collectAtoms_wt (d : Doc) (τ : ATy) : ∀ (vs : List Val),
    (∀ v ∈ vs, WT d v (.atom τ)) → WT d (collectAtoms vs) (.list τ)
  | [], _ => .list nofun
  | v :: rest, h => by
    have hr := collectAtoms_wt d τ rest fun w hw => h w (List.mem_cons_of_mem _ hw)
    unfold collectAtoms
    refine (h v List.mem_cons_self).atom_elim (fun _ => .err _ _) fun a ha => ?_
    refine hr.list_elim (fun _ => .err _ _) fun as has => .list fun b hb => ?_
    rcases List.mem_cons.mp hb with rfl | hb
    · exact ha
    · exact has b hb

theorem fieldOf_wt {d : Doc} {t c : Name} {ct : ColType} (id : Nat) (h : colTypeOf d t c = some ct) :
    WT d (fieldOf d t id c) (fieldTy ct) := by
  obtain ⟨tb, col, h1, h2, h3⟩ := colTypeOf_isSome (by rw [h]; rfl)
  cases h.symm.trans h3
  simp only [fieldOf, h1, h2]
  exact fieldVal_wt d col.ty _

theorem collectAtoms_fieldVal_wt (d : Doc) {ty : ColType} {τ : ATy} (hτ : fieldTy ty = .atom τ)
    (cs : List (Option Cell)) : WT d (collectAtoms (cs.map (fieldVal ty))) (.list τ) :=
  collectAtoms_wt d τ _ fun v hv => by
    obtain ⟨c, _, rfl⟩ := List.mem_map.mp hv
    exact hτ ▸ fieldVal_wt d ty c

theorem fieldsOf_wt {d : Doc} {t c : Name} {ct : ColType} {τ : Ty} (ids : List Nat)
    (h : colTypeOf d t c = some ct) (hτ : fieldTyS ct = some τ) :
    WT d (fieldsOf d t ids c) τ := by
  obtain ⟨tb, col, h1, h2, h3⟩ := colTypeOf_isSome (by rw [h]; rfl)
  cases h.symm.trans h3
  simp only [fieldsOf, h1, h2]
  cases hty : col.ty <;> rw [hty] at hτ <;> cases hτ
  · exact collectAtoms_fieldVal_wt d rfl _
  · exact collectAtoms_fieldVal_wt d rfl _
  · simp only [fieldVals]
    split <;> constructor

theorem evalOp_int_wt (d : Doc) (op : Op) {va vb : Val} (ha : WT d va (.atom .int))
    (hb : WT d vb (.atom .int)) :
    WT d (evalOp op va vb) (if arithOp op = true then .atom .int else .atom .bool) := by
  cases ha with
  | err e => exact .err _ _
  | int x =>
    cases hb with
    | err e => exact .err _ _
    | int y => cases op <;> constructor

theorem evalOp_text_wt (d : Doc) (op : Op) {va vb : Val} (ha : WT d va (.atom .text))
    (hb : WT d vb (.atom .text)) (hop : eqOp op = true) : WT d (evalOp op va vb) (.atom .bool) := by
  cases ha with
  | err e => exact .err _ _
  | str x =>
    cases hb with
    | err e => exact .err _ _
    | str y =>
      cases op with
      | eq | ne => constructor
      | _ => cases hop

theorem not_arithOp_iff {op : Op} : ¬arithOp op = true ↔ eqOp op = true ∨ orderOp op = true := by
  cases op <;> decide

theorem doLookup_wt (d : Doc) (t : Name) (l : List (Name × Atom)) (ob : Option (List (Bool × Name)))
    (one : Bool) : WT d (doLookup d t l ob one) (if one then .atom (.rcd t) else .recs t) := by
  unfold doLookup
  split
  · exact .err _ _
  · split
    · cases one <;> constructor
    · exact .err _ _

theorem doPrevNext_wt (d : Doc) (f : PN) (t : Name) (id : Nat) (gb ob : List (Bool × Name)) :
    WT d (doPrevNext d f t id gb ob) (if f = .rank then .atom .int else .atom (.rcd t)) := by
  unfold doPrevNext
  split
  · exact .err _ _
  · split
    · cases f <;> (dsimp only; split <;> constructor)
    · exact .err _ _

theorem EnvOk.cons {Γ : List (Name × Name)} {env : List (Name × Name × Nat)} (h : EnvOk Γ env)
    (x t : Name) (id : Nat) : EnvOk ((x, t) :: Γ) ((x, t, id) :: env) :=
  congrArg ((x, t) :: ·) h

theorem lookupVar_ty (x : Name) : ∀ (env : List (Name × Name × Nat)),
    (lookupVar env x).map (·.1) = lookupTy (env.map (fun e => (e.1, e.2.1))) x
  | [] => rfl
  | (y, t, id) :: rest => by
    simp only [List.map_cons, lookupVar, lookupTy]
    split
    · rfl
    · exact lookupVar_ty x rest

theorem eval_wt {d : Doc} {cur : Name} {Γ : List (Name × Name)} {e : FExpr} {τ : Ty}
    (h : HasTy d cur Γ e τ) (row : Nat) (env : List (Name × Name × Nat)) (henv : EnvOk Γ env) :
    WT d (eval d cur row env e) τ := by
  induction h generalizing env with
  | lit | str | recv => constructor
  | @arith Γ op a b hop _ _ iha ihb =>
    have h := evalOp_int_wt d op (iha env henv) (ihb env henv)
    rwa [if_pos hop] at h
  | @order Γ op a b hop _ _ iha ihb =>
    have h := evalOp_int_wt d op (iha env henv) (ihb env henv)
    rwa [if_neg (not_arithOp_iff.mpr (.inr hop))] at h
  | @eqInt Γ op a b hop _ _ iha ihb =>
    have h := evalOp_int_wt d op (iha env henv) (ihb env henv)
    rwa [if_neg (not_arithOp_iff.mpr (.inl hop))] at h
  | eqText hop _ _ iha ihb =>
    exact evalOp_text_wt d _ (iha env henv) (ihb env henv) hop
  | @var Γ x t hx =>
    obtain ⟨⟨_, id⟩, h, rfl⟩ := Option.map_eq_some_iff.mp ((lookupVar_ty x env).trans (henv ▸ hx))
    unfold eval
    rw [h]
    exact .rcd _ _
  | dollar hc => exact fieldOf_wt row hc
  | attrRec _ hc ih =>
    unfold eval
    exact (ih env henv).rcd_elim (fun _ => .err _ _) fun id => fieldOf_wt id hc
  | attrRecs _ hc hτ ih =>
    unfold eval
    exact (ih env henv).recs_elim (fun _ => .err _ _) fun ids => fieldsOf_wt ids hc hτ
  | kwEnd ht hcols => exact .kws ht nofun hcols
  | kw hc _ _ _ hres ihv ihr =>
    unfold eval
    refine (ihv env henv).atom_elim (fun _ => .err _ _) fun x _ => ?_
    simp only [hres, Bool.false_eq_true, if_false]
    refine (ihr env henv).kws_elim (fun _ => .err _ _) fun l ob ht hl ho => ?_
    simp only [if_true]
    refine .kws ht (fun p hp => ?_) ho
    rcases List.mem_cons.mp hp with rfl | hp
    · rw [hc]
      rfl
    · exact hl p hp
  | @lookupOne Γ t args _ ih =>
    unfold eval
    exact (ih env henv).kws_elim (fun _ => .err _ _) fun l ob _ _ _ => by
      simpa only [if_true] using doLookup_wt d t l ob true
  | @lookupRecords Γ t args _ ih =>
    unfold eval
    exact (ih env henv).kws_elim (fun _ => .err _ _) fun l ob _ _ _ => by
      simpa only [if_true, Bool.false_eq_true, if_false] using doLookup_wt d t l ob false
  | @all Γ t ht =>
    obtain ⟨tb, h1⟩ := Option.isSome_iff_exists.mp ht
    simp only [eval, h1]
    exact .recs _ _
  | @compr Γ body x src t a _ _ ihs ihb =>
    unfold eval
    refine (ihs env henv).recs_elim (fun _ => .err _ _) fun ids => ?_
    refine collectAtoms_wt d a _ fun v hv => ?_
    obtain ⟨id, _, rfl⟩ := List.mem_map.mp hv
    exact ihb _ (henv.cons x t id)
  | lenRecs _ ih =>
    unfold eval
    exact (ih env henv).recs_elim (fun _ => .err _ _) fun _ => .int _
  | lenList _ ih =>
    unfold eval
    exact (ih env henv).list_elim (fun _ => .err _ _) fun _ _ => .int _
  | sum _ ih =>
    unfold eval
    refine (ih env henv).list_elim (fun _ => .err _ _) fun as _ => ?_
    dsimp only
    split <;> constructor
  | max _ ih =>
    unfold eval
    refine (ih env henv).list_elim (fun _ => .err _ _) fun as _ => ?_
    dsimp only
    split
    · exact .err _ _
    · split <;> constructor
  | @prevNext Γ f e t gb ob _ _ _ _ ih =>
    unfold eval
    refine (ih env henv).rcd_elim (fun _ => .err _ _) fun id => ?_
    dsimp only
    split
    · exact .err _ _
    · exact doPrevNext_wt d f t id _ _
  | ifE _ _ _ ihc iha ihb =>
    unfold eval
    refine (ihc env henv).bool_elim (fun _ => .err _ _) fun b => ?_
    cases b with
    | false =>
      dsimp only
      split
      · exact .err _ _
      · exact ihb env henv
    | true =>
      dsimp only
      split
      · exact .err _ _
      · exact iha env henv

theorem eval_sound {d : Doc} {cur : Name} {Γ : List (Name × Name)} {e : FExpr} {τ : Ty}
    (h : HasTy d cur Γ e τ) (row : Nat) (env : List (Name × Name × Nat)) (henv : EnvOk Γ env) :
    ValHasTy d (eval d cur row env e) τ :=
  (eval_wt h row env henv).valHasTy

theorem reservedKw_colOf {ρ : Ren} (hs : ρ.Safe) {t k : Name} (hk : reservedKw k = false) :
    reservedKw (ρ.colOf t k) = false := by
  cases ρ with
  | tab o n => exact hk
  | col T o n =>
    simp only [Ren.colOf]
    split
    · exact hs
    · exact hk

theorem shadowed_rename {ρ : Ren} (hs : ρ.Safe) {f : Name} (hf : f ∈ funcNames) (d : Doc) :
    shadowed (renameDoc ρ d) f = shadowed d f := by
  have hname : ∀ x : Table, ((renTable ρ x).name == f) = (x.name == f) := by
    intro x
    cases ρ with
    | col T o n => rfl
    | tab o n =>
      have ho : (o == f) = false := beq_eq_false_iff_ne.mpr fun h => hs.1 (h ▸ hf)
      have hn : (n == f) = false := beq_eq_false_iff_ne.mpr fun h => hs.2 (h ▸ hf)
      simp only [renTable, Ren.tabOf]
      split
      · next hx => rw [hx, ho, hn]
      · rfl
  simp only [shadowed, findTable, renameDoc, List.find?_map, Option.isSome_map, Function.comp_def,
    hname]

theorem ifName_mem : ifName ∈ funcNames := .head _

theorem pnName_mem (f : PN) : pnName f ∈ funcNames := by
  cases f
  · exact .tail _ (.head _)
  · exact .tail _ (.tail _ (.head _))
  · exact .tail _ (.tail _ (.tail _ (.head _)))

theorem eval_rename {ρ : Ren} {d : Doc} (hf : Fresh ρ d) (hs : ρ.Safe) {cur : Name} {Γ : List (Name × Name)}
    {e : FExpr} {τ : Ty} (h : HasTy d cur Γ e τ) (row : Nat) (env : List (Name × Name × Nat))
    (henv : EnvOk Γ env) :
    eval (renameDoc ρ d) (ρ.tabOf cur) row (renEnv ρ env) (rename ρ e) =
      renameVal ρ (eval d cur row env e) := by
  induction h generalizing env with
  | lit | str | recv => rfl
  | arith _ _ _ iha ihb | order _ _ _ iha ihb | eqInt _ _ _ iha ihb | eqText _ _ _ iha ihb =>
    unfold rename eval
    rw [iha env henv, ihb env henv, evalOp_ren]
  | @var Γ x t hx =>
    unfold rename eval renEnv
    rw [lookupVar_ren]
    cases lookupVar env x <;> rfl
  | dollar hc => exact fieldOf_ren hf row (by rw [hc]; rfl)
  | attrRec he hc ih =>
    unfold rename eval
    rw [ih env henv]
    exact (eval_wt he row env henv).rcd_elim (fun _ => rfl) fun id =>
      fieldOf_ren hf id (by rw [hc]; rfl)
  | attrRecs he hc _ ih =>
    unfold rename eval
    rw [ih env henv]
    exact (eval_wt he row env henv).recs_elim (fun _ => rfl) fun ids =>
      fieldsOf_ren hf ids (by rw [hc]; rfl)
  | @kwEnd Γ t ob _ _ => cases ob <;> rfl
  | kw _ hv _ hr hres ihv ihr =>
    unfold rename eval
    rw [ihv env henv, ihr env henv]
    refine (eval_wt hv row env henv).atom_elim (fun _ => rfl) fun x _ => ?_
    simp only [renameVal_atom, reservedKw_colOf hs hres, hres, Bool.false_eq_true, if_false]
    exact (eval_wt hr row env henv).kws_elim (fun _ => rfl) fun l ob _ _ _ => by
      simp only [renameVal_kws, if_true, List.map_cons]
  | lookupOne ha ih | lookupRecords ha ih =>
    unfold rename eval
    rw [ih env henv]
    refine (eval_wt ha row env henv).kws_elim (fun _ => rfl) fun l ob ht hl ho => ?_
    simp only [renameVal_kws, if_true]
    exact doLookup_ren hf ht _ _ _ hl ho
  | @all Γ t ht =>
    obtain ⟨tb, h1⟩ := Option.isSome_iff_exists.mp ht
    unfold rename eval
    rw [findTable_rename hf h1, h1]
    rfl
  | @compr Γ body x src t a hsrc _ ihs ihb =>
    unfold rename eval
    rw [ihs env henv]
    refine (eval_wt hsrc row env henv).recs_elim (fun _ => rfl) fun ids => ?_
    simp only [renameVal_recs]
    rw [← collectAtoms_ren, List.map_map]
    congr 2
    funext id
    exact ihb _ (henv.cons x t id)
  | @lenRecs Γ e t he ih | @lenList Γ e t he ih =>
    unfold rename eval
    rw [ih env henv]
    -- the length does not depend on the type of the argument
    cases eval d cur row env e with
    | list as => exact congrArg (fun n : Nat => Val.atom (.int n)) (List.length_map _)
    | _ => rfl
  | sum he ih =>
    unfold rename eval
    rw [ih env henv]
    refine (eval_wt he row env henv).list_elim (fun _ => rfl) fun as _ => ?_
    simp only [renameVal_list, sumInts_ren]
    cases sumInts as <;> rfl
  | max he ih =>
    unfold rename eval
    rw [ih env henv]
    refine (eval_wt he row env henv).list_elim (fun _ => rfl) fun as _ => ?_
    cases as with
    | nil => rfl
    | cons a rest =>
      simp only [renameVal_list]
      rw [List.map_cons, ← List.map_cons, maxInts_ren]
      cases maxInts (a :: rest) <;> rfl
  | @prevNext Γ f e t gb ob he ht hg ho ih =>
    unfold rename eval
    rw [ih env henv]
    refine (eval_wt he row env henv).rcd_elim (fun _ => rfl) fun id => ?_
    simp only [renameVal_atom, renAtom_rcd, shadowed_rename hs (pnName_mem f) d]
    split
    · rfl
    · rw [← doPrevNext_ren hf ht f id _ _ hg ho]
      cases gb <;> rfl
  | ifE hc _ _ ihc iha ihb =>
    unfold rename eval
    rw [ihc env henv]
    refine (eval_wt hc row env henv).bool_elim (fun _ => rfl) fun b => ?_
    have hsh := shadowed_rename hs ifName_mem d
    cases b with
    | false =>
      simp only [renameVal_atom, renAtom_bool, hsh]
      split
      · rfl
      · exact ihb env henv
    | true =>
      simp only [renameVal_atom, renAtom_bool, hsh]
      split
      · rfl
      · exact iha env henv

theorem colsExistB_sound {d : Doc} {t : Name} {items : List (Bool × Name)}
    (h : colsExistB d t items = true) : colsExist d t items :=
  fun it hit => List.all_eq_true.mp h it hit

theorem check_sound {d : Doc} {cur : Name} (e : FExpr) (Γ : List (Name × Name)) (τ : Ty) :
    check d cur Γ e = some τ → HasTy d cur Γ e τ := by
  -- one goal per branch of `check`; `cases h` closes the rejecting ones and reads off `τ` in the others
  fun_induction check d cur Γ e generalizing τ <;> intro h <;> try cases h
  · exact .lit
  · exact .str
  next hb ha hop iha ihb => exact .arith hop (iha _ ha) (ihb _ hb)
  next hb ha hop iha ihb =>
    rcases not_arithOp_iff.mp hop with hop | hop
    · exact .eqInt hop (iha _ ha) (ihb _ hb)
    · exact .order hop (iha _ ha) (ihb _ hb)
  next hb ha hop iha ihb => exact .eqText hop (iha _ ha) (ihb _ hb)
  · exact .recv
  · obtain ⟨t, ht, rfl⟩ := Option.map_eq_some_iff.mp h
    exact .var ht
  · obtain ⟨ct, hc, rfl⟩ := Option.map_eq_some_iff.mp h
    exact .dollar hc
  next he ih =>
    obtain ⟨ct, hc, rfl⟩ := Option.map_eq_some_iff.mp h
    exact .attrRec (ih _ he) hc
  next he ih =>
    obtain ⟨ct, hc, hτ⟩ := Option.bind_eq_some_iff.mp h
    exact .attrRecs (ih _ he) hc hτ
  next hc =>
    rw [Bool.and_eq_true] at hc
    exact .kwEnd hc.1 (colsExistB_sound hc.2)
  next hr hv hc hcond ihv ihr =>
    simp only [Bool.and_eq_true, beq_iff_eq, Bool.not_eq_true'] at hcond
    obtain ⟨⟨hk, rfl⟩, hres⟩ := hcond
    exact .kw hc (ihv _ hv) hk (ihr _ hr) hres
  next one _ _ ha ih =>
    cases one
    · exact .lookupRecords (ih _ ha)
    · exact .lookupOne (ih _ ha)
  next ht => exact .all ht
  next hs _ hb ihs ihb => exact .compr (ihs _ hs) (ihb _ hb)
  next he ih => exact .lenRecs (ih _ he)
  next he ih => exact .lenList (ih _ he)
  next he ih => exact .sum (ih _ he)
  next he ih => exact .max (ih _ he)
  next he hcond ih =>
    simp only [Bool.and_eq_true, decide_eq_true_eq] at hcond
    obtain ⟨⟨⟨rfl, h2⟩, h3⟩, h4⟩ := hcond
    exact .prevNext (ih _ he) h2 (colsExistB_sound h3) (colsExistB_sound h4)
  next hb hc ha ihc iha ihb => exact .ifE (ihc _ hc) (iha _ ha) (ihb _ hb)

end Grist.FormulaRename
