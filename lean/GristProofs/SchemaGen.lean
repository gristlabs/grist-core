/-
Helper lemmas for the general theorems of GristProps/C38.lean (model: GristModel/SchemaGen.lean): lists,
`pureType`, the lookups by name and the default functions.  No generated data here.  How the closed theorems
evaluate generated data is in GristProofs/SchemaChars.lean.
-/
import GristModel.SchemaGen
namespace Grist.SchemaGen

/-! ### lists -/

/-- `l.map f = l'` says: same length, and position by position `l'` holds the image. -/
theorem map_eq_iff_index {α β : Type} (f : α → β) (l : List α) (l' : List β) :
    l.map f = l' ↔ l'.length = l.length ∧ ∀ (i : Nat) (h : i < l.length), l'[i]? = some (f l[i]) := by
  constructor
  · intro h
    subst h
    exact ⟨by simp, fun i hi => by simp [hi]⟩
  · intro ⟨hlen, hidx⟩
    apply List.ext_getElem?
    intro i
    by_cases hi : i < l.length
    · rw [hidx i hi]; simp [hi]
    · have h1 : l.length ≤ i := Nat.le_of_not_lt hi
      have h2 : l'.length ≤ i := by omega
      simp [h1, h2]

theorem lookup_isSome_of_mem_keys {β : Type} (k : String) :
    ∀ (tbl : List (String × β)), k ∈ tbl.map (·.1) → ∃ v, tbl.lookup k = some v := by
  intro tbl h
  obtain ⟨p, hp, rfl⟩ := List.mem_map.mp h
  cases hl : tbl.lookup p.1 with
  | some v => exact ⟨v, rfl⟩
  | none => exact absurd rfl (bne_iff_ne.mp (List.lookup_eq_none_iff.mp hl p hp))

theorem lookup_none_of_not_mem_keys {β : Type} (k : String) :
    ∀ (tbl : List (String × β)), k ∉ tbl.map (·.1) → tbl.lookup k = none := by
  intro tbl h
  exact List.lookup_eq_none_iff.mpr fun p hp => bne_iff_ne.mpr fun e => h (List.mem_map.mpr ⟨p, hp, e.symm⟩)

/-! ### `pureType` -/

theorem takeWhile_idem {α : Type} (p : α → Bool) : ∀ l : List α, (l.takeWhile p).takeWhile p = l.takeWhile p := by
  intro l
  induction l with
  | nil => rfl
  | cons a l ih =>
    by_cases h : p a
    · simp [List.takeWhile, h, ih]
    · simp [List.takeWhile, h]

theorem pureType_idem (s : String) : pureType (pureType s) = pureType s := by
  simp [pureType, takeWhile_idem]

theorem takeWhile_append_stop {α : Type} (p : α → Bool) (c : α) (hc : p c = false) (l r : List α)
    (hl : ∀ x ∈ l, p x = true) : (l ++ c :: r).takeWhile p = l := by
  rw [List.takeWhile_append_of_pos hl, List.takeWhile_cons_of_neg (by simp [hc]), List.append_nil]

/-- `'Ref:_grist_Tables'.split(':', 1)[0] == 'Ref'` in general: a colon-free base followed by a
colon and ANY suffix (which may itself contain colons) has that base as its pure type. -/
theorem pureType_suffix (b s : String) (hb : ':' ∉ b.toList) : pureType (b ++ ":" ++ s) = b := by
  have h : (b ++ ":" ++ s).toList = b.toList ++ ':' :: s.toList := by simp
  rw [pureType, h, takeWhile_append_stop (· != ':') ':' (by decide)]
  · simp
  · intro x hx
    have : x ≠ ':' := fun e => hb (e ▸ hx)
    simpa using this

theorem takeWhile_all {α : Type} (p : α → Bool) (l : List α) (hl : ∀ x ∈ l, p x = true) :
    l.takeWhile p = l := by
  simpa using List.takeWhile_append_of_pos (l₂ := []) hl

theorem pureType_of_no_colon (b : String) (hb : ':' ∉ b.toList) : pureType b = b := by
  have : b.toList.takeWhile (· != ':') = b.toList := by
    apply takeWhile_all
    intro x hx
    have : x ≠ ':' := fun e => hb (e ▸ hx)
    simpa using this
  simp [pureType, this]

/-! ### tables, lookups, defaults -/

theorem tsTable_eq_iff (name : String) (cols : List ColSchema) (f : ColSchema → TsEntry) (tt : TsTable) :
    tt = ⟨name, cols.map f⟩ ↔
      tt.tableId = name ∧ tt.entries.length = cols.length ∧
        ∀ (j : Nat) (h : j < cols.length), tt.entries[j]? = some (f cols[j]) := by
  obtain ⟨n, es⟩ := tt
  simp only [TsTable.mk.injEq]
  constructor
  · rintro ⟨h1, h2⟩
    exact ⟨h1, (map_eq_iff_index f cols es).mp h2.symm⟩
  · rintro ⟨h1, h2⟩
    exact ⟨h1, ((map_eq_iff_index f cols es).mpr h2).symm⟩

theorem find_entries (f : ColSchema → TsEntry) (hf : ∀ c, (f c).id = c.id) (col : String) :
    ∀ cols : List ColSchema, ((cols.map f).find? (·.id == col)).map (·.ty) =
      (cols.find? (·.id == col)).map (fun c => (f c).ty)
  | [] => rfl
  | c :: cs => by
    simp only [List.map_cons, List.find?_cons, hf]
    cases (c.id == col)
    · exact find_entries f hf col cs
    · rfl

theorem tsColType_map (f : ColSchema → TsEntry) (hf : ∀ c, (f c).id = c.id) (tbl col : String) :
    ∀ tables : List TableSchema,
      tsColType (tables.map fun t => ⟨t.tableId, t.columns.map f⟩) tbl col =
        (tables.find? (·.tableId == tbl)).bind fun t =>
          (t.columns.find? (·.id == col)).map (fun c => (f c).ty)
  | [] => rfl
  | t :: ts => by
    have ih := tsColType_map f hf tbl col ts
    unfold tsColType at ih ⊢
    simp only [List.map_cons, List.find?_cons]
    cases (t.tableId == tbl)
    · exact ih
    · exact find_entries f hf col t.columns

theorem tsDefault_pure (ts : DefaultTable) (ty : String) : tsDefault ts (pureType ty) = tsDefault ts ty := by
  unfold tsDefault; rw [pureType_idem]

theorem pyDefault_pure (py : DefaultTable) (ty : String) : pyDefault py (pureType ty) = pyDefault py ty := by
  unfold pyDefault; rw [pureType_idem]

end Grist.SchemaGen
