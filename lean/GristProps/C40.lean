/-
C40  Predicate formula parse trees are faithful.
Property theorems, with `Sub` / `UnsupportedHere` and their lemmas.  Model: GristModel/Predicate.lean
(predicate_formula.parse_predicate_formula / TreeConverter).

Reading of the property (see harness/gx/props/c40.py):
 * "the supported subset"  = `supported e` (exactly what TreeConverter accepts, `accepts_iff`);
 * "evaluating with the documented node semantics" = `evalTree`, "evaluating the expression in
   Python with $x read as rec.x" = `evalExpr` (tuple displays read as list displays: documented in
   visit_Tuple);
 * "JSON-serializable" = `jsonSafe` (only lists, strings, finite numbers, bools, null).
-/
import GristProofs.Predicate
namespace Grist.Predicate

/-! ### faithfulness -/

/-- **C40 (faithful).** Whenever the converter accepts an expression, evaluating the produced tree
    with the documented node semantics gives exactly the result (value or error class) of
    evaluating the expression itself — for every expression and every environment. -/
theorem convert_faithful (ρ : Env) (e : PExpr) (t : PTree) (h : convert e = .ok t) :
    evalTree ρ t = evalExpr ρ e :=
  faithful ρ e t h

example : convert (.boolOp .or [.dollar "a", .compare (.name "x") [.in] [.tuple [.const (.int 1)]]])
    = .ok (node "Or" [node "Attr" [node "Name" [.str "rec"], .str "a"],
                      node "In" [node "Name" [.str "x"], node "List" [node "Const" [.int 1]]]]) := by rfl

-- `$a or x in (1,)` with rec.a = 0, x = 1: both evaluations give `True` (the `In` node decided)
example : evalExpr ⟨[("rec", .record 1 [("a", .int 0)]), ("x", .int 1)]⟩
    (.boolOp .or [.dollar "a", .compare (.name "x") [.in] [.tuple [.const (.int 1)]]])
    = .ok (.bool true) := by rfl
example : evalTree ⟨[("rec", .record 1 [("a", .int 0)]), ("x", .int 1)]⟩
    (node "Or" [node "Attr" [node "Name" [.str "rec"], .str "a"],
                node "In" [node "Name" [.str "x"], node "List" [node "Const" [.int 1]]]])
    = .ok (.bool true) := by rfl
-- errors are preserved as well: `None + 1` is a TypeError on both sides
example : evalExpr ⟨[]⟩ (.binOp .add (.const .none) (.const (.int 1))) = .error eType := by rfl

/-- what `parse_predicate_formula` returns: the converted tree, possibly inside a `Comment` node. -/
theorem parseFormula_ok {e : PExpr} {c : Option String} {t : PTree} (h : parseFormula e c = .ok t) :
    ∃ r, convert e = .ok r ∧ (t = r ∨ ∃ s, t = node "Comment" [r, .str s]) := by
  simp only [parseFormula, bind_ok] at h
  obtain ⟨r, hr, h⟩ := h
  refine ⟨r, hr, ?_⟩
  split at h
  · split at h <;> cases h
    · exact .inr ⟨_, rfl⟩
    · exact .inl rfl
  · cases h
    exact .inl rfl

/-- **C40 (faithful, whole function).** Same for `parse_predicate_formula` as a whole, i.e. with the
    `Comment` wrapper when the formula carries a comment. -/
theorem parse_faithful (ρ : Env) (e : PExpr) (c : Option String) (t : PTree)
    (h : parseFormula e c = .ok t) : evalTree ρ t = evalExpr ρ e := by
  obtain ⟨r, hr, rfl | ⟨s, rfl⟩⟩ := parseFormula_ok h
  · exact faithful ρ e _ hr
  · rw [node, evalTree_node]
    exact faithful ρ e _ hr

example : parseFormula (.const (.bool true)) (some "# Comment!  ")
    = .ok (node "Comment" [node "Const" [.bool true], .str "Comment!"]) := by
  rfl

/-! ### unsupported syntax is rejected, never mistranslated -/

/-- `s` occurs in `e` (at any depth, in any position). -/
inductive Sub : PExpr → PExpr → Prop where
  | refl (e) : Sub e e
  | boolOp {s op vs v} : v ∈ vs → Sub s v → Sub s (.boolOp op vs)
  | binL {s op l r} : Sub s l → Sub s (.binOp op l r)
  | binR {s op l r} : Sub s r → Sub s (.binOp op l r)
  | unary {s op e} : Sub s e → Sub s (.unaryOp op e)
  | cmpL {s l ops cs} : Sub s l → Sub s (.compare l ops cs)
  | cmpR {s l ops cs c} : c ∈ cs → Sub s c → Sub s (.compare l ops cs)
  | attr {s e a} : Sub s e → Sub s (.attr e a)
  | list {s es x} : x ∈ es → Sub s x → Sub s (.list es)
  | tuple {s es x} : x ∈ es → Sub s x → Sub s (.tuple es)
  | callF {s f args kws} : Sub s f → Sub s (.call f args kws)
  | callA {s f args kws x} : x ∈ args → Sub s x → Sub s (.call f args kws)
  | callK {s f args kws k x} : Keyword.mk k x ∈ kws → Sub s x → Sub s (.call f args kws)

/-- node kinds outside the documented list, taken at the root of `s`. -/
def UnsupportedHere : PExpr → Prop
  | .unsupported _ _ => True                 -- Lambda, IfExp, Dict, Set, comprehensions, Subscript,
                                             -- Starred, JoinedStr, NamedExpr, Await, Yield, Slice …
  | .binOp (.other _) _ _ => True            -- ** // @ | & ^ << >>
  | .unaryOp (.other _) _ => True            -- unary - + ~
  | .compare _ ops cs => ops.length ≠ 1 ∨ cs.length ≠ 1   -- chained comparison
  | _ => False

theorem supportedList_mem : ∀ {es : List PExpr} {x : PExpr}, supportedList es = true → x ∈ es →
    supported x = true
  | [], _, _, h => by cases h
  | e :: es, x, hs, h => by
    simp only [supportedList, Bool.and_eq_true] at hs
    rcases List.mem_cons.mp h with rfl | h
    · exact hs.1
    · exact supportedList_mem hs.2 h

theorem supportedKws_mem : ∀ {ks : List Keyword} {k : Option String} {x : PExpr},
    supportedKws ks = true → Keyword.mk k x ∈ ks → supported x = true
  | [], _, _, _, h => by cases h
  | .mk a e :: ks, k, x, hs, h => by
    simp only [supportedKws, Bool.and_eq_true] at hs
    rcases List.mem_cons.mp h with h | h
    · cases h
      exact hs.1
    · exact supportedKws_mem hs.2 h

theorem supported_compare (l : PExpr) (ops : List CmpOp) (cs : List PExpr)
    (h : supported (.compare l ops cs) = true) : supported l = true ∧ supportedList cs = true := by
  unfold supported at h
  split at h
  · simpa only [supportedList, Bool.and_eq_true, Bool.and_true] using h
  · cases h

theorem supported_sub {s e : PExpr} (hsub : Sub s e) : supported e = true → supported s = true := by
  induction hsub with
  | refl => exact id
  | boolOp hm _ ih =>
    intro h
    simp only [supported] at h
    exact ih (supportedList_mem h hm)
  | binL _ ih =>
    intro h
    simp only [supported, Bool.and_eq_true] at h
    exact ih h.1.2
  | binR _ ih =>
    intro h
    simp only [supported, Bool.and_eq_true] at h
    exact ih h.2
  | unary _ ih =>
    intro h
    simp only [supported, Bool.and_eq_true] at h
    exact ih h.2
  | cmpL _ ih =>
    intro h
    exact ih (supported_compare _ _ _ h).1
  | cmpR hm _ ih =>
    intro h
    exact ih (supportedList_mem (supported_compare _ _ _ h).2 hm)
  | attr _ ih =>
    intro h
    simp only [supported] at h
    exact ih h
  | list hm _ ih =>
    intro h
    simp only [supported] at h
    exact ih (supportedList_mem h hm)
  | tuple hm _ ih =>
    intro h
    simp only [supported] at h
    exact ih (supportedList_mem h hm)
  | callF _ ih =>
    intro h
    simp only [supported, Bool.and_eq_true] at h
    exact ih h.1.1
  | callA hm _ ih =>
    intro h
    simp only [supported, Bool.and_eq_true] at h
    exact ih (supportedList_mem h.1.2 hm)
  | callK hm _ ih =>
    intro h
    simp only [supported, Bool.and_eq_true] at h
    exact ih (supportedKws_mem h.2 hm)

theorem unsupportedHere_not_supported {s : PExpr} (h : UnsupportedHere s) : supported s = false := by
  cases s with
  | unsupported k cs => simp [supported]
  | binOp op l r =>
    cases op with
    | other n => rfl
    | _ => cases h
  | unaryOp op e =>
    cases op with
    | other n => rfl
    | not => cases h
  | compare l ops cs =>
    simp only [UnsupportedHere] at h
    unfold supported
    split
    · simp at h
    · rfl
  | _ => simp [UnsupportedHere] at h

/-- **C40 (acceptance is exactly the subset).** The converter returns a tree iff no node kind
    outside the documented list occurs anywhere in the expression. -/
theorem accepted_iff_supported (e : PExpr) : (∃ t, convert e = .ok t) ↔ supported e = true :=
  accepts_iff e

example : supported (.call (.attr (.dollar "Email") "lower") [] [.mk (some "k") (.const (.int 1))]) = true := by rfl
example : supported (.list [.name "a", .unaryOp (.other "USub") (.const (.int 1))]) = false := by rfl

/-- **C40 (unsupported syntax raises SyntaxError).** If an unsupported node kind occurs ANYWHERE in
    `e` (however deep, below whatever supported constructs), the converter raises — it never
    returns a tree, so nothing is mistranslated. -/
theorem unsupported_rejected (e s : PExpr) (hsub : Sub s e) (hs : UnsupportedHere s) :
    ∃ msg, convert e = .error msg := by
  have hns : supported e ≠ true := by
    intro h
    have := supported_sub hsub h
    rw [unsupportedHere_not_supported hs] at this
    cases this
  cases hc : convert e with
  | error m => exact ⟨m, rfl⟩
  | ok t => exact absurd ((accepts_iff e).mp ⟨t, hc⟩) hns

/-- the whole function rejects as well (the comment scan comes after the conversion). -/
theorem parse_rejects (e : PExpr) (c : Option String) (m : String) (h : convert e = .error m) :
    parseFormula e c = .error m := by
  simp [parseFormula, h, bind, Except.bind]

-- `rec.a in [x for x in y]` / `a < b < c` / `-x + 1`
example : Sub (.unsupported "ListComp" []) (.compare (.dollar "a") [.in] [.unsupported "ListComp" []]) :=
  .cmpR (by simp) (.refl _)
example : UnsupportedHere (.compare (.name "a") [.lt, .lt] [.name "b", .name "c"]) := by
  simp [UnsupportedHere]
example : convert (.binOp .add (.unaryOp (.other "USub") (.name "x")) (.const (.int 1)))
    = .error eUnsupported := by rfl

/-! ### the tree is JSON -/

/-- **C40 (JSON-safe, exact).** The produced tree consists only of lists, strings, finite numbers,
    booleans and null iff every constant of the expression is None / bool / int / finite float /
    str. -/
theorem tree_json_safe_iff (e : PExpr) (t : PTree) (h : convert e = .ok t) :
    jsonSafe t = constsOk e :=
  jsonSafe_convert e t h

/-- **C40 (JSON-safe, partial).** For expressions whose constants are JSON scalars, the tree
    (with or without a `Comment` wrapper) is JSON. -/
theorem tree_json_safe_partial (e : PExpr) (c : Option String) (t : PTree)
    (h : parseFormula e c = .ok t) (hc : constsOk e = true) : jsonSafe t = true := by
  obtain ⟨r, hr, rfl | ⟨s, rfl⟩⟩ := parseFormula_ok h
  · rw [jsonSafe_convert e _ hr, hc]
  · simp [jsonSafe_node, jsonSafeList, jsonSafe, jsonSafe_convert e _ hr, hc]

example : constsOk (.compare (.dollar "a") [.eq] [.const (.str "x")]) = true := by rfl

-- FULL STATEMENT (unproved, FALSE of the code as it is):
--   theorem tree_json_safe : ∀ e t, supported e = true → convert e = .ok t → jsonSafe t = true
-- `visit_Constant` returns `["Const", node.value]` for ANY constant: a bytes literal, `...`, a
-- complex literal (not JSON-encodable: json.dumps raises TypeError) or a float literal that
-- overflows to inf (`1e999`, dumped as the non-JSON token `Infinity`) is accepted.
/-- Negation of the full statement, witness `b'x'` (replayed on the real code by c40.py). -/
theorem tree_json_safe_full_is_false :
    ¬ ∀ (e : PExpr) (t : PTree), supported e = true → convert e = .ok t → jsonSafe t = true := by
  intro h
  have := h (.const (.other "bytes")) (node "Const" [.opaque "bytes"]) rfl rfl
  simp [node, jsonSafe, jsonSafeList] at this

example : ¬ (jsonSafe (node "Const" [.float 0x7FF0000000000000]) = true) := by decide

/-! ### the Comment node -/

theorem dropWhile_append_last {α} (p : α → Bool) (x : α) (hx : p x = false) :
    ∀ ys : List α, (ys ++ [x]).dropWhile p = ys.dropWhile p ++ [x]
  | [] => by simp [List.dropWhile, hx]
  | y :: ys => by
    simp only [List.cons_append, List.dropWhile_cons]
    split
    · exact dropWhile_append_last p x hx ys
    · rfl

/-- **C40 (comment node).** With a comment token `#rest`, the result is
    `["Comment", tree, rest.strip()]` around the converted tree; without one it is the tree. -/
theorem comment_node (e : PExpr) (t : PTree) (c : String) (rest : List Char)
    (h : convert e = .ok t) (hc : c.toList = '#' :: rest) :
    parseFormula e (some c) = .ok (node "Comment" [t, .str (String.ofList (stripChars rest))]) := by
  simp [parseFormula, h, hc, bind, Except.bind, pure, Except.pure]

example : "#  Allow owners ".toList = '#' :: "  Allow owners ".toList := by decide +kernel
example : String.ofList (stripChars "  Allow owners ".toList) = "Allow owners" := by decide +kernel

theorem no_comment (e : PExpr) : parseFormula e none = convert e := by
  simp only [parseFormula]
  cases convert e <;> rfl

theorem comment_transparent (ρ : Env) (t : PTree) (s : String) :
    evalTree ρ (node "Comment" [t, .str s]) = evalTree ρ t := by
  simp [node, evalTree_node]

/-- The stored comment text has no leading and no trailing whitespace. -/
theorem comment_stripped (rest : List Char) :
    (∀ x xs, stripChars rest = x :: xs → pySpace x = false) ∧
    (∀ x xs, (stripChars rest).reverse = x :: xs → pySpace x = false) := by
  constructor
  · intro x xs h
    unfold stripChars at h
    cases hl : rest.dropWhile pySpace with
    | nil =>
      rw [hl] at h
      simp at h
    | cons y ys =>
      have hy := dropWhile_head_not pySpace rest y ys hl
      rw [hl, List.reverse_cons, dropWhile_append_last pySpace y hy, List.reverse_append] at h
      simp only [List.reverse_cons, List.reverse_nil, List.nil_append, List.cons_append,
        List.cons.injEq] at h
      rw [← h.1]
      exact hy
  · intro x xs h
    unfold stripChars at h
    rw [List.reverse_reverse] at h
    exact dropWhile_head_not pySpace _ x xs h

example : stripChars " a b\t ".toList = "a b".toList := by decide +kernel

end Grist.Predicate
