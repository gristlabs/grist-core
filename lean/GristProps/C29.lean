/-
C29  Read-only calls leave the document untouched.
`Engine.get_formula_value` (behind get_formula_error / evaluate_formula) takes an undo checkpoint,
evaluates one cell - which may perform doc actions as side effects (lookupOrAddDerived) - and calls
`_undo_to_checkpoint`.  In the EngineModel that is: from ANY state `st` (mid-bundle or not), a word
of doc steps followed by `rollback` to the lengths of `st`.
-/
import GristProps.C04
namespace Grist.Doc.C29

/-- Whatever doc actions the evaluation performed, rolling back restores the checkpoint, from any
    starting state (not only the start of a bundle). -/
theorem get_formula_value_restores {st st' : EState} {effects : List (DocAction × Bool)}
    (hwf : WF st.doc) (hn : Normal st.doc) (hlen : st.stored.length = st.direct.length)
    (hargs : ∀ ab ∈ effects, ab.1.rowsPositive ∧ ab.1.colsDistinct)
    (hex : undoExactRun st.doc (effects.map (·.1)))
    (h : stepDocs st effects = .ok st') :
    ∃ st'', rollback st' st.stored.length st.undo.length = .ok st'' ∧ Same st''.doc st.doc ∧
      st''.stored = st.stored ∧ st''.direct = st.direct ∧ st''.undo = st.undo :=
  C04.rollback_restores hwf hn hlen hargs hex h

/-- An evaluation without side effects: the rollback is the identity on the lists. -/
theorem no_side_effects_noop (st : EState) (hlen : st.stored.length = st.direct.length) :
    ∃ st'', rollback st st.stored.length st.undo.length = .ok st'' ∧
      st''.stored = st.stored ∧ st''.direct = st.direct ∧ st''.undo = st.undo ∧ st''.doc = st.doc := by
  refine ⟨{ st with stored := st.stored.take st.stored.length, direct := st.direct.take st.stored.length,
                    undo := st.undo.take st.undo.length }, ?_, ?_, ?_, ?_, rfl⟩
  · simp [rollback, List.drop_length, pure, Except.pure]
  · simp
  · simp [hlen]
  · simp

end Grist.Doc.C29
