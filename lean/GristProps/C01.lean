/-
C01 stage (i) / C04 algebra: undo-correctness of the doc actions (DocActions.* in
sandbox/grist/docactions.py), as modelled by GristModel/Doc.lean, Engine.lean, DocSpec.lean.

The general proofs are in GristProofs/DocUndo*.lean and DocLocal.lean; this file states the
properties, proves the counterexamples that show each hypothesis is needed, defines the syntactic
`undoSafe`, and runs the theorems on a concrete document.

Hypotheses beyond `WF` (with `WF` alone the statements are false):
 * `Normal d`   every stored cell is a fixed point of its column's `Column.set` normalisation
                (`colSet`).  All cells the doc actions write are; `WF` does not say so.  Without it a
                Numeric column holding `int 5` comes back from BulkUpdate+undo as `flt "5.0"`.
 * `a.colsDistinct`  an AddTable names each column once (the model keeps duplicates, which breaks
                `Table.WF`).
 * `a.undoExact d`   ReplaceTableData / RemoveColumn do not restore non-default FORMULA columns,
                ModifyColumn restores cells only up to `colSet old (colSet new v)`.
-/
import GristProofs.DocUndoAll
namespace Grist.Doc

/-! ### the document and undo components do not depend on the summary -/

theorem docAction_doc_indep_summary (d : Doc) (s s' : Summary) (a : DocAction) :
    (docAction d s a).map (fun r => (r.doc, r.undo)) =
      (docAction d s' a).map (fun r => (r.doc, r.undo)) :=
  docAction_indep_summary Prod.mk d s s' a

theorem docAction_ok_indep_summary {d : Doc} {s : Summary} (s' : Summary) {a : DocAction}
    {r : DAResult} (h : docAction d s a = .ok r) :
    ∃ r', docAction d s' a = .ok r' ∧ r'.doc = r.doc ∧ r'.undo = r.undo :=
  ok_of_post s' (post_of_ok h)

theorem stepDoc_doc_eq_applyAll {st st1 : EState} {a : DocAction} {dir : Bool}
    (h : stepDoc st a dir = .ok st1) : applyAll st.doc [a] = .ok st1.doc := by
  obtain ⟨r, hr, hd, _⟩ := stepDoc_ok h
  simp [applyAll, hr, hd]

/-! ### well-formedness is preserved -/

/-- FALSE without `colsDistinct`: see `addTable_dup_not_WF` below. -/
theorem docAction_WF_partial {d : Doc} {s : Summary} {a : DocAction} {r : DAResult} (hwf : WF d)
    (hpos : a.rowsPositive) (hcd : a.colsDistinct) (h : docAction d s a = .ok r) : WF r.doc :=
  (post_WF_Normal hwf hpos hcd (post_of_ok h)).1

theorem docAction_WF {d : Doc} {s : Summary} {a : DocAction} {r : DAResult} (hwf : WF d)
    (hpos : a.rowsPositive) (hna : ∀ t cols, a ≠ .addTable t cols)
    (h : docAction d s a = .ok r) : WF r.doc := by
  apply docAction_WF_partial hwf hpos _ h
  cases a with
  | addTable t cols => exact absurd rfl (hna t cols)
  | _ => trivial

theorem docAction_Normal {d : Doc} {s : Summary} {a : DocAction} {r : DAResult} (hwf : WF d)
    (hn : Normal d) (hpos : a.rowsPositive) (hcd : a.colsDistinct) (h : docAction d s a = .ok r) :
    Normal r.doc :=
  (post_WF_Normal hwf hpos hcd (post_of_ok h)).2.1 hn

/-- without `colsDistinct`: an AddTable naming a column twice leaves a table that is not `WF` -/
theorem addTable_dup_not_WF (info : ColInfo) :
    ∃ r, docAction [] {} (.addTable "T" [("A", info), ("A", info)]) = .ok r ∧ WF [] ∧ ¬ WF r.doc := by
  refine ⟨_, rfl, ⟨by simp, by simp⟩, ?_⟩
  intro h
  have := (h.2 _ (List.mem_singleton.2 rfl)).1
  simp at this

/-! ### replaying the undo of one action restores the document -/

/-- All 11 constructors.  `Normal d` is needed (BulkRemove, BulkUpdate, ReplaceTableData,
    RemoveColumn, RemoveTable re-write old values through `Column.set`); `undoExact` is `True` for
    every constructor except ReplaceTableData, RemoveColumn (formula columns must be all default)
    and ModifyColumn (`colSet old (colSet new v) = v` at the rows). -/
theorem docAction_undo_partial {d : Doc} {s : Summary} {a : DocAction} {r : DAResult} (hwf : WF d)
    (hn : Normal d) (hpos : a.rowsPositive) (hex : a.undoExact d) (h : docAction d s a = .ok r) :
    ∃ d'', applyAll r.doc r.undo.reverse = .ok d'' ∧ Same d'' d :=
  post_undo hwf hn hpos hex (post_of_ok h)

/-- with `WF` alone -/
theorem bulkAdd_undo {d : Doc} {s : Summary} {t : String} {rows : List Nat}
    {cols : List (String × List Val)} {r : DAResult} (hwf : WF d) (hpos : ∀ x ∈ rows, 0 < x)
    (h : docAction d s (.bulkAdd t rows cols) = .ok r) :
    ∃ d'', applyAll r.doc r.undo.reverse = .ok d'' ∧ Same d'' d :=
  undo_local rfl (post_of_ok h) fun _ _ hf hp => hp.undo_bulkAdd (hwf.table hf) hpos

theorem addColumn_undo {d : Doc} {s : Summary} {t c : String} {info : ColInfo} {r : DAResult}
    (h : docAction d s (.addColumn t c info) = .ok r) :
    ∃ d'', applyAll r.doc r.undo.reverse = .ok d'' ∧ Same d'' d :=
  undo_local rfl (post_of_ok h) fun _ _ _ hp => hp.undo_addColumn

theorem renameColumn_undo {d : Doc} {s : Summary} {t old new : String} {r : DAResult}
    (h : docAction d s (.renameColumn t old new) = .ok r) :
    ∃ d'', applyAll r.doc r.undo.reverse = .ok d'' ∧ Same d'' d :=
  undo_local rfl (post_of_ok h) fun _ _ _ hp => hp.undo_renameColumn

theorem addTable_undo {d : Doc} {s : Summary} {t : String} {cols : List (String × ColInfo)}
    {r : DAResult} (h : docAction d s (.addTable t cols) = .ok r) :
    ∃ d'', applyAll r.doc r.undo.reverse = .ok d'' ∧ Same d'' d :=
  undo_addTable (post_of_ok h)

theorem renameTable_undo {d : Doc} {s : Summary} {old new : String} {r : DAResult}
    (h : docAction d s (.renameTable old new) = .ok r) :
    ∃ d'', applyAll r.doc r.undo.reverse = .ok d'' ∧ Same d'' d :=
  undo_renameTable (post_of_ok h)

/-- with `Normal` -/
theorem bulkRemove_undo_partial {d : Doc} {s : Summary} {t : String} {rows : List Nat} {r : DAResult}
    (hwf : WF d) (hn : Normal d) (h : docAction d s (.bulkRemove t rows) = .ok r) :
    ∃ d'', applyAll r.doc r.undo.reverse = .ok d'' ∧ Same d'' d :=
  undo_local rfl (post_of_ok h) fun _ _ hf hp => hp.undo_bulkRemove (hwf.table hf) (hn.table hf)

theorem bulkUpdate_undo_partial {d : Doc} {s : Summary} {t : String} {rows : List Nat}
    {cols : List (String × List Val)} {r : DAResult} (hwf : WF d) (hn : Normal d)
    (h : docAction d s (.bulkUpdate t rows cols) = .ok r) :
    ∃ d'', applyAll r.doc r.undo.reverse = .ok d'' ∧ Same d'' d :=
  undo_local rfl (post_of_ok h) fun _ _ hf hp => hp.undo_bulkUpdate (hwf.table hf) (hn.table hf)

theorem removeTable_undo_partial {d : Doc} {s : Summary} {t : String} {r : DAResult}
    (hwf : WF d) (hn : Normal d) (h : docAction d s (.removeTable t) = .ok r) :
    ∃ d'', applyAll r.doc r.undo.reverse = .ok d'' ∧ Same d'' d :=
  undo_removeTable hwf hn (post_of_ok h)

/-- ReplaceTableData: formula columns of the table must be all default (they are not in the undo) -/
theorem replaceData_undo_partial {d : Doc} {s : Summary} {t : String} {rows : List Nat}
    {cols : List (String × List Val)} {r : DAResult} (hwf : WF d) (hn : Normal d)
    (hpos : ∀ x ∈ rows, 0 < x)
    (hex : ∀ tb, findTable? d t = some tb → ∀ col ∈ tb.cols, col.info.isFormula = true →
      ∀ x ∈ tb.rows, col.cells x = typeDefault col.info.type)
    (h : docAction d s (.replaceData t rows cols) = .ok r) :
    ∃ d'', applyAll r.doc r.undo.reverse = .ok d'' ∧ Same d'' d :=
  undo_local rfl (post_of_ok h) fun tb _ hf hp =>
    hp.undo_replaceData (hwf.table hf) (hn.table hf) hpos (hex tb hf)

theorem removeColumn_undo_partial {d : Doc} {s : Summary} {t c : String} {r : DAResult}
    (hwf : WF d) (hn : Normal d)
    (hex : ∀ tb col, findTable? d t = some tb → tb.findCol? c = some col →
      col.info.isFormula = true → ∀ x ∈ tb.rows, col.cells x = typeDefault col.info.type)
    (h : docAction d s (.removeColumn t c) = .ok r) :
    ∃ d'', applyAll r.doc r.undo.reverse = .ok d'' ∧ Same d'' d :=
  undo_local rfl (post_of_ok h) fun tb _ hf hp =>
    hp.undo_removeColumn (hwf.table hf) (hn.table hf) fun col => hex tb col hf

theorem modifyColumn_undo_partial {d : Doc} {s : Summary} {t c : String} {p : ColPatch}
    {r : DAResult}
    (hex : ∀ tb col, findTable? d t = some tb → tb.findCol? c = some col → ∀ x ∈ tb.rows,
      colSet col.info.type (colSet (colInfoOfPatch col.info p).type (col.cells x)) = col.cells x)
    (h : docAction d s (.modifyColumn t c p) = .ok r) :
    ∃ d'', applyAll r.doc r.undo.reverse = .ok d'' ∧ Same d'' d :=
  undo_local rfl (post_of_ok h) fun tb _ hf hp => hp.undo_modifyColumn fun col => hex tb col hf

/-- in particular when the patch leaves the type alone and the cells are normalised -/
theorem modifyColumn_undoExact_of_type_unchanged {d : Doc} {t c : String} {p : ColPatch}
    (hn : Normal d) (hty : p.type = none) : (DocAction.modifyColumn t c p).undoExact d := by
  intro tb col hf hc r _
  have : (colInfoOfPatch col.info p).type = col.info.type := by simp [colInfoOfPatch, hty]
  rw [this, colSet_idem]
  exact hn.table hf col (findCol?_some hc).2 r

def cexInfo (ty : String) : ColInfo :=
  { type := ty, isFormula := false, formula := "", reverseColId := none }

def cexDoc (ty : String) : Doc :=
  [{ id := "T", rows := [1],
     cols := [{ id := "A", info := cexInfo ty,
                cells := fun r => if r = 1 then .int 1 else typeDefault ty }] }]

/-- without `Normal`: a Bool column (any type `ty` whose pure type is "Bool")
    holding `int 1`; BulkUpdate then its undo leaves `bool true`. -/
theorem bulkUpdate_undo_needs_Normal (ty : String) (hty : pureType ty = "Bool") :
    ∃ (d : Doc) (r : DAResult) (d'' : Doc), WF d ∧
      docAction d {} (.bulkUpdate "T" [1] [("A", [.int 0])]) = .ok r ∧
      applyAll r.doc r.undo.reverse = .ok d'' ∧ ¬ Same d'' d := by
  have hwf : WF (cexDoc ty) := by
    refine ⟨by simp [cexDoc], ?_⟩
    intro tb htb
    simp only [cexDoc, List.mem_singleton] at htb
    subst htb
    refine ⟨by simp, by simp, by simp, ?_⟩
    intro col hcol r hr
    simp only [List.mem_singleton] at hcol
    subst hcol
    have : r ≠ 1 := by simpa using hr
    simp [this, cexInfo]
  refine ⟨cexDoc ty, _, _, hwf, rfl, rfl, ?_⟩
  intro hs
  have := hs "T"
  simp only [findTable?, cexDoc, List.find?_cons, beq_self_eq_true, replaceTable, List.map_cons,
    List.map_nil, ↓reduceIte] at this
  have h2 := this.2 "A"
  simp only [Table.findCol?, Table.replaceCol, List.map_cons, List.map_nil, List.find?_cons,
    beq_self_eq_true, ↓reduceIte] at h2
  have h3 := h2.2 1 (by simp)
  simp [setCells, setCell, colSet, hty, cexInfo] at h3

/-! ### doc actions respect observational equality -/

set_option linter.unusedVariables false in
/-- `UndoEqv`: the undo lists agree action by action up to the order of the per-column entries inside
    BulkAddRecord / ReplaceTableData / AddTable.  (The theorems on lists below do not need this part:
    they replay ONE undo list on `Same` documents.)  `hpos` is not needed: `post_congr` has none. -/
theorem docAction_congr {d1 d2 : Doc} {s : Summary} {a : DocAction} {r1 : DAResult} (hw1 : WF d1)
    (hw2 : WF d2) (hs : Same d1 d2) (hpos : a.rowsPositive) (h : docAction d1 s a = .ok r1) :
    ∃ r2, docAction d2 s a = .ok r2 ∧ Same r1.doc r2.doc ∧ UndoEqv r1.undo r2.undo := by
  obtain ⟨D2, U2, hp2, hs', hu⟩ := post_congr hw1 hw2 hs (post_of_ok h)
  obtain ⟨r2, hr2, rfl, rfl⟩ := ok_of_post s hp2
  exact ⟨r2, hr2, hs', hu⟩

theorem applyAll_congr' {l : List DocAction} {d1 d2 x : Doc} (hw1 : WF d1) (hw2 : WF d2)
    (hs : Same d1 d2) (hl : ∀ a ∈ l, a.rowsPositive ∧ a.colsDistinct) (h : applyAll d1 l = .ok x) :
    ∃ y, applyAll d2 l = .ok y ∧ Same x y :=
  applyAll_congr hw1 hw2 hs hl h

/-! ### lists of actions -/

/-- constructors whose undo is exact in every (well-formed, normalised) document -/
def DocAction.undoSafe : DocAction → Prop
  | .replaceData _ _ _ => False
  | .removeColumn _ _ => False
  | .modifyColumn _ _ _ => False
  | _ => True

theorem undoExact_of_safe {a : DocAction} (h : a.undoSafe) (d : Doc) : a.undoExact d := by
  cases a with
  | replaceData | removeColumn | modifyColumn => exact h.elim
  | _ => trivial

theorem undoExactRun_of_safe {as : List DocAction} (h : ∀ a ∈ as, a.undoSafe) :
    ∀ d, undoExactRun d as := by
  induction as with
  | nil =>
    intro d
    trivial
  | cons a rest ih =>
    intro d
    exact ⟨undoExact_of_safe (h a (by simp)) d, fun r _ =>
      ih (fun b hb => h b (List.mem_cons_of_mem _ hb)) r.doc⟩

theorem runActs_undo_partial {as : List DocAction} {d d' : Doc} {u : List DocAction} (hwf : WF d)
    (hn : Normal d) (hargs : ∀ a ∈ as, a.rowsPositive ∧ a.colsDistinct) (hex : undoExactRun d as)
    (h : runActs d as = .ok (d', u)) :
    ∃ d'', applyAll d' u.reverse = .ok d'' ∧ Same d'' d :=
  (runActs_undo_WF hwf hn hargs hex h).2.2.2

/-- syntactic version: BulkAdd/Remove/Update, AddColumn, RenameColumn, AddTable, RemoveTable,
    RenameTable in any order -/
theorem runActs_undo_safe {as : List DocAction} {d d' : Doc} {u : List DocAction} (hwf : WF d)
    (hn : Normal d) (hargs : ∀ a ∈ as, a.rowsPositive ∧ a.colsDistinct)
    (hsafe : ∀ a ∈ as, a.undoSafe) (h : runActs d as = .ok (d', u)) :
    ∃ d'', applyAll d' u.reverse = .ok d'' ∧ Same d'' d :=
  runActs_undo_partial hwf hn hargs (undoExactRun_of_safe hsafe d) h

set_option linter.unusedVariables false in
/-- the run also keeps the invariants (for this part `hex` is not needed) -/
theorem runActs_WF {as : List DocAction} {d d' : Doc} {u : List DocAction} (hwf : WF d)
    (hn : Normal d) (hargs : ∀ a ∈ as, a.rowsPositive ∧ a.colsDistinct) (hex : undoExactRun d as)
    (h : runActs d as = .ok (d', u)) : WF d' ∧ Normal d' :=
  applyAll_WF hwf hn hargs (runActs_applyAll h)

/-! ### rollback to a checkpoint restores the state (C04) -/

theorem rollback_restores {st st' : EState} {steps : List (DocAction × Bool)}
    (hwf : WF st.doc) (hn : Normal st.doc) (hlen : st.stored.length = st.direct.length)
    (hargs : ∀ ab ∈ steps, ab.1.rowsPositive ∧ ab.1.colsDistinct)
    (hex : undoExactRun st.doc (steps.map (·.1)))
    (h : stepDocs st steps = .ok st') :
    ∃ st'', rollback st' st.stored.length st.undo.length = .ok st'' ∧ Same st''.doc st.doc ∧
      st''.stored = st.stored ∧ st''.direct = st.direct ∧ st''.undo = st.undo := by
  obtain ⟨u, hrun, hu, hs, hdir⟩ := stepDocs_ok h
  obtain ⟨_, _, _, d'', hd'', hsame⟩ := runActs_undo_WF hwf hn (List.forall_mem_map.2 hargs) hex hrun
  have htodo : (st'.undo.drop st.undo.length).reverse = u.reverse := by
    rw [hu, List.drop_left]
  obtain ⟨st2, h2, hd2, hs2, hdir2, w, hw⟩ := foldlM_stepDoc_of_applyAll (st := st') hd''
  refine ⟨_, by simp only [rollback, htodo, h2]; rfl, ?_, ?_, ?_, ?_⟩
  · show Same st2.doc st.doc
    rw [hd2]
    exact hsame
  · show st2.stored.take st.stored.length = st.stored
    rw [hs2, hs, List.append_assoc, List.take_left]
  · show st2.direct.take st.stored.length = st.direct
    rw [hdir2, hdir, List.append_assoc, hlen, List.take_left]
  · show st2.undo.take st.undo.length = st.undo
    rw [hw, hu, List.append_assoc, List.take_left]

/-! ### a concrete document and run: the hypotheses are satisfiable, the run computes

Cells are functions and `typeDefault`/`colSet` go through `String.splitOn` (not kernel-reducible),
so the example uses string cells (fixed by every `colSet`) and actions whose evaluation does not
compare against type defaults; `runActs`/`stepDocs` are evaluated by `rfl`. -/

def exInfo : ColInfo := { type := "Text", isFormula := false, formula := "", reverseColId := none }

def exDoc : Doc :=
  [ { id := "T", rows := [1, 2],
      cols := [{ id := "A", info := exInfo,
                 cells := fun r => if r = 1 then .str "x" else if r = 2 then .str "y"
                                   else typeDefault "Text" }] },
    { id := "U", rows := [],
      cols := [{ id := "B", info := exInfo, cells := fun _ => typeDefault "Text" }] } ]

def exActs : List DocAction :=
  [ .bulkAdd "T" [3] [("A", [.str "z"])],
    .bulkUpdate "T" [1, 3] [("A", [.str "w", .str "v"])],
    .addColumn "T" "C" exInfo,
    .renameColumn "T" "A" "A2",
    .addTable "W" [("K", exInfo)],
    .renameTable "U" "V" ]

theorem exDoc_WF : WF exDoc := by
  refine ⟨by decide, ?_⟩
  intro tb htb
  simp only [exDoc, List.mem_cons, List.not_mem_nil, or_false] at htb
  rcases htb with rfl | rfl
  · refine ⟨by simp, by simp, by simp, ?_⟩
    intro col hcol r hr
    simp only [List.mem_singleton] at hcol
    subst hcol
    have h1 : r ≠ 1 := by
      intro h
      subst h
      simp at hr
    have h2 : r ≠ 2 := by
      intro h
      subst h
      simp at hr
    simp [h1, h2, exInfo]
  · refine ⟨by simp, by simp, by simp, ?_⟩
    intro col hcol r _
    simp only [List.mem_singleton] at hcol
    subst hcol
    rfl

theorem exDoc_Normal : Normal exDoc := by
  intro tb htb
  simp only [exDoc, List.mem_cons, List.not_mem_nil, or_false] at htb
  rcases htb with rfl | rfl
  · intro col hcol r
    simp only [List.mem_singleton] at hcol
    subst hcol
    show colSet "Text" (if r = 1 then Val.str "x" else if r = 2 then Val.str "y" else typeDefault "Text")
      = (if r = 1 then Val.str "x" else if r = 2 then Val.str "y" else typeDefault "Text")
    by_cases h1 : r = 1
    · subst h1
      simp [colSet_str]
    · by_cases h2 : r = 2
      · subst h2
        simp [colSet_str]
      · simp [h1, h2, colSet_typeDefault]
  · intro col hcol r
    simp only [List.mem_singleton] at hcol
    subst hcol
    exact colSet_typeDefault _

theorem exActs_args : ∀ a ∈ exActs, a.rowsPositive ∧ a.colsDistinct := by
  intro a ha
  simp only [exActs, List.mem_cons, List.not_mem_nil, or_false] at ha
  rcases ha with rfl | rfl | rfl | rfl | rfl | rfl <;>
    simp [DocAction.rowsPositive, DocAction.colsDistinct]

theorem exActs_safe : ∀ a ∈ exActs, a.undoSafe := by
  intro a ha
  simp only [exActs, List.mem_cons, List.not_mem_nil, or_false] at ha
  rcases ha with rfl | rfl | rfl | rfl | rfl | rfl <;> trivial

theorem exSteps_args : ∀ ab ∈ exActs.map (·, true), ab.1.rowsPositive ∧ ab.1.colsDistinct :=
  List.forall_mem_map.2 exActs_args

theorem exSteps_exact : undoExactRun exDoc ((exActs.map (·, true)).map (·.1)) :=
  undoExactRun_of_safe (List.forall_mem_map.2 (List.forall_mem_map.2 exActs_safe)) exDoc

example : ∃ r, docAction exDoc {} (.bulkAdd "T" [3] [("A", [.str "z"])]) = .ok r ∧
    r.undo = [.bulkRemove "T" [3]] ∧ WF r.doc ∧ Normal r.doc ∧
    ∃ d'', applyAll r.doc r.undo.reverse = .ok d'' ∧ Same d'' exDoc := by
  have h : docAction exDoc {} (.bulkAdd "T" [3] [("A", [.str "z"])]) = .ok _ := rfl
  have hpos : (DocAction.bulkAdd "T" [3] [("A", [.str "z"])]).rowsPositive := by
    simp [DocAction.rowsPositive]
  exact ⟨_, h, rfl, docAction_WF_partial exDoc_WF hpos trivial h,
    docAction_Normal exDoc_WF exDoc_Normal hpos trivial h,
    docAction_undo_partial exDoc_WF exDoc_Normal hpos trivial h⟩

/-- the same action on a reordered (observationally equal) document -/
example : Same exDoc exDoc.reverse ∧ ∃ r1 r2,
    docAction exDoc {} (.renameColumn "T" "A" "A2") = .ok r1 ∧
    docAction exDoc.reverse {} (.renameColumn "T" "A" "A2") = .ok r2 ∧ Same r1.doc r2.doc := by
  have hs : Same exDoc exDoc.reverse := by
    intro t
    by_cases h1 : t = "T"
    · subst h1
      exact Table.Same.refl _
    · by_cases h2 : t = "U"
      · subst h2
        exact Table.Same.refl _
      · have e1 : findTable? exDoc t = none := by
          rw [findTable?_none]
          intro tb htb
          simp only [exDoc, List.mem_cons, List.not_mem_nil, or_false] at htb
          rcases htb with rfl | rfl
          · exact fun h => h1 h.symm
          · exact fun h => h2 h.symm
        have e2 : findTable? exDoc.reverse t = none := by
          rw [findTable?_none]
          intro tb htb
          simp only [exDoc, List.reverse_cons, List.reverse_nil, List.nil_append,
            List.cons_append, List.mem_cons, List.not_mem_nil, or_false] at htb
          rcases htb with rfl | rfl
          · exact fun h => h2 h.symm
          · exact fun h => h1 h.symm
        rw [e1, e2]
        trivial
  refine ⟨hs, _, _, rfl, rfl, ?_⟩
  have hwr : WF exDoc.reverse := by
    refine ⟨by decide, fun tb htb => exDoc_WF.2 tb (List.mem_reverse.1 htb)⟩
  obtain ⟨r2, h2, hs2, _⟩ := docAction_congr (s := {}) (a := .renameColumn "T" "A" "A2") exDoc_WF
    hwr hs trivial rfl
  have h2' : docAction exDoc.reverse {} (.renameColumn "T" "A" "A2") = .ok _ := rfl
  rw [h2'] at h2
  cases h2
  exact hs2

example : ∃ d' u d'', runActs exDoc exActs = .ok (d', u) ∧ u.length = 6 ∧
    applyAll d' u.reverse = .ok d'' ∧ Same d'' exDoc := by
  have h : runActs exDoc exActs = .ok (_, _) := rfl
  obtain ⟨d'', h1, h2⟩ := runActs_undo_safe exDoc_WF exDoc_Normal exActs_args exActs_safe h
  exact ⟨_, _, d'', h, rfl, h1, h2⟩

example : ∃ st' st'', stepDocs { doc := exDoc } (exActs.map (·, true)) = .ok st' ∧
    st'.stored = exActs ∧ st'.undo.length = 6 ∧
    rollback st' 0 0 = .ok st'' ∧ Same st''.doc exDoc ∧ st''.stored = [] ∧ st''.direct = [] ∧
    st''.undo = [] := by
  have h : stepDocs { doc := exDoc } (exActs.map (·, true)) = .ok _ := rfl
  obtain ⟨st'', h1, h2, h3, h4, h5⟩ :=
    rollback_restores (st := { doc := exDoc }) exDoc_WF exDoc_Normal rfl exSteps_args exSteps_exact h
  exact ⟨_, st'', h, rfl, rfl, h1, h2, h3, h4, h5⟩

/-! ### Why the ORDER of an undo list matters when a column changes type (repo commit 4ed88e3) -/

/-- `0.0` is stored as it is by a Numeric column (a fixpoint of that column's `set`), but a Bool column stores `False`
    for it, and writing that back into the Numeric column does not bring `0.0` back.  An undo action that writes the
    old values while the column still has the NEW type therefore cannot restore them: it has to run after the
    `ModifyColumn` that gives the column its old type back.  (As in C09, `pureType` of a literal is a hypothesis:
    `String.splitOn` does not evaluate in the kernel.) -/
theorem colSet_depends_on_type (tn tb : String) (hn : pureType tn = "Numeric") (hb : pureType tb = "Bool") :
    colSet tn (.flt "0.0") = .flt "0.0" ∧ colSet tb (.flt "0.0") = .bool false ∧
    colSet tn (colSet tb (.flt "0.0")) ≠ .flt "0.0" := by
  refine ⟨?_, ?_, ?_⟩ <;> simp [colSet, hn, hb, isNumericLike]

/-- the direction the repair relies on: written back under the OLD type, an old value is restored exactly whenever
    it was a fixpoint of that type's `set` (the `Normal` invariant of the document before the bundle) -/
theorem setCell_restores_under_old_type (t : String) (v : Val) (h : colSet t v = v) (f : Nat → Val) (r : Nat) :
    setCell f r (colSet t v) r = v := by
  simp [setCell, h]

end Grist.Doc
