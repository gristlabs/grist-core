/-
C15  Trigger formulas recalculate exactly when configured.
Model: GristModel/Trigger.lean (mechanism `runBundle`, specification `RecalcSet` / `recalcB`, domain
`inDomain`).  The two inclusions between the cells `runBundle` evaluates and `RecalcSet`, their
corollaries, and one refuting witness per hypothesis of the partial theorem.  Both inclusions are
read off the mechanism as a fold per record (`runBundle_cell`, `cellRun_complete`, `cellRun_sound` of
GristProofs/Trigger.lean) once `RecalcSet` is the fold `pendingGo` (`recalcB_iff_RecalcSet`).
-/
import GristModel.Trigger
import GristProofs.Trigger
namespace Grist.Trigger

theorem pendingGo_eq_foldl (env : Env) (r : Nat) : ∀ (L : List (Config × UA)) (p : Bool),
    pendingGo env r p L = L.foldl (fun p cu =>
      if prot env cu.1 r cu.2 then false else if trig env cu.1 r cu.2 then true else p) p
  | [], _ => rfl
  | _ :: rest, _ => pendingGo_eq_foldl env r rest _

/-- `pendingGo` in last-writer form: `trig` without `prot` establishes, `prot` destroys. -/
theorem pendingGo_iff (env : Env) (r : Nat) (L : List (Config × UA)) (p : Bool) :
    pendingGo env r p L = true ↔
      (∃ pre cu post, L = pre ++ cu :: post ∧ trig env cu.1 r cu.2 = true ∧
          prot env cu.1 r cu.2 = false ∧ ∀ x ∈ post, prot env x.1 r x.2 = false)
      ∨ (p = true ∧ ∀ x ∈ L, prot env x.1 r x.2 = false) := by
  rw [pendingGo_eq_foldl, or_comm,
    foldl_lastWriter _ (P := fun p => p = true)
      (sets := fun _ cu => trig env cu.1 r cu.2 = true ∧ prot env cu.1 r cu.2 = false)
      (unset := fun _ cu => prot env cu.1 r cu.2 = true)
      (N := fun _ l => ∀ x ∈ l, prot env x.1 r x.2 = false)
      (fun _ _ h => by cases h) (fun _ _ _ => by simp)
      (fun p cu => by cases prot env cu.1 r cu.2 <;> cases trig env cu.1 r cu.2 <;> simp)]
  simp only [and_assoc]

/-- `recalcB` (what the driver prints, what `decide` evaluates) is `RecalcSet`. -/
theorem recalcB_iff_RecalcSet (env : Env) (cfg : Config) (alive : List Nat) (b : List UA) (r : Nat) :
    recalcB env cfg alive b r = true ↔ RecalcSet env cfg alive b r := by
  unfold recalcB RecalcSet
  rw [Bool.and_eq_true, pendingGo_iff]
  simp only [List.contains_eq_mem, decide_eq_true_eq, Bool.false_eq_true, false_and, or_false]

example : recalcB ⟨5, [(4, [2])]⟩ ⟨.dflt, [4]⟩ [1, 2] [.update [1, 2] [2, 3] [(1, 2), (2, 3)]] 1 = true := by
  decide +kernel


/-- Every cell in `RecalcSet` is evaluated, provided only that whenever a user action runs the
    dependency edges are those of the live configuration (no record edit after a configuration
    change in the same bundle).  Holds for ANY content of the recompute map at the start. -/
theorem recalcSet_subset_mechanism (env : Env) (cfg : Config) (edges alive dirty0 : List Nat)
    (b : List UA) (res : Result)
    (hrun : runBundle env cfg edges alive dirty0 b = .ok res)
    (hE : edgesCurrent edges (annot cfg b) = true) (r : Nat)
    (h : RecalcSet env cfg alive b r) : r ∈ res.evaluated := by
  obtain ⟨y, rfl, hal, hev⟩ := runBundle_cell hrun r
  have hB := (recalcB_iff_RecalcSet env cfg alive b r).mpr h
  simp only [recalcB, Bool.and_eq_true] at hB
  obtain ⟨hd, he⟩ := cellRun_complete env edges r _ ⟨alive.contains r, dirty0.contains r, false⟩ false
    hE (fun h => by cases h) hB.2
  exact hev.mpr ⟨hd, hal.mpr h.1, he⟩

example : RecalcSet ⟨5, []⟩ ⟨.dflt, [2]⟩ [1] [.update [1] [2] [(1, 2)]] 1 :=
  (recalcB_iff_RecalcSet _ _ _ _ _).mp (by decide +kernel)

/-- Soundness on `inDomain`, for a record the recompute map does not hold at the start (it need
    not be drained otherwise). -/
theorem mechanism_subset_recalcSet_of_not_mem (env : Env) (cfg : Config)
    (edges alive dirty0 : List Nat) (b : List UA) (res : Result)
    (hrun : runBundle env cfg edges alive dirty0 b = .ok res)
    (hD : inDomain env cfg edges b = true) (r : Nat) (hr0 : r ∉ dirty0)
    (h : r ∈ res.evaluated) : RecalcSet env cfg alive b r := by
  simp only [inDomain, Bool.and_eq_true, List.all_eq_true] at hD
  obtain ⟨⟨⟨hE, hA⟩, hLast⟩, hF⟩ := hD
  obtain ⟨y, rfl, hal, hev⟩ := runBundle_cell hrun r
  obtain ⟨hd, ha, he⟩ := hev.mp h
  have hx : dirty0.contains r = true → False := by simpa using hr0
  refine (recalcB_iff_RecalcSet env cfg alive b r).mp ?_
  simp only [recalcB, Bool.and_eq_true, List.contains_eq_mem, decide_eq_true_eq]
  exact ⟨hal.mp ha, cellRun_sound env r edges _ _ false hE hA hLast hF (fun h => (hx h).elim)
    (fun h => by cases h) (fun h => (hx h).elim) hd ha he⟩

/-- **C15, partial.**  On the domain `inDomain` (edges current, no supplied value for a new record
    of a column with dependency edges, explicit values survive trimming, explicit values only in
    the last user action, fresh record ids) and from a drained recompute map, the cells of the
    trigger column evaluated at the end of the bundle are EXACTLY `RecalcSet`. -/
theorem trigger_mechanism_eq_spec_partial (env : Env) (cfg : Config) (edges alive : List Nat)
    (b : List UA) (res : Result)
    (hrun : runBundle env cfg edges alive [] b = .ok res)
    (hD : inDomain env cfg edges b = true) (r : Nat) :
    r ∈ res.evaluated ↔ RecalcSet env cfg alive b r := by
  constructor
  · exact mechanism_subset_recalcSet_of_not_mem env cfg edges alive [] b res hrun hD r
      List.not_mem_nil
  · have hE : edgesCurrent edges (annot cfg b) = true := by
      simp only [inDomain, Bool.and_eq_true] at hD
      exact hD.1.1.1
    exact recalcSet_subset_mechanism env cfg edges alive [] b res hrun hE r

-- inside the domain (self-dependent column 5, formula dependency 4 reading column 2): row 2 because
-- its dependency changes, record 3 and row 1 because a value written to the column is itself a dep
example : inDomain ⟨5, [(4, [2])]⟩ ⟨.dflt, [4, 5]⟩ [4, 5]
    [.update [2] [2] [(2, 2)], .add [3] [5], .update [1] [2, 5] [(1, 2), (1, 5)]] = true := by decide +kernel
example : (runBundle ⟨5, [(4, [2])]⟩ ⟨.dflt, [4, 5]⟩ [4, 5] [1, 2] []
    [.update [2] [2] [(2, 2)], .add [3] [5], .update [1] [2, 5] [(1, 2), (1, 5)]]).toOption.map
      (·.evaluated) = some [2, 3, 3, 1] := by decide +kernel
-- not self-dependent: the explicit value of the last action is kept, row 2 is recalculated
example : inDomain ⟨5, []⟩ ⟨.dflt, [2]⟩ [2]
    [.update [2] [2] [(2, 2)], .update [1] [2, 5] [(1, 2), (1, 5)]] = true ∧
    (runBundle ⟨5, []⟩ ⟨.dflt, [2]⟩ [2] [1, 2] []
      [.update [2] [2] [(2, 2)], .update [1] [2, 5] [(1, 2), (1, 5)]]).toOption.map (·.evaluated)
      = some [2] := by decide +kernel


theorem mustTrig_trig (env : Env) (cfg : Config) (r : Nat) (ua : UA)
    (h : mustTrig env cfg r ua = true) : trig env cfg r ua = true := by
  cases ua with
  | add rows supplied => exact h
  | update rows cols diff =>
    simp only [mustTrig, Bool.and_eq_true, Bool.or_eq_true, List.any_eq_true, beq_iff_eq] at h
    obtain ⟨hr, h⟩ := h
    have hr' : r ∈ rows := by simpa using hr
    have kept : ∀ x, x ∈ cols → diff.contains (r, x) = true →
        x ∈ keptCols rows cols diff ∧ (keptRows rows cols diff).contains r = true := by
      intro x hx hd
      have hk : x ∈ keptCols rows cols diff := by
        simp only [keptCols, List.mem_filter, List.any_eq_true]
        exact ⟨hx, r, hr', hd⟩
      refine ⟨hk, ?_⟩
      simp only [keptRows, List.contains_eq_mem, List.mem_filter, List.any_eq_true, decide_eq_true_eq]
      exact ⟨hr', x, hk, by simpa using hd⟩
    simp only [trig, Bool.and_eq_true, Bool.or_eq_true, beq_iff_eq]
    rcases h with ⟨hw, d, hd, hc, hdf⟩ | ⟨hw, x, hx, hdf⟩
    · have hc' : d ∈ cols := by simpa using hc
      obtain ⟨hk, hkr⟩ := kept d hc' hdf
      refine ⟨hkr, Or.inl ⟨hw, ?_⟩⟩
      simp only [depTouched, List.any_eq_true, Bool.or_eq_true]
      exact ⟨d, hd, Or.inl (by simpa using hk)⟩
    · obtain ⟨_, hkr⟩ := kept x hx hdf
      exact ⟨hkr, Or.inr hw⟩
  | _ => simp [mustTrig] at h

/-- If a user action gives a plain recalcDeps cell of row `r` a DIFFERENT value (DEFAULT), or
    changes any value of the row (MANUAL_UPDATES), or adds the record without supplying the column
    (not NEVER), and neither it nor a later user action sets the cell explicitly, the cell is
    evaluated. -/
theorem changed_dep_recalculated (env : Env) (cfg : Config) (edges alive dirty0 : List Nat)
    (b : List UA) (res : Result)
    (hrun : runBundle env cfg edges alive dirty0 b = .ok res)
    (hE : edgesCurrent edges (annot cfg b) = true) (r : Nat)
    (pre post : List (Config × UA)) (cu : Config × UA) (hL : annot cfg b = pre ++ cu :: post)
    (hm : mustTrig env cu.1 r cu.2 = true) (hp : prot env cu.1 r cu.2 = false)
    (hpost : ∀ x ∈ post, prot env x.1 r x.2 = false) (hal : r ∈ aliveAfter alive b) :
    r ∈ res.evaluated :=
  recalcSet_subset_mechanism env cfg edges alive dirty0 b res hrun hE r
    ⟨hal, pre, cu, post, hL, mustTrig_trig env cu.1 r cu.2 hm, hp, hpost⟩

example : mustTrig ⟨5, []⟩ ⟨.dflt, [2]⟩ 1 (.update [1, 2] [2, 3] [(1, 2), (2, 3)]) = true := by decide +kernel

theorem annot_snd : ∀ (b : List UA) (cfg : Config), (annot cfg b).map (·.2) = b
  | [], _ => rfl
  | ua :: rest, cfg => congrArg (ua :: ·) (annot_snd rest (cfgAfter cfg ua))

/-- A bundle made only of schema changes (rename, type change, formula change of any column, via
    `SingleRowsIdentityRelation`) and configuration changes evaluates no cell of the column. -/
theorem schema_only_never_recalculates (env : Env) (cfg : Config) (edges alive : List Nat)
    (b : List UA) (res : Result)
    (hall : ∀ ua ∈ b, (∃ c, ua = .schema c) ∨ (∃ c, ua = .setConfig c))
    (hrun : runBundle env cfg edges alive [] b = .ok res) : res.evaluated = [] := by
  rw [List.eq_nil_iff_forall_not_mem]
  intro r hr
  obtain ⟨y, rfl, _, hev⟩ := runBundle_cell hrun r
  rcases cellRun_dirty env edges r _ _ (hev.mp hr).1 with h | ⟨cu, hcu, h⟩
  · cases h
  · have hmem : cu.2 ∈ b := annot_snd b cfg ▸ List.mem_map_of_mem (f := (·.2)) hcu
    rcases hall cu.2 hmem with ⟨c, hc⟩ | ⟨c, hc⟩ <;> simp [hc, mentions] at h

example : (runBundle ⟨5, [(4, [2])]⟩ ⟨.dflt, [2, 4]⟩ [2, 4] [1, 2] []
    [.schema 2, .schema 4, .setConfig ⟨.manual, []⟩]).toOption.map (·.evaluated) = some [] := by decide +kernel

/-! ### the unrestricted statement is false: one witness per hypothesis of the partial theorem

FULL STATEMENT (unproved, FALSE of the code as it is):
  ∀ env cfg alive b res, runBundle env cfg (edgesOf cfg) alive [] b = .ok res →
    ∀ r, r ∈ res.evaluated ↔ RecalcSet env cfg alive b r
Every witness below is replayed on the real engine by harness/gx/props/c15.py (`witnesses`);
W-failed is about `dirty0 = []` in the partial theorem, not an instance of the above. -/

/-- How a witness refutes the full statement: one run where mechanism and `recalcB` differ. -/
theorem refute (env : Env) (cfg : Config) (edges alive dirty0 : List Nat) (b : List UA) (r : Nat)
    (ev : List Nat)
    (hev : (runBundle env cfg edges alive dirty0 b).toOption.map (·.evaluated) = some ev)
    (hne : decide (r ∈ ev) ≠ recalcB env cfg alive b r) :
    ¬ (∀ res, runBundle env cfg edges alive dirty0 b = .ok res →
        (r ∈ res.evaluated ↔ RecalcSet env cfg alive b r)) := by
  intro h
  cases hr : runBundle env cfg edges alive dirty0 b with
  | error e =>
    rw [hr] at hev
    simp [Except.toOption] at hev
  | ok res =>
    rw [hr] at hev
    simp only [Except.toOption, Option.map_some, Option.some.injEq] at hev
    have h1 := h res hr
    rw [hev, ← recalcB_iff_RecalcSet] at h1
    exact hne (Bool.eq_iff_iff.mpr (decide_eq_true_iff.trans h1))

/-- W-add (H-add): `AddRecord T {A:1, B:50}`, B DEFAULT with recalcDeps=[A]: the supplied value is
    recalculated (docactions.BulkAddRecord has no prevent_recalc). -/
theorem witness_add : ¬ (∀ res, runBundle ⟨5, []⟩ ⟨.dflt, [2]⟩ [2] [] [] [.add [1] [2, 5]] = .ok res →
    (1 ∈ res.evaluated ↔ RecalcSet ⟨5, []⟩ ⟨.dflt, [2]⟩ [] [.add [1] [2, 5]] 1)) :=
  refute _ _ _ _ _ _ 1 [1, 1] (by decide +kernel) (by decide +kernel)

/-- W-trim (H-trim): `UpdateRecord T 1 {A:5, B:<stored value>}`: B is trimmed away, not exempted. -/
theorem witness_trim : ¬ (∀ res, runBundle ⟨5, []⟩ ⟨.dflt, [2]⟩ [2] [1] []
      [.update [1] [2, 5] [(1, 2)]] = .ok res →
    (1 ∈ res.evaluated ↔ RecalcSet ⟨5, []⟩ ⟨.dflt, [2]⟩ [1] [.update [1] [2, 5] [(1, 2)]] 1)) :=
  refute _ _ _ _ _ _ 1 [1] (by decide +kernel) (by decide +kernel)

/-- W-last (H-last): `[UpdateRecord T 1 {A:5, B:80}, UpdateRecord T 2 {C:9}]`: the second user action
    clears the exemption of the first, the recalculation happens after both. -/
theorem witness_last : ¬ (∀ res, runBundle ⟨5, []⟩ ⟨.dflt, [2]⟩ [2] [1, 2] []
      [.update [1] [2, 5] [(1, 2), (1, 5)], .update [2] [3] [(2, 3)]] = .ok res →
    (1 ∈ res.evaluated ↔ RecalcSet ⟨5, []⟩ ⟨.dflt, [2]⟩ [1, 2]
      [.update [1] [2, 5] [(1, 2), (1, 5)], .update [2] [3] [(2, 3)]] 1)) :=
  refute _ _ _ _ _ _ 1 [1] (by decide +kernel) (by decide +kernel)

/-- W-stale (H-edges), too many: `[set recalcWhen=NEVER, UpdateRecord T 1 {A:5}]`: the edge to A
    still exists until the end of the bundle. -/
theorem witness_stale : ¬ (∀ res, runBundle ⟨5, []⟩ ⟨.dflt, [2]⟩ [2] [1] []
      [.setConfig ⟨.never, [2]⟩, .update [1] [2] [(1, 2)]] = .ok res →
    (1 ∈ res.evaluated ↔ RecalcSet ⟨5, []⟩ ⟨.dflt, [2]⟩ [1]
      [.setConfig ⟨.never, [2]⟩, .update [1] [2] [(1, 2)]] 1)) :=
  refute _ _ _ _ _ _ 1 [1] (by decide +kernel) (by decide +kernel)

/-- W-stale (H-edges), too few: `[set recalcDeps=[C], UpdateRecord T 1 {C:5}]`: no edge to C yet. -/
theorem witness_stale_missing : ¬ (∀ res, runBundle ⟨5, []⟩ ⟨.dflt, [2]⟩ [2] [1] []
      [.setConfig ⟨.dflt, [3]⟩, .update [1] [3] [(1, 3)]] = .ok res →
    (1 ∈ res.evaluated ↔ RecalcSet ⟨5, []⟩ ⟨.dflt, [2]⟩ [1]
      [.setConfig ⟨.dflt, [3]⟩, .update [1] [3] [(1, 3)]] 1)) :=
  refute _ _ _ _ _ _ 1 [] (by decide +kernel) (by decide +kernel)

/-- W-readd (H-fresh): `[UpdateRecord T 1 {A:5}, RemoveRecord T 1, AddRecord T 1 {B:70}]`, recalcWhen
    MANUAL_UPDATES (no edges, so not W-add): the recompute entry of the update survives the removal
    and recalculates the value supplied for the new record. -/
theorem witness_readd : ¬ (∀ res, runBundle ⟨5, []⟩ ⟨.manual, []⟩ [] [1] []
      [.update [1] [2] [(1, 2)], .remove [1], .add [1] [5]] = .ok res →
    (1 ∈ res.evaluated ↔ RecalcSet ⟨5, []⟩ ⟨.manual, []⟩ [1]
      [.update [1] [2] [(1, 2)], .remove [1], .add [1] [5]] 1)) :=
  refute _ _ _ _ _ _ 1 [1] (by decide +kernel) (by decide +kernel)

/-- W-failed (drained recompute map): an entry left by a failed bundle is evaluated by the next
    bundle, here the empty one (`Calculate`). -/
theorem witness_failed : ¬ (∀ res, runBundle ⟨5, []⟩ ⟨.dflt, [2]⟩ [2] [1] [1] [] = .ok res →
    (1 ∈ res.evaluated ↔ RecalcSet ⟨5, []⟩ ⟨.dflt, [2]⟩ [1] [] 1)) :=
  refute _ _ _ _ _ _ 1 [1] (by decide +kernel) (by decide +kernel)

-- W-add, W-trim, W-last, W-stale and W-readd against the hypothesis each is named after
example : addOk ⟨5, []⟩ ⟨.dflt, [2]⟩ (.add [1] [2, 5]) = false := by decide +kernel
example : trimOk ⟨5, []⟩ ⟨.dflt, [2]⟩ (.update [1] [2, 5] [(1, 2)]) = false ∧
    addOk ⟨5, []⟩ ⟨.dflt, [2]⟩ (.update [1] [2, 5] [(1, 2)]) = true := by decide +kernel
example : lastOk ⟨5, []⟩ (annot ⟨.dflt, [2]⟩ [.update [1] [2, 5] [(1, 2), (1, 5)], .update [2] [3] [(2, 3)]])
    = false ∧
    (annot ⟨.dflt, [2]⟩ [.update [1] [2, 5] [(1, 2), (1, 5)], .update [2] [3] [(2, 3)]]).all
      (fun cu => addOk ⟨5, []⟩ cu.1 cu.2 && trimOk ⟨5, []⟩ cu.1 cu.2) = true := by decide +kernel
example : edgesCurrent [2] (annot ⟨.dflt, [2]⟩ [.setConfig ⟨.never, [2]⟩, .update [1] [2] [(1, 2)]]) = false := by
  decide +kernel
example : freshOk (annot ⟨.manual, []⟩ [.update [1] [2] [(1, 2)], .remove [1], .add [1] [5]]) = false ∧
    lastOk ⟨5, []⟩ (annot ⟨.manual, []⟩ [.update [1] [2] [(1, 2)], .remove [1], .add [1] [5]]) = true := by
  decide +kernel

/-- **C15, full statement: FALSE.** -/
theorem trigger_mechanism_eq_spec_false :
    ¬ (∀ (env : Env) (cfg : Config) (alive : List Nat) (b : List UA) (res : Result),
        runBundle env cfg (edgesOf cfg) alive [] b = .ok res →
        ∀ r, r ∈ res.evaluated ↔ RecalcSet env cfg alive b r) := by
  intro h
  exact witness_add (fun res hr => h ⟨5, []⟩ ⟨.dflt, [2]⟩ [] [.add [1] [2, 5]] res hr 1)

end Grist.Trigger
