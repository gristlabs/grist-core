/-
C25  Migrations are total and reach the current schema.

Model: GristModel/Lenient.lean (`applyL`/`runL` = table_data_set.py `TableDataSet`, the interpreter
the migrations run against and the one `test_migrations` applies the emitted actions with).
Generated data: Generated/Migrations.lean, written on every run by harness/gx/translate.py
`gen_migrations()` from the REAL `create_migrations`: for each version v = 0..SCHEMA_VERSION the
metadata schema of the version-v document (`startSchemas`), the metadata schema actions emitted for
it (`schemaActs`), the current schema (`currentSchema` = `schema_create_actions()`), and the whole
list emitted for an already-current document (`currentActs`).

What is proved
  (i)   `migrate_schema_reaches_current`: for EVERY version v ≤ SCHEMA_VERSION, EVERY document
        (any data, any user tables) whose metadata schema is the version-v one, and EVERY action list
        whose metadata-schema-action subsequence is the generated one and whose actions each name
        only metadata tables or only user tables: if `TableDataSet` applies the list without raising,
        the metadata schema reached equals the current schema (as Python dicts: key order ignored —
        the order legitimately differs, e.g. `_grist_DocInfo.basketId` was added by migration 13
        after `schemaVersion` but is declared before it in schema.py).
        The per-version facts (`generated_reach`) follow from `generated_chain`, the kernel
        evaluation of the linear history on the generated data.
  (i')  `lenient_schema_data_independent`: the schema a run reaches depends only on the starting
        schema and the schema-action subsequence — for ALL data.
  (ii)  `migrate_frame` (+ `applyL_frame`): actions that name only `_grist_*` tables leave every
        other table untouched (row ids, every cell, schema); `user_schema_action_keeps_cells`: the
        schema actions that some old migrations emit ON user tables (ModifyColumn, AddColumn,
        RemoveColumn, RenameTable) keep the row ids and every cell of every other column.
  (iii) `current_only_version` (generated obligation) + `version_act_only_rewrites_version`: at the
        current version the emitted list is the single `UpdateRecord('_grist_DocInfo', 1,
        {'schemaVersion': SCHEMA_VERSION})`, which changes nothing but cells of that column.
What is NOT proved (searched by harness/gx/props/c25.py): totality of the data-dependent Python
bodies of the migrations (loops over records, JSON parsing), and that the emitted list has the
shape assumed in (i) for every document — both are checked per run on random documents.

-- FULL STATEMENT (unproved): "for any document at any older schema version whose metadata cells hold
-- values of their declared types, creating AND applying the migrations succeeds".  The creating half
-- is about the Python bodies of the 46 migration functions, which are not modelled; it is FALSE of the
-- code as it is: e.g. a version-44 document with a `_grist_Cells` record whose `content` is
-- `{"timeCreated": "yesterday"}` makes migration45 raise TypeError (23 such classes are recorded in
-- known_findings.json and replayed on the real code by harness/gx/props/c25.py on every run).  The
-- strongest true part is proved below: WHENEVER the list is produced and applied, the result is the
-- current schema, user tables are framed, and the shape conditions used are checked per run.
-/
import GristModel.Lenient
import GristProofs.Lenient
import Generated.Migrations
namespace Grist.Doc
open Grist.Generated.Migrations

/-! ### (i') the schema reached is independent of the data -/

/-- The `_schema` after a successful `apply_doc_actions` is the schema-only fold of the
    schema-action subsequence over the starting `_schema`: no cell, row id or record action matters. -/
theorem lenient_schema_of_run {d d' : LDoc} {acts : List LAction} (h : runL d acts = .ok d') :
    runSchema d.schema (acts.filter LAction.isSchema) = .ok d'.schema :=
  runSchema_filter (runL_schema h)

theorem lenient_schema_data_independent {d₁ d₂ d₁' d₂' : LDoc} {as₁ as₂ : List LAction}
    (hs : d₁.schema = d₂.schema)
    (ha : as₁.filter LAction.isSchema = as₂.filter LAction.isSchema)
    (h₁ : runL d₁ as₁ = .ok d₁') (h₂ : runL d₂ as₂ = .ok d₂') :
    d₁'.schema = d₂'.schema := by
  have e₁ := lenient_schema_of_run h₁
  have e₂ := lenient_schema_of_run h₂
  rw [hs, ha, e₂] at e₁
  exact (Except.ok.inj e₁).symm

/-- for the examples: the run succeeds and its result satisfies `p` -/
def okAnd {α : Type} (r : Except String α) (p : α → Bool) : Bool :=
  match r with
  | .ok a => p a
  | .error _ => false

/-- example: the same two schema actions interleaved with different records on different data -/
example :
    let d₁ : LDoc := ⟨[("T", ⟨[some 1], [("a", [.int 5])]⟩)], [("T", [("a", ⟨"Int", false, "", none⟩)])]⟩
    let d₂ : LDoc := ⟨[("T", ⟨[], [("a", [])]⟩)], [("T", [("a", ⟨"Int", false, "", none⟩)])]⟩
    let as₁ : List LAction := [.addColumn "T" "b" ⟨"Text", false, "", none⟩,
      .bulkUpdate "T" [some 1] [("b", [.str "x"])], .modifyColumn "T" "a" { type := some "Numeric" }]
    let as₂ : List LAction := [.bulkAdd "T" [none] [("a", [.int 1])],
      .addColumn "T" "b" ⟨"Text", false, "", none⟩, .modifyColumn "T" "a" { type := some "Numeric" }]
    okAnd (runL d₁ as₁) (fun r₁ => okAnd (runL d₂ as₂) (fun r₂ => r₁.schema == r₂.schema)) = true := by
  decide +kernel

/-! ### (i) every version reaches the current schema -/

def startSchema (v : Nat) : SDoc := startSchemas.getD v []
def emittedSchemaActs (v : Nat) : List LAction := schemaActs.getD v []

/-- version `v` reaches the current schema (as dicts) -/
def reaches (v : Nat) : Bool :=
  match runSchema (startSchema v) (emittedSchemaActs v) with
  | .ok s => schemaEqv s currentSchema
  | .error _ => false

theorem runSchema_append (s : SDoc) (as bs : List LAction) :
    runSchema s (as ++ bs) = (runSchema s as).bind fun s' => runSchema s' bs := by
  induction as generalizing s with
  | nil => rfl
  | cons a as ih =>
    simp only [List.cons_append, runSchema]
    cases applySchemaLenient s a with
    | error e => rfl
    | ok s' => exact ih s'

/-- The linear history, as data: the list emitted for version `v` is the schema actions of migration
    `v+1` followed by the list emitted for version `v+1`, and those first actions turn the version-`v`
    schema into exactly the version-`v+1` one (same insertion order). -/
def linked (v : Nat) : Bool :=
  let a := emittedSchemaActs v
  let k := a.length - (emittedSchemaActs (v + 1)).length
  decide (a.drop k = emittedSchemaActs (v + 1)) &&
    match runSchema (startSchema v) (a.take k) with
    | .ok s => decide (s = startSchema (v + 1))
    | .error _ => false

theorem reaches_of_linked {v : Nat} (hl : linked v = true) (hr : reaches (v + 1) = true) :
    reaches v = true := by
  simp only [linked, Bool.and_eq_true, decide_eq_true_eq] at hl
  obtain ⟨hdrop, hrun⟩ := hl
  unfold reaches at hr ⊢
  rw [← List.take_append_drop _ (emittedSchemaActs v), runSchema_append, hdrop]
  split at hrun
  · next s hs => rw [hs, of_decide_eq_true hrun]; exact hr
  · cases hrun

/-- GENERATED OBLIGATION, evaluated by the kernel on the data extracted from the real
    `create_migrations`: the versions are linked, and the last one has the current schema.  Every
    migration's actions are run once (evaluating `reaches v` for each `v` separately repeats them). -/
theorem generated_chain :
    ((List.range schemaVersion).all linked && reaches schemaVersion) = true := by
  decide +kernel

/-- `reaches v` for each version 0..SCHEMA_VERSION, by descending the chain. -/
theorem generated_reach : (List.range (schemaVersion + 1)).all reaches = true := by
  have hc := generated_chain
  simp only [Bool.and_eq_true, List.all_eq_true, List.mem_range] at hc
  have down : ∀ k, k ≤ schemaVersion → reaches (schemaVersion - k) = true := by
    intro k
    induction k with
    | zero => exact fun _ => hc.2
    | succ k ih =>
      intro hk
      refine reaches_of_linked (hc.1 _ (by omega)) ?_
      rw [show schemaVersion - (k + 1) + 1 = schemaVersion - k by omega]
      exact ih (by omega)
  rw [List.all_eq_true]
  intro v hv
  have hv := List.mem_range.1 hv
  rw [show v = schemaVersion - (schemaVersion - v) by omega]
  exact down _ (by omega)

/-- the metadata schema actions of a list: schema actions all of whose table ids are `_grist_*` -/
def metaSchemaActs (acts : List LAction) : List LAction :=
  acts.filter (fun a => a.isSchema && a.targetsMeta)

theorem migrate_schema_reaches_current (v : Nat) (hv : v ≤ schemaVersion)
    (d d' : LDoc) (acts : List LAction)
    (hstart : metaOf d.schema = startSchema v)
    (hacts : metaSchemaActs acts = emittedSchemaActs v)
    (hsep : ∀ a ∈ acts, a.targetsMeta = true ∨ a.targetsUser = true)
    (hrun : runL d acts = .ok d') :
    schemaEqv (metaOf d'.schema) currentSchema = true := by
  have h1 : runSchema _ (metaSchemaActs acts) = _ := runSchema_meta hsep (runL_schema hrun)
  rw [hstart, hacts] at h1
  have h3 : reaches v = true := by
    have h := generated_reach
    rw [List.all_eq_true] at h
    exact h v (List.mem_range.mpr (Nat.lt_succ_of_le hv))
  unfold reaches at h3
  rw [h1] at h3
  exact h3

/-- what `schemaEqv` says (Python `dict.__eq__` read left to right; lengths equal) -/
theorem schemaEqv_spec {a b : SDoc} (h : schemaEqv a b = true) :
    a.length = b.length ∧
    ∀ t sc, (t, sc) ∈ a → ∃ sc', b.get? t = some sc' ∧ sc.length = sc'.length ∧
      ∀ c ci, (c, ci) ∈ sc → sc'.get? c = some ci := by
  unfold schemaEqv dictEqv at h
  simp only [Bool.and_eq_true, beq_iff_eq, List.all_eq_true] at h
  refine ⟨h.1, ?_⟩
  intro t sc hm
  have h2 := h.2 (t, sc) hm
  simp only at h2
  split at h2
  · rename_i sc' hsc'
    simp only [Bool.and_eq_true, beq_iff_eq, List.all_eq_true] at h2
    refine ⟨sc', hsc', h2.1, ?_⟩
    intro c ci hc
    have h3 := h2.2 (c, ci) hc
    simp only at h3
    split at h3
    · rename_i ci' hci'
      rw [hci']; congr 1; exact (eq_of_beq h3).symm
    · cases h3
  · cases h2

/-- non-trivial instance: the version-0 document of test_migrations.py, with a user table, a record
    action and a user-table schema action mixed in -/
example : ∀ d', runL
      ⟨(startSchema 0).map (fun e => (e.1, (⟨[], e.2.map (fun c => (c.1, []))⟩ : TData))) ++
        [("Table1", ⟨[some 1], [("A", [.int 7])]⟩)],
       startSchema 0 ++ [("Table1", [("A", ⟨"Int", false, "", none⟩)])]⟩
      (.modifyColumn "Table1" "A" { type := some "Any" } ::
        .bulkAdd "_grist_Tables" [some 1] [("tableId", [.str "Table1"])] :: emittedSchemaActs 0) = .ok d' →
    schemaEqv (metaOf d'.schema) currentSchema = true := by
  intro d' h
  -- `metaOf` and `metaSchemaActs` are filters that keep the generated parts whole: it is enough to
  -- evaluate the filter tests on them
  have hs : ∀ e ∈ startSchema 0, isMetaTable e.1 = true := by decide +kernel
  have ha : ∀ a ∈ emittedSchemaActs 0, (a.isSchema && a.targetsMeta) = true := by decide +kernel
  have hu : isMetaTable "Table1" = false := by decide +kernel
  refine migrate_schema_reaches_current 0 (by decide) _ d' _ ?_ ?_ ?_ h
  · show List.filter _ (_ ++ [_]) = _
    rw [List.filter_append, List.filter_eq_self.2 hs, List.filter_cons_of_neg (by simp [hu])]
    exact List.append_nil _
  · show List.filter _ (_ :: _ :: _) = _
    rw [List.filter_cons_of_neg (by simp [LAction.isSchema, LAction.targetsMeta, LAction.targets, hu]),
      List.filter_cons_of_neg (by simp [LAction.isSchema]), List.filter_eq_self.2 ha]
  · intro a h
    rcases List.mem_cons.1 h with rfl | h
    · exact .inr (by simp [LAction.targetsUser, LAction.targets, hu])
    · rcases List.mem_cons.1 h with rfl | h
      · exact .inl (by decide +kernel)
      · exact .inl (Bool.and_eq_true_iff.1 (ha a h)).2

/-! ### (ii) frame -/

/-- Actions that name only metadata tables leave every user table untouched: same `TableData`
    (row ids and every cell) and same schema entry — for all documents. -/
theorem migrate_frame {d d' : LDoc} {acts : List LAction} {u : String}
    (hmeta : ∀ a ∈ acts, a.targetsMeta = true) (hu : isMetaTable u = false)
    (hrun : runL d acts = .ok d') :
    d'.allTables.get? u = d.allTables.get? u ∧ d'.schema.get? u = d.schema.get? u := by
  induction acts generalizing d with
  | nil => simp only [runL] at hrun; cases hrun; exact ⟨rfl, rfl⟩
  | cons a rest ih =>
    simp only [runL] at hrun
    split at hrun
    · cases hrun
    · rename_i d1 h1
      have hnot : u ∉ a.targets := by
        intro hin
        have := hmeta a (List.mem_cons_self ..)
        simp only [LAction.targetsMeta, List.all_eq_true] at this
        rw [this u hin] at hu; cases hu
      have f1 := applyL_frame h1 hnot
      have f2 := ih (fun b hb => hmeta b (List.mem_cons_of_mem _ hb)) hrun
      exact ⟨f2.1.trans f1.1, f2.2.trans f1.2⟩

example :
    let d : LDoc := ⟨[("_grist_Pages", ⟨[], [("viewRef", [])]⟩), ("Table1", ⟨[some 1, some 2], [("A", [.int 7, .str "x"])]⟩)],
                     [("_grist_Pages", [("viewRef", ⟨"Ref:_grist_Views", false, "", none⟩)]), ("Table1", [("A", ⟨"Int", false, "", none⟩)])]⟩
    let acts : List LAction := [.addColumn "_grist_Pages" "options" ⟨"Text", false, "", none⟩,
                                .bulkAdd "_grist_Pages" [none] [("viewRef", [.int 3])]]
    (∀ a ∈ acts, a.targetsMeta = true) ∧ isMetaTable "Table1" = false ∧
      okAnd (runL d acts) (fun d' => d'.allTables.get? "Table1" == d.allTables.get? "Table1") = true := by
  decide +kernel

/-- The schema actions that old migrations emit on USER tables keep the rows and cells:
    ModifyColumn (m3, m7, m17, m28) touches no `TableData` at all; AddColumn (m10) and RemoveColumn
    (m7) keep the row ids and every other column; RenameTable (m7, m31) moves the `TableData`
    unchanged to the new id. -/
theorem user_schema_action_keeps_cells {d d' : LDoc} :
    (∀ t c p, applyL d (.modifyColumn t c p) = .ok d' → d'.allTables = d.allTables) ∧
    (∀ t c info td, applyL d (.addColumn t c info) = .ok d' → d.allTables.get? t = some td →
      ∃ td', d'.allTables.get? t = some td' ∧ td'.rowIds = td.rowIds ∧
        ∀ c', c' ≠ c → td'.columns.get? c' = td.columns.get? c') ∧
    (∀ t c td, applyL d (.removeColumn t c) = .ok d' → d.allTables.get? t = some td →
      ∃ td', d'.allTables.get? t = some td' ∧ td'.rowIds = td.rowIds ∧
        ∀ c', c' ≠ c → td'.columns.get? c' = td.columns.get? c') ∧
    (∀ old new, applyL d (.renameTable old new) = .ok d' →
      d'.allTables.get? new = d.allTables.get? old) := by
  refine ⟨?_, ?_, ?_, ?_⟩
  · intro t c p h
    simp only [applyL] at h
    split at h
    · cases h
    · split at h
      · cases h
      · cases h; rfl
  · intro t c info td h htd
    simp only [applyL] at h
    split at h
    · cases h
    · split at h
      · cases h
      · rename_i td0 htd0
        rw [htd] at htd0; cases htd0
        cases h
        refine ⟨_, Dict.get?_set_self _ _ _, rfl, ?_⟩
        intro c' hc'
        exact Dict.get?_set_ne _ _ _ _ hc'
  · intro t c td h htd
    simp only [applyL] at h
    split at h
    · cases h
    · split at h
      · cases h
      · rename_i td0 htd0
        rw [htd] at htd0; cases htd0
        cases h
        refine ⟨_, Dict.get?_set_self _ _ _, rfl, ?_⟩
        intro c' hc'
        exact Dict.get?_erase_ne _ _ _ hc'
  · intro old new h
    simp only [applyL] at h
    split at h
    · cases h
    · rename_i td htd
      split at h
      · cases h
      · cases h
        simp only
        rw [Dict.get?_set_self, htd]

example :
    let d : LDoc := ⟨[("Table1", ⟨[some 1, some 2], [("A", [.int 7, .str "x"]), ("B", [.null, .null])]⟩)],
                     [("Table1", [("A", ⟨"Int", false, "", none⟩), ("B", ⟨"Any", false, "", none⟩)])]⟩
    okAnd (applyL d (.removeColumn "Table1" "B")) (fun d' => d'.allTables ==
      [("Table1", ⟨[some 1, some 2], [("A", [.int 7, .str "x"])]⟩)]) = true := by
  decide +kernel

/-! ### (iii) an already-current document -/

/-- `actions.UpdateRecord('_grist_DocInfo', 1, {'schemaVersion': n})` -/
def versionAct (n : Nat) : LAction :=
  .bulkUpdate "_grist_DocInfo" [some 1] [("schemaVersion", [.int (Int.ofNat n)])]

/-- GENERATED OBLIGATION: what the real `create_migrations` emitted for the current-version document
    is exactly the single schemaVersion update. -/
theorem current_only_version : currentActs = [versionAct schemaVersion] := by
  decide +kernel

theorem updateColumns_single {idx : List Nat} {c : String} {vals : List Val} {cols cs : Dict (List Val)}
    (h : updateColumns idx [(c, vals)] cols = .ok cs) :
    ∀ c', c' ≠ c → cs.get? c' = cols.get? c' := by
  intro c' hc'
  simp only [updateColumns] at h
  split at h
  · cases h; rfl
  · split at h
    · cases h
    · cases h; exact Dict.get?_set_ne _ _ _ _ hc'

/-- That action rewrites nothing but cells of `_grist_DocInfo.schemaVersion`: the schema, every other
    table, the row ids of `_grist_DocInfo` and every other column of it are unchanged (all docs). -/
theorem version_act_only_rewrites_version {d d' : LDoc} {n : Nat}
    (h : applyL d (versionAct n) = .ok d') :
    d'.schema = d.schema ∧
    (∀ u, u ≠ "_grist_DocInfo" → d'.allTables.get? u = d.allTables.get? u) ∧
    (∀ td, d.allTables.get? "_grist_DocInfo" = some td →
      ∃ td', d'.allTables.get? "_grist_DocInfo" = some td' ∧ td'.rowIds = td.rowIds ∧
        ∀ c, c ≠ "schemaVersion" → td'.columns.get? c = td.columns.get? c) := by
  refine ⟨?_, ?_, ?_⟩
  · simp only [versionAct, applyL] at h; exact lBulkUpdate_schema h
  · intro u hu
    exact (applyL_frame h (by simpa [versionAct, LAction.targets] using hu)).1
  · intro td htd
    simp only [versionAct, applyL] at h
    unfold lBulkUpdate at h
    rw [htd] at h
    simp only at h
    split at h
    · cases h
    · split at h
      · cases h
      · rename_i cs hcs
        cases h
        refine ⟨_, Dict.get?_set_self _ _ _, rfl, ?_⟩
        intro c hc
        exact updateColumns_single hcs c hc

example :
    let d : LDoc := ⟨[("_grist_DocInfo", ⟨[some 1], [("docId", [.str "x"]), ("schemaVersion", [.int 46])]⟩)],
                     [("_grist_DocInfo", [("docId", ⟨"Text", false, "", none⟩), ("schemaVersion", ⟨"Int", false, "", none⟩)])]⟩
    okAnd (applyL d (versionAct 46)) (fun d' => d' == d) = true := by
  decide +kernel

end Grist.Doc
