/-
C38  Node and the engine agree on metadata schema and type defaults.

Proof by regeneration: `Generated.*` is the CURRENT tree as data (harness/gx/translate.py,
re-run by every check), so the closed theorems below are re-proved (or fail) for whatever the tree
is at run time.
  * closed, about the current tree:  `schema_ts_matches_python`, `schema_ts_columns_match`,
    `defaults_agree`, `defaults_agree_everywhere`
    (`schema_ts_text_matches` is in GristProps/C38Text.lean)
  * general, for all schemas / default tables (what the Boolean checks MEAN):
    `agree_iff`, `agree_lookup`, `tsTypeOf_suffix`, `tsDefault_suffix`, `pyDefault_suffix`,
    `defaultsAgree_sound`, `defaultsAgree_total`
Model: GristModel/SchemaGen.lean (gen_js_schema.py, usertypes.get_type_default,
gristTypes.getDefaultForType).  Helper lemmas for the general part: GristProofs/SchemaGen.lean.
The closed theorems evaluate the checks on the data read as character lists
(GristProofs/SchemaChars.lean: `agree_of_read`, `defaultsAgree_of_read`).
-/
import GristModel.SchemaGen
import GristProofs.SchemaGen
import GristProofs.SchemaChars
import Generated.SchemaPy
import Generated.SchemaTs
import Generated.DefaultsPy
import Generated.DefaultsTs
namespace Grist.SchemaGen

/-! ## General: what `agree p t = true` means -/

/-- Table `pt` of the Python schema is rendered as block `st` of `schema` and block `it` of
`SchemaTypes`: same name, same number of columns (nothing extra on either side), and column by
column, in order, the same id with the same Grist type resp. with `get_ts_type` of it. -/
structure TableAgrees (pt : TableSchema) (st it : TsTable) : Prop where
  schemaName : st.tableId = pt.tableId
  ifaceName : it.tableId = pt.tableId
  schemaCount : st.entries.length = pt.columns.length
  ifaceCount : it.entries.length = pt.columns.length
  schemaCol : ∀ (j : Nat) (h : j < pt.columns.length),
    st.entries[j]? = some ⟨pt.columns[j].id, pt.columns[j].type⟩
  ifaceCol : ∀ (j : Nat) (h : j < pt.columns.length),
    it.entries[j]? = some ⟨pt.columns[j].id, tsTypeOf pt.columns[j].type⟩

/-- Same version; same number of tables on both sides, in both TS blocks; table by table in order
`TableAgrees`. -/
structure Agrees (p : PySchema) (t : TsSchema) : Prop where
  version : p.version = t.version
  schemaCount : t.schema.length = p.tables.length
  ifaceCount : t.iface.length = p.tables.length
  tables : ∀ (i : Nat) (h : i < p.tables.length),
    ∃ st it, t.schema[i]? = some st ∧ t.iface[i]? = some it ∧ TableAgrees p.tables[i] st it

/-- The Boolean check is exactly the column-by-column specification (both directions, all inputs). -/
theorem agree_iff (p : PySchema) (t : TsSchema) : agree p t = true ↔ Agrees p t := by
  unfold agree expectedSchema expectedIface
  simp only [Bool.and_eq_true, decide_eq_true_eq]
  constructor
  · rintro ⟨⟨hv, hs⟩, hi⟩
    obtain ⟨hsl, hsx⟩ := (map_eq_iff_index _ _ _).mp hs
    obtain ⟨hil, hix⟩ := (map_eq_iff_index _ _ _).mp hi
    refine ⟨hv, hsl, hil, fun i h => ⟨_, _, hsx i h, hix i h, ?_⟩⟩
    have a := (tsTable_eq_iff p.tables[i].tableId p.tables[i].columns
      (fun c => ⟨c.id, c.type⟩) _).mp rfl
    have b := (tsTable_eq_iff p.tables[i].tableId p.tables[i].columns
      (fun c => ⟨c.id, tsTypeOf c.type⟩) _).mp rfl
    exact ⟨a.1, b.1, a.2.1, b.2.1, a.2.2, b.2.2⟩
  · intro h
    refine ⟨⟨h.version, ?_⟩, ?_⟩
    · refine (map_eq_iff_index _ _ _).mpr ⟨h.schemaCount, fun i hi => ?_⟩
      obtain ⟨st, it, h1, _, ha⟩ := h.tables i hi
      rw [h1]
      exact congrArg some ((tsTable_eq_iff _ _ _ st).mpr ⟨ha.schemaName, ha.schemaCount, ha.schemaCol⟩)
    · refine (map_eq_iff_index _ _ _).mpr ⟨h.ifaceCount, fun i hi => ?_⟩
      obtain ⟨st, it, _, h2, ha⟩ := h.tables i hi
      rw [h2]
      exact congrArg some ((tsTable_eq_iff _ _ _ it).mpr ⟨ha.ifaceName, ha.ifaceCount, ha.ifaceCol⟩)

/-- A small schema pair on which `agree` holds; the examples below show that the check is not
constantly true: a stale version, a swapped table order, a missing column and a wrong TS type all fail. -/
def exPy : PySchema := ⟨46, [⟨"_grist_Tables", [⟨"tableId", "Text", false, ""⟩,
  ⟨"primaryViewId", "Ref:_grist_Views", false, ""⟩, ⟨"onDemand", "Bool", false, ""⟩]⟩,
  ⟨"_grist_Imports", [⟨"parseFormula", "Text", true, "grist.parseImport(rec, table._engine)"⟩,
  ⟨"when", "DateTime:UTC", false, ""⟩, ⟨"x", "Numeric", false, ""⟩]⟩]⟩
def exTs : TsSchema := ⟨46,
  [⟨"_grist_Tables", [⟨"tableId", "Text"⟩, ⟨"primaryViewId", "Ref:_grist_Views"⟩, ⟨"onDemand", "Bool"⟩]⟩,
   ⟨"_grist_Imports", [⟨"parseFormula", "Text"⟩, ⟨"when", "DateTime:UTC"⟩, ⟨"x", "Numeric"⟩]⟩],
  [⟨"_grist_Tables", [⟨"tableId", "string"⟩, ⟨"primaryViewId", "number"⟩, ⟨"onDemand", "boolean"⟩]⟩,
   ⟨"_grist_Imports", [⟨"parseFormula", "string"⟩, ⟨"when", "number"⟩, ⟨"x", "CellValue"⟩]⟩]⟩
example : agree exPy exTs = true := by decide +kernel
example : agree exPy { exTs with version := 45 } = false := by decide +kernel
example : agree { exPy with tables := exPy.tables.reverse } exTs = false := by decide +kernel
example : agree exPy { exTs with schema := exTs.schema.map fun t => { t with entries := t.entries.drop 1 } } = false := by
  decide +kernel
example : agree exPy { exTs with iface := exTs.iface.map fun t =>
    { t with entries := t.entries.map fun e => if e.id = "x" then ⟨"x", "number"⟩ else e } } = false := by
  decide +kernel

/-- Consequence by NAME, for every table and column name whatsoever (so also: a name unknown to
Python is unknown to `schema.ts` and conversely): `schema` gives the Python column type and
`SchemaTypes` gives `get_ts_type` of it. -/
theorem agree_lookup (p : PySchema) (t : TsSchema) (h : agree p t = true) (tbl col : String) :
    tsColType t.schema tbl col = pyColType p tbl col ∧
    tsColType t.iface tbl col = (pyColType p tbl col).map tsTypeOf := by
  unfold agree at h
  simp only [Bool.and_eq_true, decide_eq_true_eq] at h
  obtain ⟨⟨_, hs⟩, hi⟩ := h
  rw [← hs, ← hi]
  unfold expectedSchema expectedIface
  rw [tsColType_map _ (fun _ => rfl), tsColType_map _ (fun _ => rfl)]
  unfold pyColType
  refine ⟨rfl, ?_⟩
  cases p.tables.find? (·.tableId == tbl) with
  | none => rfl
  | some pt =>
    simp only [Option.bind_some]
    cases pt.columns.find? (·.id == col) <;> rfl

example : tsColType exTs.iface "_grist_Imports" "when" = some "number" ∧
    tsColType exTs.schema "_grist_Imports" "nope" = none := by decide +kernel

/-- `get_ts_type` ignores everything after the first colon (`Ref:<table>`, `DateTime:<tz>`), for
every colon-free base type and every suffix. -/
theorem tsTypeOf_suffix (b s : String) (hb : ':' ∉ b.toList) : tsTypeOf (b ++ ":" ++ s) = tsTypeOf b := by
  unfold tsTypeOf
  rw [pureType_suffix b s hb, pureType_of_no_colon b hb]

example : tsTypeOf "Ref:_grist_Tables:x" = "number" ∧ tsTypeOf "Reference" = "CellValue" := by decide +kernel

/-! ## General: what `defaultsAgree = true` means -/

/-- `getDefaultForType('Ref:Foo') = getDefaultForType('Ref')`, generally. -/
theorem tsDefault_suffix (ts : DefaultTable) (b s : String) (hb : ':' ∉ b.toList) :
    tsDefault ts (b ++ ":" ++ s) = tsDefault ts b := by
  rw [← tsDefault_pure, pureType_suffix b s hb]

theorem pyDefault_suffix (py : DefaultTable) (b s : String) (hb : ':' ∉ b.toList) :
    pyDefault py (b ++ ":" ++ s) = pyDefault py b := by
  rw [← pyDefault_pure, pureType_suffix b s hb]

/-- The Boolean check implies agreement of the two default functions on every type named by
either table and on every probed column type. -/
theorem defaultsAgree_sound (py ts : DefaultTable) (extra : List String)
    (h : defaultsAgree py ts extra = true) (ty : String)
    (hty : ty ∈ py.map (·.1) ∨ ty ∈ ts.map (·.1) ∨ ty ∈ extra) :
    tsDefault ts ty = some (pyDefault py ty) := by
  unfold defaultsAgree at h
  rw [List.all_eq_true] at h
  have := h ty (by
    simp only [List.mem_append]
    rcases hty with a | a | a
    · exact Or.inl (Or.inl a)
    · exact Or.inl (Or.inr a)
    · exact Or.inr a)
  exact of_decide_eq_true this

/-- When the probe set contains one type name unknown to both tables, agreement holds on EVERY column
type string (known, unknown, with or without a `:suffix`): `getDefaultForType` and
`get_type_default` are the same function. -/
theorem defaultsAgree_total (py ts : DefaultTable) (extra : List String)
    (h : defaultsAgree py ts extra = true) (u : String) (hu : u ∈ extra)
    (hupy : pureType u ∉ py.map (·.1)) (huts : pureType u ∉ ts.map (·.1)) (ty : String) :
    tsDefault ts ty = some (pyDefault py ty) := by
  rw [← tsDefault_pure, ← pyDefault_pure]
  by_cases hk : pureType ty ∈ py.map (·.1) ∨ pureType ty ∈ ts.map (·.1)
  · exact defaultsAgree_sound py ts extra h _ (hk.elim Or.inl (fun a => Or.inr (Or.inl a)))
  · have hk1 : pureType ty ∉ py.map (·.1) := fun x => hk (Or.inl x)
    have hk2 : pureType ty ∉ ts.map (·.1) := fun x => hk (Or.inr x)
    have hu' := defaultsAgree_sound py ts extra h u (Or.inr (Or.inr hu))
    unfold tsDefault pyDefault at hu' ⊢
    rw [pureType_idem, lookup_none_of_not_mem_keys _ _ hk1, lookup_none_of_not_mem_keys _ _ hk2]
    rw [lookup_none_of_not_mem_keys _ _ hupy, lookup_none_of_not_mem_keys _ _ huts] at hu'
    exact hu'

def exPyDef : DefaultTable := [("Any", .null), ("Int", .num 0), ("Numeric", .num 0), ("Text", .str ""),
  ("ManualSortPos", .posInf), ("Bool", .bool false)]
def exTsDef : DefaultTable := [("Bool", .bool false), ("Any", .null), ("Int", .num 0), ("Text", .str ""),
  ("ManualSortPos", .posInf), ("Numeric", .num 0)]
example : defaultsAgree exPyDef exTsDef ["Zzz", "Int:x"] = true ∧ pureType "Zzz" ∉ exPyDef.map (·.1) ∧
    pureType "Zzz" ∉ exTsDef.map (·.1) := by decide +kernel
-- not constantly true: `0` vs `false`, `''` vs `null`, a non-null `Any` fallback all fail
example : defaultsAgree exPyDef (("Int", .bool false) :: exTsDef.drop 3 ++ exTsDef.take 2) [] = false := by decide +kernel
example : defaultsAgree (("Text", .null) :: exPyDef) exTsDef [] = false := by decide +kernel
example : defaultsAgree [("Any", .num 0)] [("Any", .num 0)] ["Zzz"] = false := by decide +kernel

/-! ## Closed: the current tree (regenerated data) -/
open Grist.Generated

/-- app/common/schema.ts (parsed) carries the version, tables, columns and types of schema.py,
and its `SchemaTypes` carries `get_ts_type` of them. -/
theorem schema_ts_matches_python : agree pySchema tsSchema = true := by
  apply agree_of_read rfl rfl
  case hS | hI => repeat first | with_reducible constructor | constructor
  case h => decide +kernel

/-- `schema_ts_matches_python` spelled out column by column. -/
theorem schema_ts_columns_match : Agrees pySchema tsSchema :=
  (agree_iff _ _).mp schema_ts_matches_python

/-- every type named by usertypes.py or by gristTypes.ts, every column type of the metadata
schema, and one unknown type name, have equal defaults. -/
theorem defaults_agree : defaultsAgree pyDefaults tsDefaults (unknownType :: colTypes) = true := by
  apply defaultsAgree_of_read
  case hP | hT | hX => repeat first | with_reducible constructor | constructor
  case h => decide +kernel

/-- hence `getDefaultForType(t)` (gristTypes.ts) equals `get_type_default(t)` (usertypes.py) for
every string `t`. -/
theorem defaults_agree_everywhere (ty : String) :
    tsDefault tsDefaults ty = some (pyDefault pyDefaults ty) :=
  defaultsAgree_total _ _ _ defaults_agree unknownType List.mem_cons_self
    (by decide +kernel) (by decide +kernel) ty

end Grist.SchemaGen
