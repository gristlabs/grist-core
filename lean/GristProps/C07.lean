/-
C07  Reopening a saved document changes nothing  -- value level, on GristModel/PyVal.lean.
A formula result `v` in a column of type `τ` is kept as `c = column.convert(v)`, saved as `encode c`,
marshalled, read back by `_decode_db_value` and `column.set` (`reloadCell`); `Calculate` on the
reloaded engine recomputes `c`.  `Engine._recompute_step` records a change when
`not strict_equal(new, previous)` and `ActionSummary._changes_to_actions` drops every recorded change
with `equal_encoding(before, after)`: an action is emitted only if BOTH say "different", so the
theorems show `equalEncoding`.  `Comparable` (no nested NaN, distinct dict keys) is defined here.
-/
import GristProofs.PyValColumn
import GristProps.C24
namespace Grist.PyVal

/-- scalars are stored as themselves and compound encodings as marshalled blobs; either way the
    value handed to `column.set` is `decode_object` of the encoding -/
theorem dbDecode_eq_decode (P : Prim) (e : Enc) : dbDecode P e = decode P e := by
  cases e <;> rfl

theorem refListPre_idem (P : Prim) (v : PyVal) : refListPre P (refListPre P v) = refListPre P v := by
  rcases refListPre_cases P v with h | ⟨m, xs, h, _⟩ | ⟨rows, h⟩
  · rw [h]
    exact h
  · rw [h]
    rfl
  · rw [h]
    rfl

/-- **the per-type normalisations of `column.set` are idempotent**: Bool (1/1.0 -> True,
    0/0.0 -> False), Numeric/Date/DateTime/PositionNumber (int -> float), ChoiceList (list or JSON
    text -> tuple), Ref (positive integral float -> int), RefList (JSON / RecordList text -> list) -/
theorem colSet_idem (P : Prim) (τ : ColType) (v x : PyVal) (h : colSet P τ v = .ok x) :
    colSet P τ x = .ok x := by
  -- either the value was left alone, and `h` is the claim, or the result is a normal form on which
  -- `colSet` computes to the identity, or (RefList) it is `refListPre v`
  have h0 := h
  revert h
  fun_cases colSet P τ v <;> intro h <;> cases h
  all_goals first | exact h0 | rfl | exact congrArg Except.ok (refListPre_idem P v)

mutual
/-- `Comparable e`: no NaN inside `e`, and the keys of every dict inside `e` are distinct (they are,
    in a Python dict).  Python's `==` on such a structure and an equal copy of it is True. -/
def Comparable : Enc → Bool
  | .float (.nan _) => false
  | .list xs => ComparableL xs
  | .tuple xs => ComparableL xs
  | .dict ks vs => decide ((ks.map (·.1)).Nodup) && ComparableL vs
  | _ => true
def ComparableL : List Enc → Bool
  | [] => true
  | x :: xs => Comparable x && ComparableL xs
end

theorem encEqAt_self : ∀ (ks : List (Str × Bool)) (vs : List Enc) (k : Str × Bool) (v : Enc)
    (pre : List (Str × Bool)) (pv : List Enc),
    pre.length = pv.length → (∀ p ∈ pre, p.1 ≠ k.1) →
    encEqAt k.1 v (pre ++ k :: ks) (pv ++ v :: vs) = encEq v v := by
  intro ks vs k v pre
  induction pre with
  | nil =>
    intro pv hl _
    cases pv with
    | nil => simp only [List.nil_append, encEqAt, if_true]
    | cons q qs => cases hl
  | cons p ps ih =>
    intro pv hl hne
    cases pv with
    | nil => cases hl
    | cons q qs =>
      have h1 : p.1 ≠ k.1 := hne p List.mem_cons_self
      simp only [List.cons_append, encEqAt, h1, if_false]
      exact ih qs (by simpa using hl) (fun x hx => hne x (by simp [hx]))

mutual
theorem encEq_refl : ∀ e : Enc, Comparable e = true → encEq e e = true
  | .none, _ => by simp [encEq]
  | .bool b, _ => by cases b <;> simp [encEq, encNumKey]
  | .int n, _ => by simp [encEq, encNumKey]
  | .float f, h => by
    cases f
    case nan => cases h
    all_goals simp [encEq, encNumKey]
  | .str s, _ => by simp [encEq]
  | .list xs, h => by
    simp only [Comparable] at h
    simp [encEq, encEqL_refl xs h]
  | .tuple xs, h => by
    simp only [Comparable] at h
    simp [encEq, encEqL_refl xs h]
  | .dict ks vs, h => by
    simp only [Comparable, Bool.and_eq_true, decide_eq_true_eq] at h
    simp only [encEq, decide_true, Bool.true_and]
    exact encEqD_refl [] [] ks vs rfl h.1 h.2
theorem encEqL_refl : ∀ xs : List Enc, ComparableL xs = true → encEqL xs xs = true
  | [], _ => by simp [encEqL]
  | x :: xs, h => by
    simp only [ComparableL, Bool.and_eq_true] at h
    simp [encEqL, encEq_refl x h.1, encEqL_refl xs h.2]
/-- the items after a prefix `pre`/`pv` of a dict all find themselves in the whole dict -/
theorem encEqD_refl : ∀ (pre : List (Str × Bool)) (pv : List Enc) (ks : List (Str × Bool)) (vs : List Enc),
    pre.length = pv.length → ((pre ++ ks).map (·.1)).Nodup → ComparableL vs = true →
    encEqD ks vs (pre ++ ks) (pv ++ vs) = true
  | pre, pv, [], vs, _, _, _ => by cases vs <;> simp [encEqD]
  | pre, pv, k :: ks, [], _, _, _ => by simp [encEqD]
  | pre, pv, k :: ks, v :: vs, hl, hnd, hc => by
    simp only [ComparableL, Bool.and_eq_true] at hc
    simp only [encEqD, Bool.and_eq_true]
    constructor
    · rw [encEqAt_self ks vs k v pre pv hl]
      · exact encEq_refl v hc.1
      · intro p hp heq
        simp only [List.map_append, List.map_cons] at hnd
        have := List.nodup_append.mp hnd
        exact this.2.2 p.1 (List.mem_map.mpr ⟨p, hp, rfl⟩) k.1 (by simp) heq
    · have := encEqD_refl (pre ++ [k]) (pv ++ [v]) ks vs (by simp [hl]) (by simpa using hnd) hc.2
      simpa using this
end

theorem isFloat_cases (v : PyVal) (h : v.isFloat = true) : ∃ f s, v = .float f s := by
  cases v
  case float f s => exact ⟨f, s, rfl⟩
  all_goals cases h

theorem isBool_cases (v : PyVal) (h : v.isBool = true) : ∃ x, v = .bool x := by
  cases v
  case bool x => exact ⟨x, rfl⟩
  all_goals cases h

theorem encode_eq_float (P : Prim) (b : PyVal) (f : F) (h : encode P b = .float f) :
    ∃ s, b = .float f s := by
  revert h
  fun_cases encode P b <;> intro h <;> cases h
  exact ⟨_, rfl⟩

theorem encode_eq_bool (P : Prim) (b : PyVal) (x : Bool) (h : encode P b = .bool x) : b = .bool x := by
  revert h
  fun_cases encode P b <;> intro h <;> cases h
  rfl

/-- values with the same encoding are equal for `equal_encoding`, unless a NaN is nested inside a
    list / dict (a top-level NaN is fine: equal_encoding treats two NaNs as equal) -/
theorem equalEncoding_of_encode_eq (P : Prim) (a b : PyVal) (h : encode P a = encode P b)
    (hc : b.isFloat = true ∨ Comparable (encode P b) = true) : equalEncoding P a b = true := by
  cases hb : b.isFloat
  · -- then `a` is not a float either
    have hcmp : Comparable (encode P b) = true := hc.resolve_left (by rw [hb]; exact Bool.false_ne_true)
    have ha : a.isFloat = false := by
      cases ha : a.isFloat
      · rfl
      · obtain ⟨g, s, rfl⟩ := isFloat_cases a ha
        obtain ⟨s', rfl⟩ := encode_eq_float P b g h.symm
        cases hb
    by_cases hbool : (a.isBool || b.isBool) = true
    · -- one is a bool: then both are the same bool
      obtain ⟨x, rfl, rfl⟩ : ∃ x, a = .bool x ∧ b = .bool x := by
        rcases Bool.or_eq_true _ _ |>.mp hbool with h1 | h1
        · obtain ⟨x, rfl⟩ := isBool_cases a h1
          exact ⟨x, rfl, encode_eq_bool P b x h.symm⟩
        · obtain ⟨x, rfl⟩ := isBool_cases b h1
          exact ⟨x, encode_eq_bool P a x h, rfl⟩
      cases x <;> rfl
    · unfold equalEncoding
      split
      · cases ha
      · rw [if_neg hbool, h]
        exact encEq_refl _ hcmp
  · obtain ⟨f, s, rfl⟩ := isFloat_cases b hb
    obtain ⟨s', rfl⟩ := encode_eq_float P a f h
    cases f <;> simp [equalEncoding, numKey]

theorem raised_reload_shape (P : Prim) (m : Meta) (n ms d : Enc) (ui : List PyVal) :
    ∃ m' ui', decode P (encode P (.raised m n ms d ui)) = .raised m' n ms d ui' := by
  cases ui with
  | nil => exact ⟨_, _, decodeArgs_encodeArgs_none P n ms d⟩
  | cons x xs => exact ⟨_, _, rfl⟩

theorem decode_encode_plain (P : Prim) (c : PyVal) (h : isPlain c = true) :
    decode P (encode P c) = c := by
  revert h
  fun_cases isPlain c <;> intro h
  -- case 5: a 32-bit int; case 6: not plain
  case case5 =>
    rw [encode, if_pos h]
    rfl
  case case6 => cases h
  all_goals rfl

theorem decode_encode_seq (P : Prim) (c : PyVal) (h : isSeq c = true) :
    isSeq (decode P (encode P c)) = true := by
  revert h
  fun_cases isSeq c <;> intro h
  case case4 => cases h
  all_goals rfl

/-- **The reloaded cell encodes exactly like the saved one.**  `c` is a cell as `convert` leaves it
    (`hsh`) on which `column.set` is the identity (`hfix`). -/
theorem reload_encode (P : Prim) (hP : DateNodeOK P) (τ : ColType) (c : PyVal)
    (hsh : shapeOK τ c = true ∨ c.isRaised = true) (hfix : colSet P τ c = .ok c)
    (hstr : reparses τ = true → c.isStr = false) (hdec : Decodable P c) :
    ∃ x, reloadCell P τ c = .ok x ∧ encode P x = encode P c := by
  unfold reloadCell
  rw [dbDecode_eq_decode]
  have hrt := encode_decode_encode P hP c hdec
  rcases hsh with hsh | hr
  · rcases shapeOK_cases τ c hsh with rfl | rfl | hp | hq | ⟨hrep, hs⟩
    · exact ⟨_, rfl, hrt⟩
    · exact ⟨_, rfl, hrt⟩
    -- an exact scalar is read back as itself
    · rw [decode_encode_plain P c hp]
      exact ⟨c, hfix, rfl⟩
    -- a sequence is read back as a list, which `set` may only turn into a tuple
    · obtain ⟨x, hx, ex⟩ := colSet_seq P τ _ (decode_encode_seq P c hq)
      exact ⟨x, hx, ex.trans hrt⟩
    · rw [hstr hrep] at hs
      cases hs
  · cases c
    case raised m n ms d ui =>
      obtain ⟨m', ui', hd⟩ := raised_reload_shape P m n ms d ui
      rw [hd] at hrt ⊢
      exact ⟨_, colSet_raised P τ _ rfl, hrt⟩
    all_goals cases hr

/-- Any cell a column of type `τ` can hold (`hst`), not a text that `set` parses again (`hstr`):
    `column.set` leaves it alone, and after save and reload `equal_encoding` finds it unchanged. -/
theorem reload_stored (P : Prim) (hP : DateNodeOK P) (τ : ColType) (c : PyVal)
    (hst : shapeOK τ c = true ∨ c.isRaised = true) (hstr : reparses τ = true → c.isStr = false)
    (hdec : Decodable P c) (hcmp : c.isFloat = true ∨ Comparable (encode P c) = true) :
    colSet P τ c = .ok c ∧ ∃ x, reloadCell P τ c = .ok x ∧ equalEncoding P x c = true := by
  have hfix := colSet_stored P τ c hst hstr
  obtain ⟨x, hx, henc⟩ := reload_encode P hP τ c hst hfix hstr hdec
  exact ⟨hfix, x, hx, equalEncoding_of_encode_eq P x c henc hcmp⟩

/-- **C07: the reloaded cell is indistinguishable from the recomputed one.**  `column.set` is the
    identity on `c = column.convert(v)`, so `c` is the stored cell; after save and reload the cell
    is `x`, and `equal_encoding(x, c)` holds, so `Calculate` emits no action.  Hypotheses: 32-bit
    row ids (`hs`), `c` not a text in a ChoiceList/RefList column (`hstr`), C24's `Decodable`, and
    `c` a float or its encoding `Comparable` (`hcmp`). -/
theorem reload_value_stable (P : Prim) (hP : DateNodeOK P) (τ : ColType) (v : PyVal)
    (hs : reparses τ = true → RowIdsShort v)
    (hstr : reparses τ = true → (colConvert P τ v).isStr = false)
    (hdec : Decodable P (colConvert P τ v))
    (hcmp : (colConvert P τ v).isFloat = true ∨ Comparable (encode P (colConvert P τ v)) = true) :
    colSet P τ (colConvert P τ v) = .ok (colConvert P τ v) ∧
    ∃ x, reloadCell P τ (colConvert P τ v) = .ok x ∧ equalEncoding P x (colConvert P τ v) = true :=
  reload_stored P hP τ _ (colConvert_stored P τ v hs) hstr hdec hcmp

/-- instance: the tuple `("2020-01-01", "a")`, as a ChoiceList column keeps it, survives a reload -/
example : ∃ x, reloadCell PEx .choiceList (.tuple metaX [.str "2020-01-01".toList false, .str ['a'] false]) = .ok x ∧
    equalEncoding PEx x (.tuple metaX [.str "2020-01-01".toList false, .str ['a'] false]) = true :=
  ⟨_, rfl, by simp [equalEncoding, PyVal.isBool, encode, encodeL, decodeL, decode, encEq, encEqL]⟩

-- FULL STATEMENT (unproved, false of the code as it is):
--   theorem reload_value_stable_full (P) (hP : DateNodeOK P) (τ) (v) (hdec : Decodable P (colConvert P τ v)) :
--     ∃ s x, colSet P τ (colConvert P τ v) = .ok s ∧ reloadCell P τ s = .ok x ∧
--            equalEncoding P x (colConvert P τ v) = true
/-- **A NaN nested in a list breaks it**: a formula returning `[float('nan')]` in an Any column: the
    reloaded and the recomputed `[nan]` are different objects, Python's list `==` says they differ,
    and Calculate emits a BulkUpdateRecord on every reopening.  (Replayed on the real engine by
    harness/gx/props/c07.py.) -/
theorem reload_value_stable_false_nan :
    ¬ (∀ (P : Prim) (τ : ColType) (v : PyVal), DateNodeOK P → Decodable P (colConvert P τ v) →
        ∃ s x, colSet P τ (colConvert P τ v) = .ok s ∧ reloadCell P τ s = .ok x ∧
          equalEncoding P x (colConvert P τ v) = true) := by
  intro h
  obtain ⟨s, x, h1, h2, h3⟩ := h PEx .any (.list metaX [.float (.nan 0x7FF8000000000000) false])
    (fun d => ⟨metaX, .int 0, rfl⟩) ⟨trivial, trivial⟩
  have hs : s = .list metaX [.float (.nan 0x7FF8000000000000) false] := by
    have : colSet PEx .any (colConvert PEx .any (.list metaX [.float (.nan 0x7FF8000000000000) false]))
        = .ok (.list metaX [.float (.nan 0x7FF8000000000000) false]) := rfl
    rw [this] at h1
    exact (Except.ok.inj h1).symm
  subst hs
  have hx : x = .list metaX [.float (.nan 0x7FF8000000000000) false] := by
    have : reloadCell PEx .any (.list metaX [.float (.nan 0x7FF8000000000000) false])
        = .ok (.list metaX [.float (.nan 0x7FF8000000000000) false]) := rfl
    rw [this] at h2
    exact (Except.ok.inj h2).symm
  subst hx
  simp [equalEncoding, colConvert, convert, PyVal.isRaised, doConvert, PyVal.isBool, encode, encodeL, encEq,
    encEqL, encNumKey] at h3

/-- parameters for the second witness: `json.loads("[2147483648]") = [2147483648]` -/
def PRe : Prim :=
  { PEx with jsonLoads := fun s =>
      if s = "[2147483648]".toList then some (.list metaX [.int 2147483648 false]) else none }

/-- **A text that the column's set() parses again breaks it** (hypothesis `hstr`): a formula
    returning the text "[2147483648]" in a RefList column: convert keeps the text (2147483648 is
    not a 32-bit id), ReferenceListColumn.set stores the parsed list [2147483648], and after every
    reload the recomputed text is compared with that list: Calculate emits an action each time. -/
theorem reload_value_stable_false_reparse :
    ¬ (∀ (P : Prim) (τ : ColType) (v : PyVal), DateNodeOK P → Decodable P (colConvert P τ v) →
        Comparable (encode P (colConvert P τ v)) = true →
        ∃ s x, colSet P τ (colConvert P τ v) = .ok s ∧ reloadCell P τ s = .ok x ∧
          equalEncoding P x (colConvert P τ v) = true) := by
  intro h
  have hc : colConvert PRe (.refList ['T']) (.str "[2147483648]".toList false)
      = .str "[2147483648]".toList false := rfl
  obtain ⟨s, x, h1, h2, h3⟩ := h PRe (.refList ['T']) (.str "[2147483648]".toList false)
    (fun d => ⟨metaX, .int 0, rfl⟩) (by rw [hc]; trivial) (by rw [hc]; rfl)
  rw [hc] at h1 h3
  have hs : s = .list metaX [.int 2147483648 false] := by
    have : colSet PRe (.refList ['T']) (.str "[2147483648]".toList false)
        = .ok (.list metaX [.int 2147483648 false]) := rfl
    rw [this] at h1
    exact (Except.ok.inj h1).symm
  subst hs
  -- reloaded, the item of the stored list is an UnmarshallableValue
  have hx : ∃ m u, x = .list m [.unmarshallable u (.str "2147483648".toList)] := by
    have : reloadCell PRe (.refList ['T']) (.list metaX [.int 2147483648 false])
        = .ok (.list metaX [.unmarshallable metaX (.str "2147483648".toList)]) := rfl
    rw [this] at h2
    exact ⟨_, _, (Except.ok.inj h2).symm⟩
  obtain ⟨m, u, hx⟩ := hx
  subst hx
  simp [equalEncoding, PyVal.isBool, encode, encodeL, encEq] at h3

end Grist.PyVal
