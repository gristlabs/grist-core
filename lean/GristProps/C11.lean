/-
C11  Two-way references stay symmetric.  Model: GristModel/Refs.lean (Pair, updateX/updateY, addX,
removeX/removeY, rebuildY).  Defines `SymOn` and `Touched`.  `adjusted_sym` is what the
theorems on update and on record addition share; `updateX_cases` serves update and uniqueness check.
-/
import GristProofs.RefsTwoWay
namespace Grist.Refs

/-- row `a` of X refers to row `b` of Y in `x` exactly when `b` refers to `a` in `y`, for the rows
    that exist in the two tables -/
def SymOn (p : Pair) : Prop :=
  ∀ a ∈ p.rowsX, ∀ b ∈ p.rowsY,
    b ∈ refs p.x.kind (rawGet p.x a) ↔ a ∈ refs p.y.kind (rawGet p.y b)

instance (p : Pair) : Decidable (SymOn p) := by unfold SymOn; infer_instance

theorem symOn_swap {p : Pair} (h : SymOn p) : SymOn p.swap :=
  fun a ha b hb => (h b hb a ha).symm

/-- On exact indexes the writes never fail: an update stops at the conversion of the adjustments,
    or at a row assertion, or writes the adjustments to `y` and the trimmed values to `x`. -/
theorem updateX_cases {p : Pair} (hx : Exact p.x) (hy : Exact p.y) (rows : List Nat) (vals : List Cell) :
    (∃ e, toValues p.y.kind ((affOf p.x rows vals).map (adjustOne p.x.inv)) = .error e ∧
      updateX p rows vals = .error e) ∨
    ∃ adjVals y' x',
      toValues p.y.kind ((affOf p.x rows vals).map (adjustOne p.x.inv)) = .ok adjVals ∧
      (Exact y' ∧ y'.kind = p.y.kind ∧ ∀ j, rawGet y' j = (lastVal adjVals j).getD (rawGet p.y j)) ∧
      (Exact x' ∧ x'.kind = p.x.kind ∧ ∀ j, rawGet x' j = newVal p.x rows vals j) ∧
      (updateX p rows vals = .error .assertion ∨
        updateX p rows vals = .ok { p with x := x', y := y' }) := by
  simp only [updateX, reverseAdjustments_eq]
  cases toValues p.y.kind ((affOf p.x rows vals).map (adjustOne p.x.inv)) with
  | error e => exact Or.inl ⟨e, rfl, rfl⟩
  | ok adjVals =>
    obtain ⟨y', hy', sy⟩ := applyCells_spec adjVals hy
    obtain ⟨x', hx', sx⟩ := applyCells_spec (trimUpdate p.x rows vals) hx
    refine Or.inr ⟨adjVals, y', x', rfl, sy, sx, ?_⟩
    simp only [hy', hx']
    cases rowsExist p.rowsY adjVals <;> cases rowsExist p.rowsX (trimUpdate p.x rows vals) <;>
      first | exact Or.inl rfl | exact Or.inr rfl

theorem rowsExist_mem {rows : List Nat} {ups : List (Nat × Cell)} (h : rowsExist rows ups = true)
    {e : Nat × Cell} (he : e ∈ ups) : e.1 ∈ rows := by
  simp only [rowsExist, List.all_eq_true, List.contains_iff_mem] at h
  exact h e he

theorem adjusted_cell {p : Pair} {rows : List Nat} {vals : List Cell} {adjVals : List (Nat × Cell)}
    (hadj : toValues p.y.kind ((affOf p.x rows vals).map (adjustOne p.x.inv)) = .ok adjVals) (b : Nat) :
    lastVal adjVals b =
      if aHas (affOf p.x rows vals) b then
        some (listToValueD p.y.kind (sortDedup (revVal p.x rows vals b)))
      else none := by
  rw [(toValues_ok hadj).1, List.map_map]
  exact lastVal_map_assoc ([], []) (fun en => listToValueD p.y.kind (adjustOne p.x.inv en).2)
    (affOf p.x rows vals) ((noteAll_spec p.x _ [] b).2.2.2 List.nodup_nil) b

/-- Once the adjustments are written, row `b` of `y` refers to `a` exactly when the new value of
    row `a` of `x` refers to `b`: through the computed reverse value if the update touches `b`, as
    before if it does not. -/
theorem adjusted_sym {p : Pair} {rows : List Nat} {vals : List Cell} {adjVals : List (Nat × Cell)}
    (hx : Exact p.x) (hnd : rows.Nodup)
    (hadj : toValues p.y.kind ((affOf p.x rows vals).map (adjustOne p.x.inv)) = .ok adjVals)
    {a b : Nat} (ha0 : a ≠ 0)
    (hsym : b ∈ refs p.x.kind (rawGet p.x a) ↔ a ∈ refs p.y.kind (rawGet p.y b)) :
    b ∈ refs p.x.kind (newVal p.x rows vals a) ↔
      a ∈ refs p.y.kind ((lastVal adjVals b).getD (rawGet p.y b)) := by
  rw [adjusted_cell hadj b, ← mem_revVal hx hnd vals a b]
  cases hhas : aHas (affOf p.x rows vals) b with
  | true =>
    have hok := (toValues_ok hadj).2 _
      (List.mem_map_of_mem (f := adjustOne p.x.inv) (mem_of_aHas ([], []) _ b hhas))
    exact (mem_sortDedup _ a).symm.trans (mem_refs_listToValueD hok ha0).symm
  | false =>
    unfold revVal
    rw [aGet_of_not_has _ _ _ hhas]
    exact (hx b a).trans hsym

/-- **C11 (update; partial: every row named at most once).**  An accepted update of `x` leaves the
    pair symmetric and the indexes exact, for every bulk update: duplicate targets, several rows
    retargeted at once, Ref or RefList on either side. -/
theorem reverse_adjustments_sym_partial {p p' : Pair} {rows : List Nat} {vals : List Cell}
    (hx : Exact p.x) (hy : Exact p.y) (h0 : 0 ∉ p.rowsX) (hnd : rows.Nodup) (hsym : SymOn p)
    (h : updateX p rows vals = .ok p') :
    SymOn p' ∧ Exact p'.x ∧ Exact p'.y ∧ p'.rowsX = p.rowsX ∧ p'.rowsY = p.rowsY := by
  rcases updateX_cases hx hy rows vals with ⟨e, _, he⟩ | ⟨adjVals, y2, x2, hadj, sy, sx, he | he⟩
  · rw [he] at h
    cases h
  · rw [he] at h
    cases h
  · rw [he] at h
    cases h
    refine ⟨?_, sx.1, sy.1, rfl, rfl⟩
    intro a ha b hb
    show b ∈ refs x2.kind (rawGet x2 a) ↔ a ∈ refs y2.kind (rawGet y2 b)
    rw [sx.2.1, sy.2.1, sx.2.2, sy.2.2]
    exact adjusted_sym hx hnd hadj (fun hh => h0 (hh ▸ ha)) (hsym a ha b hb)

/-- **C11 (update of the other side)**: symmetry only, by `Pair.swap`. -/
theorem reverse_adjustments_sym_partial_y {p p' : Pair} {rows : List Nat} {vals : List Cell}
    (hx : Exact p.x) (hy : Exact p.y) (h0 : 0 ∉ p.rowsY) (hnd : rows.Nodup) (hsym : SymOn p)
    (h : updateY p rows vals = .ok p') : SymOn p' := by
  unfold updateY at h
  split at h
  · next q hq =>
    injection h with h
    subst h
    exact symOn_swap (reverse_adjustments_sym_partial (p := p.swap) hy hx h0 hnd (symOn_swap hsym) hq).1
  · cases h

-- x is Ref, y RefList
def exPair : Pair :=
  { x := colOf .ref [.ref 0, .ref 1, .ref 1, .ref 2, .ref 0],
    y := colOf .refList [.none, .refList [1, 2], .refList [3], .none, .none],
    rowsX := [1, 2, 3, 4], rowsY := [1, 2, 3, 4] }

example : Exact exPair.x ∧ Exact exPair.y ∧ 0 ∉ exPair.rowsX ∧ SymOn exPair :=
  ⟨copyFrom_exact _ _, copyFrom_exact _ _, by decide, by decide⟩

-- rows 1 and 4 are retargeted at once to the same target 3, row 2 is named but unchanged
example : (match updateX exPair [1, 4, 2] [.ref 3, .ref 3, .ref 1] with
    | .ok p => (p.x.data, p.y.data) | .error _ => ([], [])) =
    ([.ref 0, .ref 3, .ref 1, .ref 2, .ref 3], [.none, .refList [2], .refList [3], .refList [1, 4], .none]) := by
  decide

/-
-- FULL STATEMENT (unproved, FALSE of the code as it is): the same without `rows.Nodup`:
--   ∀ p p' rows vals, Exact p.x → Exact p.y → 0 ∉ p.rowsX → SymOn p →
--     updateX p rows vals = .ok p' → SymOn p'
-- Naming a row twice with two new targets feeds get_reverse_adjustments two additions while the
-- column keeps the last value: BulkUpdateRecord X [1, 1] {x: [3, 4]} ⇒ y[3] = y[4] = [1], x[1] = 4.
-/
theorem reverse_adjustments_sym_full_false :
    ¬ (∀ (p p' : Pair) (rows : List Nat) (vals : List Cell), Exact p.x → Exact p.y → 0 ∉ p.rowsX →
        SymOn p → updateX p rows vals = .ok p' → SymOn p') := by
  intro hall
  have h := hall exPair _ [1, 1] [.ref 3, .ref 4] (copyFrom_exact _ _) (copyFrom_exact _ _)
    (by decide) (by decide) rfl
  revert h
  decide

theorem lastVal_zip_eq_newVal {c : Col} {rows : List Nat} (hnd : rows.Nodup) (vals : List Cell) (a : Nat) :
    (lastVal (rows.zip vals) a).getD (rawGet c a) = newVal c rows vals a := by
  rw [newVal, trimUpdate, lastVal_filter ((keys_zip_sublist rows vals).nodup hnd)]
  cases lastVal (rows.zip vals) a with
  | none => rfl
  | some v =>
    -- a value that is trimmed away is the stored one
    by_cases hch : v = rawGet c a <;> simp [Option.filter, hch]

/-- **C11 (record addition; partial).**  Adding rows to X keeps the pair symmetric PROVIDED no cell
    of `y` already refers to a new row id and the slots of the new rows hold no references. -/
theorem add_sym_partial {p p' : Pair} {rows : List Nat} {vals : List Cell}
    (hx : Exact p.x) (hy : Exact p.y) (h0 : 0 ∉ p.rowsX) (h0' : 0 ∉ rows) (hnd : rows.Nodup)
    (hfresh : ∀ a ∈ rows, refs p.x.kind (rawGet p.x a) = [])
    (hnodangling : ∀ b ∈ p.rowsY, ∀ a ∈ rows, a ∉ refs p.y.kind (rawGet p.y b))
    (hsym : SymOn p) (h : addX p rows vals = .ok p') : SymOn p' := by
  simp only [addX, reverseAdjustments_eq] at h
  split at h
  · cases h
  · next adjVals hadj =>
    obtain ⟨y2, hy2, _, hky, hgy⟩ := applyCells_spec adjVals hy
    obtain ⟨x2, hx2, _, hkx, hgx⟩ := applyCells_spec (rows.zip vals) hx
    simp only [hy2, hx2] at h
    split at h
    · cases h
    · cases h
      intro a ha b hb
      have ha' : a ∈ p.rowsX ∨ a ∈ rows := List.mem_append.mp ha
      show b ∈ refs x2.kind (rawGet x2 a) ↔ a ∈ refs y2.kind (rawGet y2 b)
      rw [hkx, hky, hgx, hgy, lastVal_zip_eq_newVal hnd]
      refine adjusted_sym hx hnd hadj (fun hh => ?_) ?_
      · exact ha'.elim (fun h1 => h0 (hh ▸ h1)) (fun h1 => h0' (hh ▸ h1))
      · rcases ha' with h1 | h1
        · exact hsym a h1 b hb
        · -- a new row: nothing referred from its slot, nothing refers to it
          rw [hfresh a h1]
          exact iff_of_false (List.not_mem_nil) (hnodangling b hb a h1)

/-
-- FULL STATEMENT (unproved, FALSE of the code as it is): add_sym without `hnodangling`.
-- A reference to a missing row id is a supported value; a row later created under that id starts
-- with an empty reverse cell: X.c[2] = 5, AddRecord Y 5 ⇒ y[5] = None (below with the pair swapped).
-/
theorem add_sym_full_false :
    ¬ (∀ (p p' : Pair) (rows : List Nat) (vals : List Cell), Exact p.x → Exact p.y → 0 ∉ p.rowsX →
        0 ∉ rows → rows.Nodup → (∀ a ∈ rows, refs p.x.kind (rawGet p.x a) = []) → SymOn p →
        addX p rows vals = .ok p' → SymOn p') := by
  intro hall
  have h := hall
    { x := colOf .refList [.none, .refList [1], .none], y := colOf .ref [.ref 0, .ref 1, .ref 5],
      rowsX := [1, 2], rowsY := [1, 2] } _ [5] [.none]
    (copyFrom_exact _ _) (copyFrom_exact _ _) (by decide) (by decide) (by decide) (by decide) (by decide) rfl
  revert h
  decide

/-- some changed row referred to `b` before the update or refers to it after -/
def Touched (c : Col) (rows : List Nat) (vals : List Cell) (b : Nat) : Prop :=
  ∃ e ∈ trimUpdate c rows vals, b ∈ refs c.kind (rawGet c e.1) ∨ b ∈ refs c.kind e.2

/-- **C11 (uniqueness check).**  An update of `x` is rejected with UniqueReferenceError exactly
    when `y` is a `Ref` and some touched target would be referred to by two rows afterwards. -/
theorem unique_rejects {p : Pair} {rows : List Nat} {vals : List Cell}
    (hx : Exact p.x) (hy : Exact p.y) (hnd : rows.Nodup) :
    updateX p rows vals = .error .uniqueReference ↔
      p.y.kind = .ref ∧ ∃ b a₁ a₂, a₁ ≠ a₂ ∧ Touched p.x rows vals b ∧
        b ∈ refs p.x.kind (newVal p.x rows vals a₁) ∧ b ∈ refs p.x.kind (newVal p.x rows vals a₂) := by
  -- the error can only come from the conversion of the adjustments ...
  have hto : updateX p rows vals = .error .uniqueReference ↔
      toValues p.y.kind ((affOf p.x rows vals).map (adjustOne p.x.inv)) = .error .uniqueReference := by
    rcases updateX_cases hx hy rows vals with ⟨e, h1, h2⟩ | ⟨_, _, _, h1, _, _, h2 | h2⟩ <;>
      rw [h1, h2] <;> simp
  -- ... that is from a touched target `b` whose reverse value has two members
  rw [hto, toValues_error_iff]
  refine and_congr_right fun _ => ⟨?_, ?_⟩
  · rintro ⟨_, hm, hl⟩
    obtain ⟨en, hen, rfl⟩ := List.mem_map.1 hm
    obtain ⟨_, _, htouched, hnodup⟩ := noteAll_spec p.x (trimUpdate p.x rows vals) [] en.1
    have hl' : (sortDedup (revVal p.x rows vals en.1)).length > 1 := by
      unfold revVal
      rw [aGet_of_mem ([], []) (affOf p.x rows vals) (hnodup List.nodup_nil) en hen]
      exact hl
    obtain ⟨a₁, a₂, hne, h1, h2⟩ := (sortDedup_two _).1 hl'
    rw [mem_revVal hx hnd] at h1 h2
    refine ⟨en.1, a₁, a₂, hne, (htouched.mp ?_).resolve_left nofun, h1, h2⟩
    exact (aHas_iff_mem_keys _ _).2 (List.mem_map_of_mem (f := Prod.fst) hen)
  · rintro ⟨b, a₁, a₂, hne, htouch, h1, h2⟩
    obtain ⟨_, _, htouched, _⟩ := noteAll_spec p.x (trimUpdate p.x rows vals) [] b
    rw [← mem_revVal hx hnd] at h1 h2
    exact ⟨_, List.mem_map_of_mem (f := adjustOne p.x.inv)
        (mem_of_aHas ([], []) _ b (htouched.mpr (Or.inr htouch))),
      (sortDedup_two _).2 ⟨a₁, a₂, hne, h1, h2⟩⟩

-- the rejection occurs: y is Ref, rows 1 and 2 of x are moved onto target 3 at once
example : updateX { exPair with y := colOf .ref [.ref 0, .ref 1, .ref 3, .ref 0, .ref 0],
                                x := colOf .refList [.none, .refList [1], .none, .refList [2], .none] }
    [1, 2] [.refList [3], .refList [3]] = .error .uniqueReference := by rfl

/-- **C11 (record removal).**  Removing rows from X (their cells unset, then the C10 clean-up of
    `y`, as plain doc actions) keeps the pair symmetric and the indexes exact, and leaves no cell
    of `y` referring to a removed row. -/
theorem remove_sym {p : Pair} {rem : List Nat} (hx : Exact p.x) (hy : Exact p.y) (hsym : SymOn p) :
    ∃ p', removeX p rem = .ok p' ∧ SymOn p' ∧ Exact p'.x ∧ Exact p'.y ∧
      (∀ a, a ∈ p'.rowsX ↔ a ∈ p.rowsX ∧ a ∉ rem) ∧ p'.rowsY = p.rowsY ∧
      (∀ b t, t ∈ refs p'.y.kind (rawGet p'.y b) → t ∉ rem) := by
  obtain ⟨x', hx', hex, hkx, hgx⟩ := unsetRows_spec (rem.filter (fun r => p.rowsX.contains r)) hx
  obtain ⟨y', hy', hey, hky, hgy⟩ := cleanRemoved_spec hy rem
  have hrows : ∀ a, a ∈ p.rowsX.filter (fun r => !(rem.contains r)) ↔ a ∈ p.rowsX ∧ a ∉ rem := by
    intro a
    simp [List.mem_filter]
  refine ⟨{ x := x', y := y', rowsX := p.rowsX.filter (fun r => !(rem.contains r)), rowsY := p.rowsY },
    by simp only [removeX, hx', hy'], ?_, hex, hey, hrows, rfl, ?_⟩
  · intro a ha b hb
    have ha := (hrows a).1 ha
    show b ∈ refs x'.kind (rawGet x' a) ↔ a ∈ refs y'.kind (rawGet y' b)
    -- row `a` stays, so its cell is not unset; the clean-up of `y` drops only removed rows
    rw [hkx, hky, hgx, hgy, if_neg (fun h => ha.2 (List.mem_filter.1 h).1), refs_cleanCell,
      hsym a ha.1 b hb]
    exact (and_iff_left ha.2).symm
  · intro b t ht
    dsimp only at ht
    rw [hky, hgy, refs_cleanCell] at ht
    exact ht.2

/-- **C11 (record removal on the other side)**: symmetry only, by `Pair.swap`. -/
theorem remove_sym_y {p : Pair} {rem : List Nat} (hx : Exact p.x) (hy : Exact p.y) (hsym : SymOn p) :
    ∃ p', removeY p rem = .ok p' ∧ SymOn p' := by
  obtain ⟨q, hq, hs, _⟩ := remove_sym (p := p.swap) (rem := rem) hy hx (symOn_swap hsym)
  exact ⟨q.swap, by simp only [removeY, hq], symOn_swap hs⟩

example : (match removeX exPair [1, 3] with
    | .ok p => (p.x.data, p.y.data, p.rowsX) | .error _ => ([], [], [])) =
    ([.ref 0, .ref 0, .ref 1, .ref 0, .ref 0], [.none, .refList [2], .none, .none, .none], [2, 4]) := by
  decide

/-- **C11 (rebuild).**  `recalc_from_reverse_values` (after a Ref/RefList switch of `x`, and when a
    reverse column is created) makes the pair symmetric whatever `y` held, if the index of `x` is exact. -/
theorem rebuild_sym {p p' : Pair} (hx : Exact p.x) (hy : Exact p.y) (h0 : 0 ∉ p.rowsX)
    (h : rebuildY p = .ok p') : SymOn p' ∧ Exact p'.y ∧ p'.x = p.x := by
  simp only [rebuildY] at h
  split at h
  · cases h
  · next vals hvals =>
    obtain ⟨hv, hok⟩ := toValues_ok hvals
    have hv : vals = p.rowsY.map
        (fun t => (t, listToValueD p.y.kind (sortDedup (invGet p.x.inv t)))) := by
      rw [hv, List.map_map]
      rfl
    obtain ⟨y2, hy2, hey, hky, hgy⟩ := applyCells_spec vals hy
    rw [hy2] at h
    cases h
    refine ⟨?_, hey, rfl⟩
    intro a ha b hb
    show b ∈ refs p.x.kind (rawGet p.x a) ↔ a ∈ refs y2.kind (rawGet y2 b)
    rw [hky, hgy, hv,
      lastVal_map (fun t => listToValueD p.y.kind (sortDedup (invGet p.x.inv t))), if_pos hb,
      Option.getD_some,
      mem_refs_listToValueD (hok _ (List.mem_map_of_mem hb)) (fun hh => h0 (hh ▸ ha)),
      mem_sortDedup, hx b a]

/-- **C11 (rebuild, uniqueness check).**  Rejected with UniqueReferenceError exactly when `y` is a
    `Ref` and some row of Y has two referrers. -/
theorem rebuild_rejects {p : Pair} (hx : Exact p.x) (hy : Exact p.y) :
    rebuildY p = .error .uniqueReference ↔
      p.y.kind = .ref ∧ ∃ b ∈ p.rowsY, ∃ a₁ a₂, a₁ ≠ a₂ ∧
        b ∈ refs p.x.kind (rawGet p.x a₁) ∧ b ∈ refs p.x.kind (rawGet p.x a₂) := by
  have hto : rebuildY p = .error .uniqueReference ↔
      toValues p.y.kind (p.rowsY.map (fun t => (t, sortDedup (invGet p.x.inv t))))
        = .error .uniqueReference := by
    simp only [rebuildY]
    cases toValues p.y.kind (p.rowsY.map (fun t => (t, sortDedup (invGet p.x.inv t)))) with
    | error e => simp
    | ok vals =>
      obtain ⟨y', hy', _⟩ := applyCells_spec vals hy
      simp [hy']
  rw [hto, toValues_error_iff]
  refine and_congr_right fun _ => ⟨?_, ?_⟩
  · rintro ⟨_, hm, hl⟩
    obtain ⟨b, hb, rfl⟩ := List.mem_map.1 hm
    obtain ⟨a₁, a₂, hne, h1, h2⟩ := (sortDedup_two _).1 hl
    exact ⟨b, hb, a₁, a₂, hne, (hx b a₁).1 h1, (hx b a₂).1 h2⟩
  · rintro ⟨b, hb, a₁, a₂, hne, h1, h2⟩
    exact ⟨_, List.mem_map_of_mem hb,
      (sortDedup_two _).2 ⟨a₁, a₂, hne, (hx b a₁).2 h1, (hx b a₂).2 h2⟩⟩

-- link creation on a column with duplicate targets (the new reverse column is a RefList)
example : (match rebuildY { exPair with y := newCol .refList } with
    | .ok p => p.y.data | .error _ => []) = [.none, .refList [1, 2], .refList [3], .none, .none] := by decide
-- ... and a switch of the reverse side to Ref is refused while row 1 of Y has two referrers
example : rebuildY { exPair with y := newCol .ref } = .error .uniqueReference := by rfl

end Grist.Refs
