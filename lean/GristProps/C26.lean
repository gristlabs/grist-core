/-
C26  Temporary row ids resolve consistently within a bundle.  Model: GristModel/RowIds.lean
(action_summary.update_new_rows_map / translate_new_row_ids, column.py prepare_new_values /
_reject_unresolved_temp_ids, useractions.doBulkAddOrReplace / doBulkUpdateRecord / doBulkRemoveRecord).
Defines the words of the statements (`KeysNeg`, `resolve`, `AllRel`, `CellResolves`, `Cell.ids`, the two
shapes) and what the two `prepare_new_values` share (`prepareWith`, `Cell.tr`, `prepare_spec`); the facts
about adds rest on C27's `fill` (`addRequest_ok`, `fill_spec`).
A temporary id used more than once (in one request, or in two adds of one bundle) stands for the row
allocated at its LATEST use (update_new_rows_map: "If a negative row_id was already used, its mapping will
be overridden").
-/
import GristModel.RowIds
import GristProps.C27
namespace Grist.RowIds

/-- all keys of the temp map are negative (invariant of `update_new_rows_map`: `if a and a < 0`) -/
def KeysNeg (m : TempMap) : Prop := ∀ p ∈ m, p.1 < 0

/-- What a row id in a later action / reference value stands for: a negative id stands for the row
    recorded for it (nothing if none was), any other id for itself. -/
def resolve (m : TempMap) (i : Int) : Option Int :=
  if i < 0 then (m.lookup i).map (fun (b : Nat) => (b : Int)) else some i

/-- element-wise relation between two lists of equal length -/
inductive AllRel {α β : Type} (R : α → β → Prop) : List α → List β → Prop
  | nil : AllRel R [] []
  | cons {a : α} {b : β} {as : List α} {bs : List β} : R a b → AllRel R as bs → AllRel R (a :: as) (b :: bs)

/-- `out` is `inp` with every id replaced by what it stands for. -/
def CellResolves (m : TempMap) : Cell → Cell → Prop
  | .ref i, .ref j => resolve m i = some j
  | .refs l, .refs l' => AllRel (fun i j => resolve m i = some j) l l'
  | .other, .other => True
  | _, _ => False

/-- the ints held by a cell -/
def Cell.ids : Cell → List Int
  | .ref i => [i]
  | .refs l => l
  | .other => []

def Cell.refShape : Cell → Bool
  | .refs _ => false
  | _ => true

def Cell.refListShape : Cell → Bool
  | .ref _ => false
  | _ => true

theorem keysNeg_nil : KeysNeg [] := by intro p hp; simp at hp

theorem keysNeg_update : ∀ (temp : List (Option Int)) (final : List Nat) (m : TempMap),
    KeysNeg m → KeysNeg (updateNewRowsMap m temp final) := by
  intro temp final m
  fun_induction updateNewRowsMap m temp final with
  | case1 m a ts b fs ih =>
    intro h
    apply ih
    split
    · rename_i ha
      intro p hp
      rcases List.mem_cons.mp hp with rfl | hp
      · exact ha
      · exact h p hp
    · exact h
  | case2 m ts b fs ih => exact ih
  | case3 temp m final h1 h2 => exact id

/-- after `update_new_rows_map(table, temp, final)`,
    (i) a negative id `a` whose LAST position in `temp` is `k` translates to `final[k]`
        (whatever it was mapped to before: the latest add wins);
    (ii) an id that `temp` does not mention translates as before. -/
theorem translate_after_update (m : TempMap) (temp : List (Option Int)) (final : List Nat)
    (a : Int) (ha : a < 0) :
    (∀ (k : Nat) (b : Nat), temp[k]? = some (some a) → (∀ j, k < j → temp[j]? ≠ some (some a)) →
        final[k]? = some b → translate1 (updateNewRowsMap m temp final) a = (b : Int)) ∧
    (some a ∉ temp → translate1 (updateNewRowsMap m temp final) a = translate1 m a) := by
  -- one induction for both parts: part (ii) for the tail is what part (i) needs at the last mention
  fun_induction updateNewRowsMap m temp final with
  | case1 m a' ts b0 fs ih =>
    refine ⟨fun k b hk hlast hb => ?_, fun hn => ?_⟩
    · cases k with
      | zero =>
        simp only [List.getElem?_cons_zero, Option.some.injEq] at hk hb
        subst hk hb
        have hts : some a' ∉ ts := fun hmem => by
          obtain ⟨j, hj⟩ := List.mem_iff_getElem?.mp hmem
          exact hlast (j + 1) (Nat.succ_pos j) hj
        rw [ih.2 hts, if_pos ha]
        simp only [translate1, List.lookup_cons_self]
      | succ k => exact ih.1 k b hk (fun j hj => hlast (j + 1) (Nat.succ_lt_succ hj)) hb
    · rw [ih.2 fun h => hn (List.mem_cons_of_mem _ h)]
      split
      · have hne : (a == a') = false := by simpa using fun h : a = a' => hn (by simp [h])
        simp only [translate1, List.lookup_cons, hne]
      · rfl
  | case2 m ts b0 fs ih =>
    refine ⟨fun k b hk hlast hb => ?_, fun hn => ih.2 fun h => hn (List.mem_cons_of_mem _ h)⟩
    cases k with
    | zero => cases hk
    | succ k => exact ih.1 k b hk (fun j hj => hlast (j + 1) (Nat.succ_lt_succ hj)) hb
  | case3 temp m final h1 h2 =>
    refine ⟨fun k b hk _ hb => ?_, fun _ => rfl⟩
    -- position `k` exists in both lists, so one of the two equations applied
    rcases temp with _ | ⟨x, ts⟩
    · cases hk
    rcases final with _ | ⟨b0, fs⟩
    · cases hb
    cases x
    · exact (h2 ts b0 fs rfl rfl).elim
    · exact (h1 _ ts b0 fs rfl rfl).elim

/-- two adds in one bundle reusing -1: the second add's row wins -/
example : translate (updateNewRowsMap (updateNewRowsMap [] [some (-1), some (-2)] [6, 7]) [none, some (-1)] [8, 9])
    [-1, -2, 4] = [9, 7, 4] := by decide +kernel
/-- the id repeated inside one request: the later position wins -/
example : translate (updateNewRowsMap [] [some (-1), some (-1)] [6, 7]) [-1] = [7] := rfl

/-- Non-negative ids (`0 ≤ r`, so 0 included) are never keys: they translate to themselves. -/
theorem translate_identity_on_positive (m : TempMap) (hm : KeysNeg m) (r : Int) (hr : 0 ≤ r) :
    translate1 m r = r := by
  have : m.lookup r = none := by
    rw [List.lookup_eq_none_iff]
    intro p hp
    have := hm p hp
    simp only [bne_iff_ne, ne_eq]
    intro h
    omega
  simp [translate1, this]

theorem translate_identity_on_positive_list (m : TempMap) (hm : KeysNeg m) (ids : List Int)
    (h : ∀ r ∈ ids, 0 ≤ r) : translate m ids = ids := by
  rw [translate, List.map_congr_left fun r hr => translate_identity_on_positive m hm r (h r hr), List.map_id']

example : KeysNeg (updateNewRowsMap [] [some 3, some (-1), none, some 0] [3, 4, 5, 0]) ∧
    translate (updateNewRowsMap [] [some 3, some (-1), none, some 0] [3, 4, 5, 0]) [3, 0, 4, 5] = [3, 0, 4, 5] := by
  refine ⟨keysNeg_update _ _ _ keysNeg_nil, by decide +kernel⟩

/-- with negative keys only, a translated id is non-negative exactly when the id stood for something,
    and then the translation is what it stood for -/
theorem translate1_nonneg (m : TempMap) (hm : KeysNeg m) (i : Int) :
    (0 ≤ translate1 m i ↔ (i < 0 → (m.lookup i).isSome)) ∧
    (0 ≤ translate1 m i → resolve m i = some (translate1 m i)) := by
  by_cases hi : i < 0
  · cases hl : m.lookup i with
    | none => simp [translate1, resolve, hl, hi]
    | some b => simp [translate1, resolve, hl, hi]
  · rw [translate_identity_on_positive m hm i (by omega)]
    exact ⟨⟨fun _ h => absurd h hi, fun _ => Int.not_lt.mp hi⟩, fun _ => if_neg hi⟩

/-- after an accepted BulkAddRecord, a negative id `a` of the request
    (last position `k`) translates to the id `b` returned at that position, and `b` is a row that
    exists now and did not exist before. -/
theorem temp_id_is_allocated_row (rows : List Nat) (m : TempMap) (req : List (Option Int))
    (res : AddResult) (h : addRequest rows m req = .ok res)
    (a : Int) (ha : a < 0) (k : Nat) (hk : req[k]? = some (some a))
    (hlast : ∀ j, k < j → req[j]? ≠ some (some a)) :
    ∃ b : Nat, res.ids[k]? = some b ∧ translate res.map [a] = [(b : Int)] ∧ b ∈ res.rows ∧ b ∉ rows := by
  obtain ⟨ids, hfill, _, rfl⟩ := addRequest_ok h
  obtain rfl := fillIds_ok_eq hfill
  have hk2 : k < (fill (nextRowId rows) req).length := by
    rw [fill_length]
    exact (List.getElem?_eq_some_iff.mp hk).1
  have hb := List.getElem?_eq_getElem hk2
  -- an automatic id starts from the table's next row id: positive, and above every existing row
  have hge := ((fill_spec req _ k (some a) _ hk hb).2 (by simp [isAuto, ha])).1
  refine ⟨_, hb, ?_, ?_, fun hin => ?_⟩
  · simp [translate, (translate_after_update m req _ a ha).1 k _ hk hlast hb]
  · exact (mem_addRows _ _ _).mpr (Or.inr ⟨List.getElem_mem hk2, Nat.lt_of_lt_of_le (Nat.succ_pos _) hge⟩)
  · exact Nat.lt_irrefl _ (Nat.lt_of_lt_of_le (lt_nextRowId rows _ hin) hge)

example : addRequest [2, 5] [(-1, 1)] [some (-1), some 3, some (-1)]
    = .ok { ids := [6, 3, 8], rows := [2, 5, 6, 3, 8], map := [(-1, 8), (-1, 6), (-1, 1)] } := by decide +kernel

/-- The link from `temp_id_is_allocated_row` to `update_by_temp_id`: a row that an accepted add created
    has a positive id (`id_column.set(0, 0)` creates no row). -/
theorem new_row_pos {rows : List Nat} {m : TempMap} {req : List (Option Int)} {res : AddResult}
    (h : addRequest rows m req = .ok res) {b : Nat} (hb : b ∈ res.rows) (hnew : b ∉ rows) : 0 < b := by
  obtain ⟨ids, _, _, rfl⟩ := addRequest_ok h
  exact (((mem_addRows _ _ _).mp hb).resolve_left hnew).2

/-- an Update naming the temporary id (among rows that exist) passes
    `DocActions.BulkUpdateRecord`'s existence assertion, on the translated — allocated — row. -/
theorem update_by_temp_id (rows : List Nat) (m : TempMap) (a : Int) (b : Nat)
    (htr : translate m [a] = [(b : Int)]) (hb : b ∈ rows) (hpos : 0 < b) :
    docBulkUpdate rows (translate m [a]) = .ok () := by
  rw [htr]
  simp [docBulkUpdate, hb, hpos]

example : translate [(-1, 8), (-1, 6)] [-1] = [((8 : Nat) : Int)] ∧ (8 : Nat) ∈ [2, 5, 6, 3, 8] ∧
    docBulkUpdate [2, 5, 6, 3, 8] (translate [(-1, 8), (-1, 6)] [-1]) = .ok () := by decide +kernel

/-- a Remove naming the temporary id removes the allocated row and no other. -/
theorem remove_by_temp_id (rows : List Nat) (m : TempMap) (a : Int) (b : Nat)
    (htr : translate m [a] = [(b : Int)]) :
    ∀ x, x ∈ docBulkRemove rows (translate m [a]) ↔ x ∈ rows ∧ x ≠ b := by
  intro x
  rw [htr]
  simp [docBulkRemove, Int.natCast_inj]

example : docBulkRemove [2, 5, 6, 3, 8] (translate [(-1, 8), (-1, 6)] [-1]) = [2, 5, 6, 3] := by decide +kernel

theorem AllRel.of_map {α β : Type} {R : α → β → Prop} (f : α → β) : ∀ (l : List α),
    (∀ a ∈ l, R a (f a)) → AllRel R l (l.map f)
  | [], _ => .nil
  | a :: l, h => .cons (h a List.mem_cons_self) (of_map f l fun a ha => h a (List.mem_cons_of_mem _ ha))

theorem rejectUnresolved_ok (vs : List Cell) :
    rejectUnresolved vs = .ok () ↔ ∀ c ∈ vs, c.hasNeg = false := by
  have hall : vs.any Cell.hasNeg = false ↔ ∀ c ∈ vs, c.hasNeg = false := by simp
  rw [← hall, rejectUnresolved]
  cases vs.any Cell.hasNeg <;> simp

/-- Both `prepare_new_values`: translate every value with `f`, then `_reject_unresolved_temp_ids`
    (`prepareRef_eq`, `prepareRefList_eq`). -/
def prepareWith (f : Cell → Cell) (values : List Cell) : Except String (List Cell) :=
  match rejectUnresolved (values.map f) with
  | .ok () => .ok (values.map f)
  | .error e => .error e

theorem prepareWith_ok (f : Cell → Cell) (values out : List Cell) :
    prepareWith f values = .ok out ↔ out = values.map f ∧ ∀ c ∈ values, (f c).hasNeg = false := by
  simp only [prepareWith]
  split
  · rename_i h
    rw [rejectUnresolved_ok, List.forall_mem_map] at h
    exact ⟨fun e => ⟨(Except.ok.inj e).symm, h⟩, fun e => e.1 ▸ rfl⟩
  · rename_i h
    refine ⟨fun e => (by cases e), fun e => ?_⟩
    rw [(rejectUnresolved_ok _).mpr (List.forall_mem_map.mpr e.2)] at h
    cases h

theorem prepareRef_eq (m : TempMap) : prepareRef m = prepareWith (trRefCell m) := rfl

theorem prepareRefList_eq (m : TempMap) : prepareRefList m = prepareWith (trRefListCell m) := rfl

/-- every id of the cell translated, whatever the kind of cell -/
def Cell.tr (m : TempMap) : Cell → Cell
  | .ref i => .ref (translate1 m i)
  | .refs l => .refs (translate m l)
  | .other => .other

theorem Cell.ids_tr (m : TempMap) (c : Cell) : (c.tr m).ids = translate m c.ids := by
  cases c <;> rfl

theorem Cell.hasNeg_iff (c : Cell) : c.hasNeg = true ↔ ∃ i ∈ c.ids, i < 0 := by
  cases c <;> simp [Cell.hasNeg, Cell.ids]

theorem trRefCell_eq (m : TempMap) (c : Cell) (hs : c.refShape = true) : trRefCell m c = c.tr m := by
  cases c with
  | refs l => cases hs
  | _ => rfl

/-- a RefList cell without negative ids is left alone, which is also what translating it gives -/
theorem trRefListCell_eq (m : TempMap) (hm : KeysNeg m) (c : Cell) (hs : c.refListShape = true) :
    trRefListCell m c = c.tr m := by
  cases c with
  | ref i => cases hs
  | other => rfl
  | refs l =>
    simp only [trRefListCell, Cell.tr]
    split
    · rfl
    · rename_i h
      rw [translate_identity_on_positive_list m hm l]
      intro r hr
      exact Int.not_lt.mp fun hn => h (List.any_eq_true.mpr ⟨r, hr, decide_eq_true hn⟩)

theorem cellResolves_tr (m : TempMap) (c : Cell)
    (h : ∀ i ∈ c.ids, resolve m i = some (translate1 m i)) : CellResolves m c (c.tr m) := by
  cases c with
  | ref i => exact h i List.mem_cons_self
  | refs l => exact AllRel.of_map _ l h
  | other => trivial

/-- What the two column kinds share: `f` is the kind's translation, which on well-shaped values is
    `Cell.tr m` (`trRefCell_eq`, `trRefListCell_eq`). -/
theorem prepare_spec (m : TempMap) (hm : KeysNeg m) (f : Cell → Cell) (values : List Cell)
    (hf : ∀ c ∈ values, f c = c.tr m) :
    (∀ out, prepareWith f values = .ok out →
      AllRel (CellResolves m) values out ∧ ∀ c ∈ out, c.hasNeg = false) ∧
    ((∃ out, prepareWith f values = .ok out) ↔
      ∀ c ∈ values, ∀ i ∈ c.ids, i < 0 → (m.lookup i).isSome) := by
  have hok := prepareWith_ok f values
  have hcell : ∀ c ∈ values, (f c).hasNeg = false ↔ ∀ i ∈ c.ids, 0 ≤ translate1 m i := by
    intro c hc
    rw [hf c hc, ← Bool.not_eq_true, Cell.hasNeg_iff, Cell.ids_tr]
    simp only [translate, List.mem_map, not_exists, not_and, Int.not_lt, forall_exists_index, and_imp,
      forall_apply_eq_imp_iff₂]
  refine ⟨fun out h => ?_, fun ⟨out, h⟩ c hc i hi => ?_, fun hall => ?_⟩
  · obtain ⟨rfl, hall⟩ := (hok out).mp h
    refine ⟨AllRel.of_map f values fun c hc => ?_, fun c hc => ?_⟩
    · rw [hf c hc]
      exact cellResolves_tr m c fun i hi => (translate1_nonneg m hm i).2 ((hcell c hc).mp (hall c hc) i hi)
    · obtain ⟨c0, hc0, rfl⟩ := List.mem_map.mp hc
      exact hall c0 hc0
  · exact (translate1_nonneg m hm i).1.mp ((hcell c hc).mp (((hok out).mp h).2 c hc) i hi)
  · exact ⟨_, (hok _).mpr ⟨rfl, fun c hc =>
      (hcell c hc).mpr fun i hi => (translate1_nonneg m hm i).1.mpr (hall c hc i hi)⟩⟩

/-- when `prepare_new_values` accepts the values of a Ref column
    (`kind = ref`) or RefList column, the values written are the given ones with every id replaced
    by what it stands for — a negative id by the row recorded for it in `m`, the map of the target
    table, anything else unchanged — and no negative id is left. -/
theorem ref_values_translated (m : TempMap) (hm : KeysNeg m) (values out : List Cell) :
    (prepareRef m values = .ok out → (∀ c ∈ values, c.refShape = true) →
        AllRel (CellResolves m) values out ∧ ∀ c ∈ out, c.hasNeg = false) ∧
    (prepareRefList m values = .ok out → (∀ c ∈ values, c.refListShape = true) →
        AllRel (CellResolves m) values out ∧ ∀ c ∈ out, c.hasNeg = false) :=
  ⟨fun h hs => (prepare_spec m hm _ values fun c hc => trRefCell_eq m c (hs c hc)).1 out
      (prepareRef_eq m ▸ h),
   fun h hs => (prepare_spec m hm _ values fun c hc => trRefListCell_eq m hm c (hs c hc)).1 out
      (prepareRefList_eq m ▸ h)⟩

example : prepareRef [(-1, 8), (-2, 7)] [.ref (-1), .ref 4, .other, .ref 0, .ref (-2)]
    = .ok [.ref 8, .ref 4, .other, .ref 0, .ref 7] := by decide +kernel
example : prepareRefList [(-1, 8), (-2, 7)] [.refs [-1, 3, -2], .other, .refs [5]]
    = .ok [.refs [8, 3, 7], .other, .refs [5]] := by decide +kernel

/-- a negative id with no mapping in the target table's map, anywhere in
    the values (Ref int or RefList element), makes `prepare_new_values` raise ValueError
    (`_reject_unresolved_temp_ids`). -/
theorem unknown_temp_rejected (m : TempMap) (values : List Cell) (c : Cell) (i : Int)
    (hc : c ∈ values) (hi : i ∈ c.ids) (hneg : i < 0) (hunk : m.lookup i = none) :
    prepareRef m values = .error "ValueError" ∧ prepareRefList m values = .error "ValueError" := by
  have htr : translate1 m i = i := by simp [translate1, hunk]
  have h0 : c.hasNeg = true := (Cell.hasNeg_iff c).mpr ⟨i, hi, hneg⟩
  have h1 : (c.tr m).hasNeg = true :=
    (Cell.hasNeg_iff _).mpr ⟨i, by rw [Cell.ids_tr]; exact htr ▸ List.mem_map_of_mem hi, hneg⟩
  -- one negative id left in the translated `c` is enough for `_reject_unresolved_temp_ids` to raise
  have key : ∀ f : Cell → Cell, (f c).hasNeg = true → prepareWith f values = .error "ValueError" := by
    intro f hf
    have : (values.map f).any Cell.hasNeg = true :=
      List.any_eq_true.mpr ⟨f c, List.mem_map_of_mem hc, hf⟩
    simp only [prepareWith, rejectUnresolved, this, if_true]
  rw [prepareRef_eq, prepareRefList_eq]
  refine ⟨key _ ?_, key _ ?_⟩
  · cases c with
    | refs l => exact h0
    | _ => exact h1
  · cases c with
    | ref j => exact h0
    | other => exact h0
    | refs l =>
      simp only [trRefListCell]
      split
      · exact h1
      · exact h0

example : prepareRef [(-1, 8)] [.ref (-1), .ref (-2)] = .error "ValueError" := rfl
example : prepareRefList [(-1, 8)] [.refs [1, -1, -3]] = .error "ValueError" := rfl

/-- for well-shaped values, acceptance is EXACTLY "every negative id has a
    mapping" (so nothing else is ever rejected here, and nothing unresolved is ever accepted). -/
theorem prepare_ref_ok_iff (m : TempMap) (hm : KeysNeg m) (values : List Cell) :
    ((∀ c ∈ values, c.refShape = true) →
      ((∃ out, prepareRef m values = .ok out) ↔ ∀ c ∈ values, ∀ i ∈ c.ids, i < 0 → (m.lookup i).isSome)) ∧
    ((∀ c ∈ values, c.refListShape = true) →
      ((∃ out, prepareRefList m values = .ok out) ↔ ∀ c ∈ values, ∀ i ∈ c.ids, i < 0 → (m.lookup i).isSome)) :=
  ⟨fun hs => prepareRef_eq m ▸ (prepare_spec m hm _ values fun c hc => trRefCell_eq m c (hs c hc)).2,
   fun hs => prepareRefList_eq m ▸
     (prepare_spec m hm _ values fun c hc => trRefListCell_eq m hm c (hs c hc)).2⟩

/-- both sides: all negative ids mapped ⇒ accepted; one unmapped ⇒ not -/
example : (∃ out, prepareRefList [(-1, 8)] [.refs [-1, 3], .other] = .ok out) ∧
    ¬ (∃ out, prepareRefList [(-1, 8)] [.refs [-1, -2]] = .ok out) := by
  refine ⟨⟨[.refs [8, 3], .other], rfl⟩, ?_⟩
  rintro ⟨out, h⟩
  have := (unknown_temp_rejected [(-1, 8)] [.refs [-1, -2]] (.refs [-1, -2]) (-2) List.mem_cons_self
    (List.mem_cons_of_mem _ List.mem_cons_self) (by decide) rfl).2
  rw [h] at this
  cases this

end Grist.RowIds
