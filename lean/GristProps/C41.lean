/-
C41  fetch_table queries return exactly the matching rows.  Model: GristModel/FetchQuery.lean
(engine.Engine.fetch_table).  Defines the property's own reading of a query (`among`, `specMatches`,
`IsRow`: plain membership under Python `==`).  `==` is symmetric and respects hashability, so the
set/list fallback of the code computes plain membership (`cellIn_spec`); then the clauses of C41.
-/
import GristModel.FetchQuery
namespace Grist.FetchQuery

/-- the stored value is among the requested values under Python `==` (no sets, no hashing) -/
def among (x : Val) (vs : List Val) : Bool := vs.any (fun v => pyEq x v)

/-- for EVERY queried column the stored value is among that column's values -/
def specMatches (cols : List Col) (r : Nat) (q : List (Str × List Val)) : Bool :=
  q.all (fun p => match getColumn cols p.1 with
    | some c => among (c.rawGet r) p.2
    | none => false)

/-- the slots of the id column that hold a positive id -/
def IsRow (idData : List Int) (r : Nat) : Prop := ∃ v, idData[r]? = some v ∧ v > 0

/-- By the recursion of `pyEq`: its five same-shape clauses are symmetric one by one; every other
    pair falls through to the numeric comparison, and so does the swapped pair. -/
theorem pyEq_symm_both : (∀ a b, pyEq a b = pyEq b a) ∧ (∀ a b, pyEqL a b = pyEqL b a) := by
  refine pyEq.mutual_induct _ _ ?none ?str ?fother ?list ?tuple ?num ?other ?nil ?cons ?mismatch
  case num | other =>
    -- `pyEq.eq_6`: the last clause of `pyEq`, under the negations of the other five
    intro a b h1 h2 h3 h4 h5
    intros
    rw [pyEq.eq_6 a b h1 h2 h3 h4 h5, pyEq.eq_6 b a (fun p q => h1 q p) (fun _ _ p q => h2 _ _ q p)
      (fun _ _ p q => h3 _ _ q p) (fun _ _ p q => h4 _ _ q p) (fun _ _ p q => h5 _ _ q p)]
    cases numOf a <;> cases numOf b <;> first | rfl | exact Bool.beq_comm
  case none | nil => rfl
  case str | fother =>
    intro s t
    exact Bool.beq_comm
  case list | tuple =>
    intro a b ih
    exact ih
  case cons =>
    intro a as b bs h1 h2
    simp only [pyEqL, h1, h2]
  case mismatch =>
    intro a b h1 h2
    cases a <;> cases b <;> first | rfl | exact (h1 rfl rfl).elim | exact (h2 _ _ _ _ rfl rfl).elim

theorem pyEq_symm (a b : Val) : pyEq a b = pyEq b a := pyEq_symm_both.1 a b

theorem pyEqL_symm (a b : List Val) : pyEqL a b = pyEqL b a := pyEq_symm_both.2 a b

theorem hashable_of_numOf {a : Val} {x : Int} (h : numOf a = some x) : hashable a = true := by
  cases a <;> first | rfl | cases h

/-- equal values have the same shape (lists never hashable, tuples by recursion), except numeric
    ones, which are all hashable -/
theorem pyEq_hashable_both : (∀ a b, pyEq a b = true → hashable a = hashable b) ∧
    (∀ a b, pyEqL a b = true → hashableL a = hashableL b) := by
  refine pyEq.mutual_induct _ _ ?none ?str ?fother ?list ?tuple ?num ?other ?nil ?cons ?mismatch
  case num | other =>
    -- the last clause is true only of two numeric values
    intro a b h1 h2 h3 h4 h5
    intros
    rename_i h
    rw [pyEq.eq_6 a b h1 h2 h3 h4 h5] at h
    split at h
    · next ha hb => rw [hashable_of_numOf ha, hashable_of_numOf hb]
    · cases h
  case none | nil =>
    intro _
    rfl
  case str | fother =>
    intro _ _ _
    rfl
  case list =>
    intro _ _ _ _
    rfl
  case tuple =>
    intro a b ih h
    exact ih h
  case cons =>
    intro a as b bs h1 h2 h
    simp only [pyEqL, Bool.and_eq_true] at h
    simp only [hashableL, h1 h.1, h2 h.2]
  case mismatch =>
    intro a b h1 h2 h
    cases a <;> cases b <;> first | exact (h1 rfl rfl).elim | exact (h2 _ _ _ _ rfl rfl).elim | cases h

theorem pyEq_hashable (a b : Val) (h : pyEq a b = true) : hashable a = hashable b :=
  pyEq_hashable_both.1 a b h

theorem pyEqL_hashable (a b : List Val) (h : pyEqL a b = true) : hashableL a = hashableL b :=
  pyEq_hashable_both.2 a b h

example : pyEq (.bool true) (.int 1) = true ∧ pyEq (.int 1) (.flt 1) = true ∧
    pyEq (.flt 0) (.bool false) = true ∧ pyEq (.str ['1']) (.int 1) = false ∧
    pyEq .none (.int 0) = false ∧ pyEq (.list [.int 1]) (.tuple [.int 1]) = false ∧
    pyEq (.tuple [.bool true, .list [.int 2]]) (.tuple [.flt 1, .list [.flt 2]]) = true := by decide

theorem hashableL_eq_all (vs : List Val) : hashableL vs = vs.all hashable := by
  induction vs with
  | nil => rfl
  | cons a l ih => rw [hashableL, ih, List.all_cons]

/-- the try/except dance computes plain membership: whether `values` became a set or stayed a list,
    and whether or not the lookup raised TypeError -/
theorem cellIn_spec (x : Val) (vs : List Val) :
    (cellIn x (prepValues vs) = some true) ↔ among x vs = true := by
  unfold prepValues among
  by_cases hs : hashableL vs = true
  · simp only [hs, ↓reduceIte, cellIn]
    by_cases hx : hashable x = true
    · simp [hx]
    · simp only [hx, Bool.false_eq_true, ↓reduceIte]
      constructor
      · intro h
        cases h
      · intro h
        obtain ⟨v, hv, he⟩ := List.any_eq_true.1 h
        rw [hashableL_eq_all, List.all_eq_true] at hs
        exact absurd ((pyEq_hashable x v he).trans (hs v hv)) hx
  · simp only [hs, Bool.false_eq_true, ↓reduceIte, cellIn, Option.some.injEq]
    have : (fun v => pyEq v x) = (fun v => pyEq x v) := funext fun v => pyEq_symm v x
    rw [this]

theorem mem_rowIds (idData : List Int) (r : Nat) : r ∈ rowIds idData ↔ IsRow idData r := by
  unfold rowIds IsRow
  by_cases h : r < idData.length <;> simp [List.getD, h]

theorem rowIds_ascending (idData : List Int) : (rowIds idData).Pairwise (· < ·) :=
  List.Pairwise.filter _ List.pairwise_lt_range

theorem rowMatches_cons (r : Nat) (c : Col) (vs : List Val) (qs : List (Col × Values)) :
    rowMatches r ((c, prepValues vs) :: qs) = (among (c.rawGet r) vs && rowMatches r qs) := by
  rw [rowMatches]
  cases ha : among (c.rawGet r) vs
  · split
    · next g =>
      rw [(cellIn_spec _ _).1 g] at ha
      cases ha
    · rfl
  · rw [(cellIn_spec _ _).2 ha]
    rfl

theorem rowMatches_eq_specMatches (cols : List Col) :
    ∀ (q : List (Str × List Val)) (qcs : List (Col × Values)), queryCols cols q = some qcs →
    ∀ r, rowMatches r qcs = specMatches cols r q := by
  intro q
  induction q with
  | nil =>
    intro qcs h r
    cases h
    rfl
  | cons p rest ih =>
    intro qcs h r
    unfold queryCols at h
    split at h
    · cases h
    · next c hc =>
      split at h
      · cases h
      · next qs hqs =>
        cases h
        simp only [rowMatches_cons, ih qs hqs r, specMatches, List.all_cons, hc]

theorem queryCols_none (cols : List Col) : ∀ (q : List (Str × List Val)),
    queryCols cols q = none ↔ ∃ p ∈ q, getColumn cols p.1 = none := by
  intro q
  induction q with
  | nil => simp [queryCols]
  | cons p rest ih =>
    simp only [List.mem_cons, exists_eq_or_imp, ← ih]
    rw [queryCols]
    cases getColumn cols p.1 <;> cases queryCols cols rest <;> simp

theorem isVirtual_iff (id : Str) : isVirtual id = true ↔ id.head? = some '#' := by
  cases id with
  | nil => simp [isVirtual]
  | cons ch tl =>
    by_cases hh : ch = '#'
    · subst hh
      simp [isVirtual]
    · simp [isVirtual, hh]

/-- `fetch_table` in closed form: KeyError exactly for an unknown query column; otherwise the rows in
    table order that the property's reading of the query selects, and of every selected column the
    stored value at those rows.  The four clauses of C41 below are read off this equation. -/
theorem fetchTable_eq (idData : List Int) (cols : List Col) (formulas priv : Bool)
    (q : Option (List (Str × List Val))) :
    fetchTable idData cols formulas priv q =
      if ∃ p ∈ q.getD [], getColumn cols p.1 = none then none
      else
        let rows := (rowIds idData).filter (fun r => specMatches cols r (q.getD []))
        some ⟨rows, (cols.filter (selected formulas priv)).map (fun c => (c.id, rows.map c.rawGet))⟩ := by
  rw [fetchTable]
  cases hq : queryCols cols (q.getD []) with
  | none => rw [if_pos ((queryCols_none cols _).1 hq)]
  | some qcs =>
    rw [if_neg fun h => nomatch hq.symm.trans ((queryCols_none cols _).2 h)]
    simp only [List.filter_congr fun r _ => rowMatches_eq_specMatches cols _ qcs hq r]

/-- **C41 (rows).** A query over existing columns returns exactly the rows, each once and in
    increasing row-id order, whose stored value in EVERY queried column is `==` to one of that
    column's requested values, unhashable requested values and unhashable cells included. -/
theorem fetch_query_exact (idData : List Int) (cols : List Col) (formulas priv : Bool)
    (q : List (Str × List Val)) (res : Result)
    (h : fetchTable idData cols formulas priv (some q) = some res) :
    res.rows = (rowIds idData).filter (fun r => specMatches cols r q) ∧
    res.rows.Pairwise (· < ·) ∧
    (∀ r, r ∈ res.rows ↔ IsRow idData r ∧ specMatches cols r q = true) := by
  rw [fetchTable_eq] at h
  split at h
  · cases h
  · cases h
    exact ⟨rfl, (rowIds_ascending idData).filter _, fun r => by rw [List.mem_filter, mem_rowIds]; rfl⟩

example : (fetchTable [0, 1, 2, 0, 4]
      [⟨['i','d'], false, false, [.int 0, .int 1, .int 2, .int 0, .int 4], .int 0⟩,
       ⟨['A'], false, false, [.int 0, .int 1, .bool true, .int 7, .list [.int 1]], .int 0⟩]
      true false (some [(['A'], [.flt 1, .list [.bool true]])])).map (·.rows) = some [1, 2, 4] := by
  decide

/-- **C41 (KeyError).** A query fails exactly when it names a column the table does not have. -/
theorem fetch_query_keyerror (idData : List Int) (cols : List Col) (formulas priv : Bool)
    (q : List (Str × List Val)) :
    fetchTable idData cols formulas priv (some q) = none ↔ ∃ p ∈ q, getColumn cols p.1 = none := by
  rw [fetchTable_eq]
  split
  next h => exact ⟨fun _ => h, fun _ => rfl⟩
  next h => exact ⟨nofun, fun g => absurd g h⟩

example : fetchTable [0, 1] [⟨['i','d'], false, false, [.int 0, .int 1], .int 0⟩] true false
    (some [(['n','o'], [.int 1])]) = none := by
  rw [fetch_query_keyerror]
  exact ⟨_, List.mem_singleton.2 rfl, by decide⟩

/-- **C41 (no query).** Without a query (None or an empty dict) every row is returned, ascending. -/
theorem fetch_query_empty (idData : List Int) (cols : List Col) (formulas priv : Bool)
    (q : Option (List (Str × List Val))) (hq : q = none ∨ q = some []) :
    ∃ res, fetchTable idData cols formulas priv q = some res ∧
      res.rows = rowIds idData ∧ res.rows.Pairwise (· < ·) ∧ ∀ r, r ∈ res.rows ↔ IsRow idData r := by
  have : q.getD [] = [] := by rcases hq with g | g <;> simp [g]
  rw [fetchTable_eq, this, if_neg (by simp)]
  have e : (rowIds idData).filter (fun r => specMatches cols r []) = rowIds idData :=
    List.filter_eq_self.2 fun _ _ => rfl
  exact ⟨_, rfl, e, e.symm ▸ rowIds_ascending idData, e.symm ▸ mem_rowIds idData⟩

example : (fetchTable [0, 1, 0, 3] [⟨['i','d'], false, false, [.int 0, .int 1, .int 0, .int 3], .int 0⟩]
    true false none).map (·.rows) = some [1, 3] := by decide

/-- **C41 (columns).** The returned columns are, in table order: formula columns only if `formulas`,
    private ones only if `private`, never `id` or a virtual `#…` column; each with the stored value
    of every returned row. -/
theorem fetch_columns_flags (idData : List Int) (cols : List Col) (formulas priv : Bool)
    (q : Option (List (Str × List Val))) (res : Result)
    (h : fetchTable idData cols formulas priv q = some res) :
    res.cols.map (·.1) = (cols.filter (fun c =>
        decide ((formulas = true ∨ c.isFormula = false) ∧ (priv = true ∨ c.isPrivate = false) ∧
          c.id ≠ ['i', 'd'] ∧ c.id.head? ≠ some '#'))).map (·.id) ∧
    (∀ p ∈ res.cols, ∃ c ∈ cols, c.id = p.1 ∧ p.2.length = res.rows.length ∧
        ∀ (k r : Nat), res.rows[k]? = some r → p.2[k]? = some (c.data.getD r c.dflt)) := by
  rw [fetchTable_eq] at h
  split at h
  · cases h
  · cases h
    constructor
    · rw [List.map_map]
      refine congrArg _ (List.filter_congr fun c _ => ?_)
      rw [Bool.eq_iff_iff]
      simp only [selected, Bool.and_eq_true, Bool.or_eq_true, Bool.not_eq_true', bne_iff_ne, ne_eq,
        decide_eq_true_eq, ← isVirtual_iff, Bool.not_eq_true, and_assoc]
    · intro p hp
      simp only [List.mem_map, List.mem_filter] at hp
      obtain ⟨c, ⟨hc, _⟩, rfl⟩ := hp
      refine ⟨c, hc, rfl, by simp, ?_⟩
      intro k r hk
      simp [List.getElem?_map, hk, Col.rawGet]

example : (fetchTable [0, 1] [⟨['i','d'], false, false, [.int 0, .int 1], .int 0⟩,
      ⟨['A'], false, false, [.str [], .str ['x']], .str []⟩,
      ⟨['F'], true, false, [.none, .int 3], .none⟩,
      ⟨['P'], true, true, [.none, .int 4], .none⟩,
      ⟨['#','l'], true, false, [], .none⟩] false true none).map (fun r => r.cols.map (·.1))
    = some [['A']] := by decide

end Grist.FetchQuery
