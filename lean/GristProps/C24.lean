/-
C24  Everything sent to Node is marshal-safe and round-trips.
About `encode` (objtypes.encode_object), `decode` (objtypes.decode_object) and `MarshalSafe` (what
marshal.dumps(x, 2) and app/common/marshal.ts accept) of GristModel/PyVal.lean, under the hypotheses
`Clean`, `Decodable` and `DateNodeOK` defined here, each shown necessary by a witness.  Both theorems
go by the cases of the encoder, which Lean numbers in the order of its alternatives.
-/
import GristModel.PyVal
namespace Grist.PyVal

mutual
/-- `Clean v`: no dict inside `v` that the encoder accepts (all keys are `str`) has a key that is an
    instance of a proper SUBCLASS of str; and the already-marshalled payloads carried by objects
    that only `decode_object` creates (RecordStub, RecordSetStub, UnmarshallableValue, the
    name/message/details of a RaisedException) are themselves marshal-safe. -/
def Clean : PyVal → Bool
  | .list _ xs => CleanL xs
  | .tuple _ xs => CleanL xs
  | .dict _ ks vs =>
    (match allStrKeys ks with
     | some keys => keys.all (fun k => !k.2) && CleanL vs
     | none => true)
  | .raised _ n m d ui => MarshalSafe n && MarshalSafe m && MarshalSafe d && CleanL ui
  | .recordStub _ t r => MarshalSafe t && MarshalSafe r
  | .recordSetStub _ t r => MarshalSafe t && MarshalSafe r
  | .unmarshallable _ r => MarshalSafe r
  | _ => true
def CleanL : List PyVal → Bool
  | [] => true
  | x :: xs => Clean x && CleanL xs
end

mutual
/-- `Decodable P v`: every `datetime.date` inside `v` lies in date.min..date.max, and every
    datetime that the encoder can encode (`dt_to_ts` and the zone name exist) is decoded by
    `moment.ts_to_dt(ts, Zone(name))` to a datetime with the same stamp and zone name. -/
def Decodable (P : Prim) : PyVal → Prop
  | .list _ xs => DecodableL P xs
  | .tuple _ xs => DecodableL P xs
  | .dict _ _ vs => DecodableL P vs
  | .raised _ _ _ _ ui => DecodableL P ui
  | .date _ d _ => minDays ≤ d ∧ d ≤ maxDays
  | .datetime _ _ _ (some ts) (some z) =>
      ∃ m ld zts, P.tsToDt (.float ts) (.str z) = .ok (.datetime m ld zts (some ts) (some z))
  | _ => True
def DecodableL (P : Prim) : List PyVal → Prop
  | [] => True
  | x :: xs => Decodable P x ∧ DecodableL P xs
end

/-- The parameter `dateNode d` really is the date `d` days after the epoch. -/
def DateNodeOK (P : Prim) : Prop := ∀ d, ∃ m z, P.dateNode d = .date m d z

theorem safe_rows_int (rows : List Int) : MarshalSafeL (rows.map Enc.int) = true := by
  induction rows with
  | nil => rfl
  | cons r rs ih => simpa only [List.map_cons, MarshalSafeL, MarshalSafe, Bool.true_and] using ih

theorem safe_rows_enc (rows : List Int) :
    MarshalSafeL (rows.map (fun r => if isShort r then Enc.int r else .list [.str ['U'], .str (decInt r)])) = true := by
  induction rows with
  | nil => rfl
  | cons r rs ih =>
    simp only [List.map_cons, MarshalSafeL, ih, Bool.and_true]
    split <;> rfl

/-- trailing `None`s are trimmed -/
theorem encodeArgs_none (n m d : Enc) :
    encodeArgs n m d none = [n, m, d] ∨
    d = .none ∧ (encodeArgs n m d none = [n, m] ∨ m = .none ∧ encodeArgs n m d none = [n]) := by
  simp only [encodeArgs]
  split
  · split
    · exact Or.inr ⟨rfl, Or.inr ⟨rfl, rfl⟩⟩
    · exact Or.inr ⟨rfl, Or.inl rfl⟩
  · exact Or.inl rfl

theorem safe_encodeArgs (n m d : Enc) (u : Option Enc) (hn : MarshalSafe n = true)
    (hm : MarshalSafe m = true) (hd : MarshalSafe d = true) (hu : ∀ x, u = some x → MarshalSafe x = true) :
    MarshalSafeL (encodeArgs n m d u) = true := by
  cases u with
  | some x =>
    show MarshalSafeL [n, m, d, .dict [(['u'], false)] [x]] = true
    simp [MarshalSafeL, MarshalSafe, hn, hm, hd, hu x rfl]
  | none =>
    rcases encodeArgs_none n m d with h | ⟨_, h | ⟨_, h⟩⟩ <;> rw [h] <;> simp [MarshalSafeL, hn, hm, hd]

theorem encode_marshal_safe_all (P : Prim) :
    (∀ v, Clean v = true → MarshalSafe (encode P v) = true) ∧
    (∀ xs, CleanL xs = true → MarshalSafeL (encodeL P xs) = true) ∧
    (∀ ui, CleanL ui = true → ∀ x, encodeUi P ui = some x → MarshalSafe x = true) := by
  apply encode.mutual_induct_unfolding P
    (motive_1 := fun v r => Clean v = true → MarshalSafe r = true)
    (motive_2 := fun xs rs => CleanL xs = true → MarshalSafeL rs = true)
    (motive_3 := fun ui o => CleanL ui = true → ∀ x, o = some x → MarshalSafe x = true)
  -- RecordStub, RecordSetStub
  case case11 | case20 =>
    intro m t r h
    rw [Clean, Bool.and_eq_true] at h
    simp [MarshalSafe, MarshalSafeL, h.1, h.2]
  -- RaisedException
  case case15 =>
    intro m n ms d ui ih h
    simp only [Clean, Bool.and_eq_true] at h
    simp only [MarshalSafe, MarshalSafeL, Bool.true_and]
    exact safe_encodeArgs _ _ _ _ h.1.1.1 h.1.1.2 h.1.2 (ih h.2)
  -- list, tuple
  case case16 | case17 =>
    intro m xs ih h
    simp [MarshalSafe, MarshalSafeL, ih h]
  -- RecordList, RecordSet
  case case18 =>
    intro rows g s _
    simp [MarshalSafe, MarshalSafeL, safe_rows_enc]
  case case19 =>
    intro t rows tup ids g s _
    cases tup <;> simp [MarshalSafe, MarshalSafeL, safe_rows_int]
  -- dict with str keys
  case case21 =>
    intro m ks vs keys hk ih h
    rw [Clean, hk, Bool.and_eq_true] at h
    simp [MarshalSafe, MarshalSafeL, h.1, ih h.2]
  -- UnmarshallableValue
  case case25 =>
    intro m r h
    rw [Clean] at h
    simp [MarshalSafe, MarshalSafeL, h]
  -- encodeL and encodeUi on `x :: xs`; encodeUi on `[]`
  case case29 =>
    intro x xs ih1 ih2 h
    rw [CleanL, Bool.and_eq_true] at h
    rw [encodeL, MarshalSafeL, ih1 h.1, ih2 h.2]
    rfl
  case case30 =>
    intro _ x hx
    cases hx
  case case31 =>
    intro y ys ih h x hx
    rw [CleanL, Bool.and_eq_true] at h
    cases hx
    exact ih h.1
  all_goals
    intros
    rfl

/-- **C24 (safe).**  The encoded form of a `Clean` value is accepted by the marshal transport. -/
theorem encode_marshal_safe_partial (P : Prim) : ∀ v : PyVal, Clean v = true → MarshalSafe (encode P v) = true :=
  (encode_marshal_safe_all P).1
theorem encodeL_marshal_safe (P : Prim) : ∀ xs : List PyVal, CleanL xs = true → MarshalSafeL (encodeL P xs) = true :=
  (encode_marshal_safe_all P).2.1

def metaX : Meta := { str := none, repr := none, tname := [] }

/-- parameters for the instances and witnesses: every partial primitive fails -/
def PEx : Prim := ⟨fun _ => none, fun _ => none, fun _ => [], fun _ => [], fun _ => none, fun _ => none,
    fun _ => none, fun _ => none, fun _ _ => .error [], fun _ => .error [], fun d => .date metaX d (.int 0),
    fun _ => .error [], fun _ => metaX, fun _ => metaX, fun _ _ => metaX, fun _ _ => metaX,
    fun _ _ _ _ => metaX⟩

/-- a non-trivial value satisfying the hypothesis: `[{"k": (1, 2**40)}, b'\xff', {1: S('x')}]` -/
example : Clean (.list metaX [.dict metaX [.str ['k'] false] [.tuple metaX [.int 1 false, .int 1099511627776 false]],
                              .bytes metaX [255] none none,
                              .dict metaX [.int 1 false] [.str ['x'] true]]) = true := by decide

-- FULL STATEMENT (unproved, false of the code as it is):
--   theorem encode_marshal_safe (P : Prim) (v : PyVal) : MarshalSafe (encode P v) = true
/-- **The full statement is false**: `{S('k'): 1}` with `S` a subclass of `str` is encoded as
    `['O', {S('k'): 1}]` — the key is checked with isinstance but not cast — and marshal rejects it.
    (Replayed on the real code by harness/gx/props/c24.py.) -/
theorem encode_marshal_safe_false :
    ¬ (∀ (P : Prim) (v : PyVal), MarshalSafe (encode P v) = true) := by
  intro h
  have h1 := h PEx (.dict metaX [.str ['k'] true] [.int 1 false])
  revert h1
  decide

theorem allStrKeys_map (keys : List (Str × Bool)) :
    allStrKeys (keys.map (fun k => PyVal.str k.1 k.2)) = some keys := by
  induction keys with
  | nil => simp [allStrKeys]
  | cons k ks ih => simp [allStrKeys, ih]

theorem int_roundtrip (P : Prim) (n : Int) (s : Bool) :
    encode P (decode P (encode P (.int n s))) = encode P (.int n s) := by
  rw [encode]
  split
  · next h => rw [decode, encode, if_pos h]
  · rfl

theorem rows_roundtrip (P : Prim) (rows : List Int) :
    encodeL P (decodeL P (rows.map (fun r => if isShort r then Enc.int r else .list [.str ['U'], .str (decInt r)])))
      = rows.map (fun r => if isShort r then Enc.int r else .list [.str ['U'], .str (decInt r)]) := by
  induction rows with
  | nil => rfl
  | cons r rs ih =>
    rw [List.map_cons, decodeL, encodeL, ih]
    exact congrArg (· :: _) (int_roundtrip P r false)

theorem decodeArgs_encodeArgs_none (P : Prim) (n m d : Enc) :
    decodeArgs P (encodeArgs n m d none) = .raised (P.raisedMeta n m d []) n m d [] := by
  rcases encodeArgs_none n m d with h | ⟨rfl, h | ⟨rfl, h⟩⟩ <;> rw [h] <;> rfl

theorem tsToDate_days (P : Prim) (d : Int) (h : minDays ≤ d ∧ d ≤ maxDays) :
    tsToDate P (.float (.int (d * 86400))) = .ok (P.dateNode d) := by
  have hdiv : d * 86400 / 86400 = d := Int.mul_ediv_cancel d (by decide)
  simp [tsToDate, daysOfSeconds, hdiv, h.1, h.2]

theorem encode_roundtrip_all (P : Prim) (hP : DateNodeOK P) :
    (∀ v, Decodable P v → encode P (decode P (encode P v)) = encode P v) ∧
    (∀ xs, DecodableL P xs → encodeL P (decodeL P (encodeL P xs)) = encodeL P xs) ∧
    (∀ ui, DecodableL P ui → ∀ x, encodeUi P ui = some x → encode P (decode P x) = x) := by
  apply encode.mutual_induct_unfolding P
    (motive_1 := fun v r => Decodable P v → encode P (decode P r) = r)
    (motive_2 := fun xs rs => DecodableL P xs → encodeL P (decodeL P rs) = rs)
    (motive_3 := fun ui o => DecodableL P ui → ∀ x, o = some x → encode P (decode P x) = x)
  -- a 32-bit int
  case case7 =>
    intro n s h _
    rw [decode, encode, if_pos h]
  -- an encodable datetime, a date
  case case12 =>
    intro m ld zts ts zn h
    obtain ⟨m', ld', zts', hd⟩ := h
    show encode P (match P.tsToDt (.float ts) (.str zn) with | .ok x => x | .error e => failedS P e) = _
    rw [hd]
    rfl
  case case14 =>
    intro m d zts h
    obtain ⟨m', z, hd⟩ := hP d
    show encode P (match tsToDate P (.float (.int (d * 86400))) with | .ok x => x | .error e => failedS P e) = _
    rw [tsToDate_days P d h, hd]
    rfl
  -- RaisedException, without and with user input
  case case15 =>
    intro m n ms d ui ih h
    cases hu : encodeUi P ui with
    | none =>
      show encode P (decodeArgs P (encodeArgs n ms d none)) = _
      rw [decodeArgs_encodeArgs_none]
      rfl
    | some u =>
      show encode P (.raised _ n ms d [decode P u]) = _
      rw [encode, encodeUi, ih h u hu]
  -- list, tuple, RecordList, RecordSet
  case case16 | case17 =>
    intro m xs ih h
    show encode P (.list _ (decodeL P (encodeL P xs))) = _
    rw [encode, ih h]
  case case18 =>
    intro rows g s _
    show encode P (.list _ (decodeL P (rows.map _))) = _
    rw [encode, rows_roundtrip]
  case case19 =>
    intro t rows tup ids g s _
    cases tup <;> rfl
  -- dict with str keys
  case case21 =>
    intro m ks vs keys hk ih h
    show encode P (.dict _ (keys.map (fun k => .str k.1 k.2)) (decodeL P (encodeL P vs))) = _
    rw [encode, allStrKeys_map, ih h]
  -- encodeL and encodeUi on `x :: xs`; encodeUi on `[]`
  case case29 =>
    intro x xs ih1 ih2 h
    show encode P (decode P (encode P x)) :: encodeL P (decodeL P (encodeL P xs)) = _
    rw [ih1 h.1, ih2 h.2, encodeL]
  case case30 =>
    intro _ x hx
    cases hx
  case case31 =>
    intro y ys ih h x hx
    cases hx
    exact ih h.1
  all_goals
    intros
    rfl

/-- **C24 (round trip).**  Decoding the encoded form yields a value that encodes to the same form. -/
theorem encode_decode_encode (P : Prim) (hP : DateNodeOK P) :
    ∀ v : PyVal, Decodable P v → encode P (decode P (encode P v)) = encode P v :=
  (encode_roundtrip_all P hP).1
/-- a list holding a date, a datetime that cannot be encoded, a big int, an error with user input -/
example (P : Prim) : Decodable P (.list metaX [.date metaX 18262 (.int 0), .datetime metaX 0 none none none,
    .int 1099511627776 false, .raised metaX (.str ['E']) .none .none [.dict metaX [.int 1 false] [.none]]]) := by
  simp [Decodable, DecodableL, minDays, maxDays]

example : DateNodeOK PEx := fun _ => ⟨metaX, .int 0, rfl⟩

/-- a complete instance: `[date(2020,1,1), 2**40, {"k": (None, b'\xff')}]` round-trips -/
example : encode PEx (decode PEx (encode PEx (.list metaX [.date metaX 18262 (.int 0), .int 1099511627776 false,
      .dict metaX [.str ['k'] false] [.tuple metaX [.none, .bytes metaX [255] none none]]]))) =
    encode PEx (.list metaX [.date metaX 18262 (.int 0), .int 1099511627776 false,
      .dict metaX [.str ['k'] false] [.tuple metaX [.none, .bytes metaX [255] none none]]]) := by
  apply encode_decode_encode PEx (fun d => ⟨metaX, .int 0, rfl⟩)
  simp [Decodable, DecodableL, minDays, maxDays]

-- FULL STATEMENT (unproved, false of the code as it is):
--   theorem encode_decode_encode_full (P : Prim) (v : PyVal) : encode P (decode P (encode P v)) = encode P v
/-- **Without `Decodable` the statement is false**: a datetime whose stamp `ts_to_dt` rejects
    (real instance: `datetime(9999,12,31,23,59,59,999999)`, whose float stamp 253402300800.0 is
    already in year 10000; `ts_to_dt` raises OverflowError) re-encodes as `['E', 'OverflowError']`.
    (Replayed on the real code by harness/gx/props/c24.py.) -/
theorem encode_decode_encode_false :
    ¬ (∀ (P : Prim) (v : PyVal), encode P (decode P (encode P v)) = encode P v) := by
  intro h
  have h1 := h { PEx with tsToDt := fun _ _ => .error "OverflowError".toList }
    (.datetime metaX 2932896 none (some (.int 253402300800)) (some ['U','T','C']))
  change Enc.list [.str ['E'], .str "OverflowError".toList] =
    Enc.list [.str ['D'], .float (.int 253402300800), .str ['U','T','C']] at h1
  simp at h1

end Grist.PyVal
