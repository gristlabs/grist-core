/-
C12  Summary tables are exact group-bys of their source.
Property theorems and a concrete run.  Model: GristModel/SummaryModel.lean (table.py `_add_update_summary_col` /
`lookupOrAddDerived` / `getSummarySourceGroup`, docmodel.py `setAutoRemove`/`apply_auto_removes`);
helper lemmas: GristProofs/SummaryModel.lean.

`SummaryExact src sum` (GristModel/SummaryModel.lean) is the property: no two summary rows share a
key, the key set is the union of `keysOf` over the source rows, every `group` is the ascending list
of the source rows having the row's key.  `HelperOk` is the invariant of the private helper column
`#summary#<table>` (not observable from outside; compared with the real column by the harness).
-/
import GristProofs.SummaryModel
namespace Grist.SummaryModel

/-- The keys of one source row are pairwise different (one key per DISTINCT element). -/
theorem keysOf_distinct (cells : List Cell) : (keysOf cells).Nodup :=
  nodup_keysOf cells

example : keysOf [.choices [.txt "a", .txt "b", .txt "a"], .scalar (.num 7)]
    = [[.txt "b", .num 7], [.txt "a", .num 7]] := by decide

/-- What a cell contributes: a scalar its value; a list its elements, or the column default when it
    has none; a non-list value in a list column nothing. -/
theorem mem_cellKeys (v : Val) (c : Cell) :
    v ∈ cellKeys c ↔
      match c with
      | .scalar w => v = w
      | .choices vs => v ∈ vs ∨ (vs = [] ∧ v = .txt "")
      | .refs vs => v ∈ vs ∨ (vs = [] ∧ v = .num 0)
      | .other => False := by
  have hd : ∀ vs : List Val, dedup vs = [] ↔ vs = [] := by
    intro vs
    constructor
    · intro h
      cases vs with
      | nil => rfl
      | cons x xs =>
        have : x ∈ dedup (x :: xs) := mem_dedup.mpr (by simp)
        rw [h] at this
        simp at this
    · intro h
      subst h
      rfl
  cases c with
  | scalar w => simp [cellKeys]
  | other => simp [cellKeys]
  | choices vs | refs vs =>
    simp only [cellKeys, List.isEmpty_iff]
    by_cases he : vs = []
    · subst he
      simp [dedup]
    · have : dedup vs ≠ [] := fun h => he ((hd vs).mp h)
      simp [this, he, mem_dedup]

/-- A key belongs to a row iff it picks, column by column, one of the values the cell contributes
    (cartesian product over the group-by columns). -/
theorem mem_keysOf (k : Key) (cells : List Cell) :
    k ∈ keysOf cells ↔ KeyIn k (cells.map cellKeys) := by
  unfold keysOf
  exact mem_product

example : KeyIn [.txt "", .num 3] ([Cell.choices [], Cell.refs [.num 3, .num 4]].map cellKeys) :=
  (mem_keysOf _ _).mp (by decide)

/-- The keys the helper formula iterates over (`sorted(product(..))`, or none after the early
    `return []`) are exactly the row's keys, each once. -/
theorem codeKeys_exact (cells : List Cell) :
    (codeKeys cells).Perm (keysOf cells) ∧ (codeKeys cells).Nodup :=
  ⟨codeKeys_perm cells, nodup_codeKeys cells⟩

example : codeKeys [.refs [.num 5, .num 2, .num 5], .other] = [] ∧
    codeKeys [.refs [.num 5, .num 2, .num 5]] = [[.num 2], [.num 5]] := by decide

/-- One evaluation of the helper formula keeps the keys of the summary table pairwise different,
    only appends rows, and every appended row has a key of the evaluated source row that was absent. -/
theorem no_duplicate_keys (sum : List SumRow) (cells : List Cell)
    (h : (sum.map (·.key)).Nodup) :
    ((updateSummary false sum cells).1.map (·.key)).Nodup ∧
    ∃ add, (updateSummary false sum cells).1 = sum ++ add ∧
      ∀ a ∈ add, a.key ∈ keysOf cells ∧ a.key ∉ sum.map (·.key) := by
  obtain ⟨add, h1, h2, h3, _⟩ := (updateSummary_spec (sum := sum) (cells := cells) h).added
  refine ⟨?_, add, h1, fun a ha => ⟨(h2 a ha).1, (h2 a ha).2.1⟩⟩
  rw [h1]
  exact nodup_keys_append h h3 (fun a ha => (h2 a ha).2.1)

example : (updateSummary false [⟨1, [.txt "a"], [4]⟩] [.choices [.txt "b", .txt "a"]]).1.map (·.key)
    = [[.txt "a"], [.txt "b"]] := by decide

/-- The helper cell computed for a row refers to exactly the summary rows having one of its keys,
    and afterwards every key of the row has a summary row. -/
theorem helper_cell_exact (sum : List SumRow) (cells : List Cell)
    (h : (sum.map (·.key)).Nodup) :
    (∀ k ∈ keysOf cells, k ∈ (updateSummary false sum cells).1.map (·.key)) ∧
    ∀ sid, sid ∈ (updateSummary false sum cells).2 ↔
      ∃ s ∈ (updateSummary false sum cells).1, s.id = sid ∧ s.key ∈ keysOf cells :=
  ⟨(updateSummary_spec h).covers, (updateSummary_spec h).ids_iff⟩

example : (updateSummary false [⟨1, [.txt "a"], [4]⟩, ⟨3, [.txt "c"], [5]⟩]
    [.choices [.txt "b", .txt "a"]]).2 = [1, 4] := by decide

/-- The lookup behind `group` returns row ids in strictly ascending order. -/
theorem group_sorted (helper : List (Nat × List Nat)) (h : (helper.map (·.1)).Nodup) (sid : Nat) :
    (lookupGroup helper sid).Pairwise (· < ·) :=
  lookupGroup_sorted h sid

example : lookupGroup [(7, [2, 1]), (3, [1]), (5, [2])] 1 = [3, 7] := by decide

/-- `GroupExact` determines the group: there is exactly one ascending list of the rows with the key. -/
theorem group_unique (src : List SrcRow) (s t : SumRow) (hk : s.key = t.key)
    (hs : GroupExact src s) (ht : GroupExact src t) : s.group = t.group :=
  groupExact_unique hk hs ht

/--
`summary_maintain`.  From an exact summary table (and a consistent private helper column), ANY batch
of source edits -- given as the new source rows `src'` and a set `dirty` of row ids containing every
added, changed and removed row -- followed by what the engine does (helper formula re-evaluated for
every dirtied row with `lookupOrAddDerived` / the bulk-add variant, `group` re-evaluated for every
summary row whose lookup result changed, rows with an empty group auto-removed) yields an exact
summary table of the new source (and a consistent helper column, so the step can be iterated).
-/
theorem summary_maintain (src src' : List SrcRow) (st : State) (dirty : List Nat)
    (hsrc' : (src'.map (·.id)).Nodup)
    (hclean : ∀ r : SrcRow, r.id ∉ dirty → (r ∈ src ↔ r ∈ src'))
    (hex : SummaryExact src st.sum) (hh : HelperOk src st) :
    SummaryExact src' (maintain false st src' dirty).sum ∧
    HelperOk src' (maintain false st src' dirty) :=
  maintain_core src src' st dirty _ hsrc' hclean hex hh
    (foldl_helperStep_spec _ _ _ hex.1 hh.sumIds)

/-- `summary_build`: creating the table from scratch (empty table, every row dirty). -/
theorem summary_build (src : List SrcRow) (hsrc : (src.map (·.id)).Nodup) :
    SummaryExact src (build src).sum ∧ HelperOk src (build src) := by
  unfold build
  apply summary_maintain [] src ⟨[], []⟩ (src.map (·.id)) hsrc
  · intro r hr
    constructor
    · intro h
      simp at h
    · intro h
      exact absurd (List.mem_map.mpr ⟨r, h, rfl⟩) hr
  · exact ⟨by simp, by simp, by simp⟩
  · exact ⟨by simp, by simp, by simp, by simp⟩

/-- Consequences spelled out: after any bundle no group is empty and every group is strictly
    ascending. -/
theorem maintain_no_empty_group (src src' : List SrcRow) (st : State) (dirty : List Nat)
    (hsrc' : (src'.map (·.id)).Nodup)
    (hclean : ∀ r : SrcRow, r.id ∉ dirty → (r ∈ src ↔ r ∈ src'))
    (hex : SummaryExact src st.sum) (hh : HelperOk src st) :
    ∀ s ∈ (maintain false st src' dirty).sum, s.group ≠ [] ∧ s.group.Pairwise (· < ·) := by
  intro s hs
  obtain ⟨⟨_, hks, hg⟩, _⟩ := summary_maintain src src' st dirty hsrc' hclean hex hh
  obtain ⟨r, hr, hk⟩ := (hks s.key).mp (List.mem_map.mpr ⟨s, hs, rfl⟩)
  exact ⟨groupExact_nonempty (hg s hs) hr hk, (hg s hs).1⟩

/-! A concrete run: rows 1..3 grouped by a ChoiceList column; then row 1 loses choice "a", row 3
    (the only member of "c") is removed and row 4 arrives with a new choice.  All hypotheses of
    `summary_maintain` hold (the start state comes from `summary_build`). -/
def exSrc : List SrcRow :=
  [⟨1, [.choices [.txt "a", .txt "b"]]⟩, ⟨2, [.choices []]⟩, ⟨3, [.choices [.txt "c"]]⟩]
def exSrc' : List SrcRow :=
  [⟨1, [.choices [.txt "b", .txt "b"]]⟩, ⟨2, [.choices []]⟩, ⟨4, [.choices [.txt "d", .txt "b"]]⟩]

example : (build exSrc).sum =
    [⟨1, [.txt "a"], [1]⟩, ⟨2, [.txt "b"], [1]⟩, ⟨3, [.txt ""], [2]⟩, ⟨4, [.txt "c"], [3]⟩] := by
  decide

example : (maintain false (build exSrc) exSrc' [1, 3, 4]).sum =
    [⟨2, [.txt "b"], [1, 4]⟩, ⟨3, [.txt ""], [2]⟩, ⟨5, [.txt "d"], [4]⟩] := by decide

example : SummaryExact exSrc' (maintain false (build exSrc) exSrc' [1, 3, 4]).sum := by
  have hb := summary_build exSrc (by decide)
  refine (summary_maintain exSrc exSrc' (build exSrc) [1, 3, 4] (by decide) ?_ hb.1 hb.2).1
  intro r hr
  -- a clean row is none of the rows 1, 3, 4 on either side
  have h1 : ∀ x : SrcRow, x.id ∈ [1, 3, 4] → (r = x ↔ False) :=
    fun x hx => iff_false_intro fun e => hr (e ▸ hx)
  simp (disch := decide) only [exSrc, exSrc', List.mem_cons, List.not_mem_nil, or_false, h1]

/-! ### The hypothesis `guard = false` is needed

`is_triggered_by_table_action(summary_table)` (true only while metadata lookups are refreshed
between doc actions) suppresses the add; a helper formula evaluated under it leaves a source key
without a summary row. -/
theorem guard_blocks_adds :
    ¬ SummaryExact [⟨1, [.scalar (.num 1)]⟩]
        (maintain true ⟨[], []⟩ [⟨1, [.scalar (.num 1)]⟩] [1]).sum := by
  intro h
  have hsum : (maintain true ⟨[], []⟩ [⟨1, [.scalar (.num 1)]⟩] [1]).sum = [] := by decide
  rw [hsum] at h
  have := (h.2.1 [.num 1]).mpr ⟨⟨1, [.scalar (.num 1)]⟩, by simp, by decide⟩
  simp at this

theorem mem_rowsWithKey (src : List SrcRow) (k : Key) (i : Nat) :
    i ∈ rowsWithKey src k ↔ ∃ r ∈ src, r.id = i ∧ k ∈ keysOf r.cells := by
  unfold rowsWithKey
  rw [mem_sortAsc, List.mem_map]
  constructor
  · rintro ⟨r, hr, rfl⟩
    rw [List.mem_filter] at hr
    exact ⟨r, hr.1, rfl, by simpa using hr.2⟩
  · rintro ⟨r, hr, rfl, hk⟩
    exact ⟨r, List.mem_filter.mpr ⟨hr, by simpa using hk⟩, rfl⟩

/-- `checkExact` (what the driver evaluates on every real document state) decides `SummaryExact`. -/
theorem checkExact_iff (src : List SrcRow) (sum : List SumRow) (hsrc : (src.map (·.id)).Nodup) :
    checkExact src sum = true ↔ SummaryExact src sum := by
  have hrows : ∀ k, GroupExact src ⟨0, k, rowsWithKey src k⟩ := by
    intro k
    refine ⟨?_, fun i => mem_rowsWithKey src k i⟩
    unfold rowsWithKey
    exact sortAsc_sorted (nodup_map_filter _ _ hsrc)
  unfold checkExact SummaryExact
  simp only [Bool.and_eq_true, decide_eq_true_eq, List.all_eq_true, List.any_eq_true]
  constructor
  · rintro ⟨⟨⟨h1, h2⟩, h3⟩, h4⟩
    refine ⟨h1, ?_, ?_⟩
    · intro k
      constructor
      · intro hk
        obtain ⟨s, hs, rfl⟩ := List.mem_map.mp hk
        obtain ⟨r, hr, hkr⟩ := h2 s hs
        exact ⟨r, hr, hkr⟩
      · rintro ⟨r, hr, hk⟩
        obtain ⟨s, hs, hsk⟩ := h3 r hr k hk
        exact List.mem_map.mpr ⟨s, hs, hsk⟩
    · intro s hs
      have := h4 s hs
      refine ⟨?_, ?_⟩
      · rw [this]
        exact (hrows s.key).1
      · intro i
        rw [this]
        exact mem_rowsWithKey src s.key i
  · rintro ⟨h1, h2, h3⟩
    refine ⟨⟨⟨h1, ?_⟩, ?_⟩, ?_⟩
    · intro s hs
      obtain ⟨r, hr, hk⟩ := (h2 s.key).mp (List.mem_map.mpr ⟨s, hs, rfl⟩)
      exact ⟨r, hr, hk⟩
    · intro r hr k hk
      obtain ⟨s, hs, hsk⟩ := List.mem_map.mp ((h2 k).mpr ⟨r, hr, hk⟩)
      exact ⟨s, hs, hsk⟩
    · intro s hs
      exact group_unique src s ⟨0, s.key, rowsWithKey src s.key⟩ rfl (h3 s hs) (hrows s.key)

example : checkExact exSrc' (maintain false (build exSrc) exSrc' [1, 3, 4]).sum = true := by decide

end Grist.SummaryModel
