/-
C22  Cell value conversion is total and idempotent.
About `convert` (usertypes.BaseColumnType.convert), `doConvert` (`do_convert` of the 16 column types)
and `isRightType` of GristModel/PyVal.lean.  Totality holds as stated; range and idempotence hold
under the hypotheses `Degenerate`, `RowIdsShort` (GristProofs/PyValConvert.lean) and `AltFixed`
(defined here), each shown necessary by a witness; `convert_idem_text/_id/_str/_int_of_number/_bool_of_number` discharge `AltFixed`.
-/
import GristProofs.PyValColumn
namespace Grist.PyVal

/-- "The alt-text is not itself convertible": if do_convert raises on a value that is not a string,
    then converting the fallback text `str(v)` gives that text back. -/
def AltFixed (P : Prim) (τ : ColType) (v : PyVal) : Prop :=
  v.isStr = false → ∀ e, doConvert P τ v = .error e → convert P τ (altOf P v) = altOf P v

/-- **C22 (never raises).**  The three cases of `convert`: an error object is returned as it is;
    `do_convert`'s result; when it raises, the alt-text `str(v)` / `safe_repr(v)`, a string. -/
theorem convert_total (P : Prim) (τ : ColType) (v : PyVal) :
    (v.isRaised = true ∧ convert P τ v = v) ∨
    (v.isRaised = false ∧ ∃ r, doConvert P τ v = .ok r ∧ convert P τ v = r) ∨
    (v.isRaised = false ∧ ∃ e, doConvert P τ v = .error e ∧ convert P τ v = altOf P v ∧
      (convert P τ v).isStr = true) := by
  cases hr : v.isRaised
  · right
    cases h : doConvert P τ v with
    | ok r => exact Or.inl ⟨rfl, r, rfl, convert_ok P τ v r hr h⟩
    | error e =>
      have hc := convert_error P τ v e hr h
      obtain ⟨s, hs⟩ := altOf_shape P v
      exact Or.inr ⟨rfl, e, rfl, hc, by rw [hc, hs]; rfl⟩
  · exact Or.inl ⟨rfl, convert_raised P τ v hr⟩

/-- all three cases occur: an error object, a successful conversion, and an alt-text -/
example (P : Prim) : convert P .int (.raised ⟨none, none, []⟩ (.str ['E']) .none .none []) =
    .raised ⟨none, none, []⟩ (.str ['E']) .none .none [] := rfl
example (P : Prim) : convert P .int (.bool true) = .int 1 false := rfl
example (P : Prim) : convert P .int (.list ⟨some ['[', ']'], none, []⟩ []) = .str ['[', ']'] false := rfl

/-- **C22 (range).**  Every type but Blob; `hs`: RecordSets in the value have 32-bit row ids. -/
theorem convert_range_partial (P : Prim) (τ : ColType) (v : PyVal) (hτ : τ ≠ .blob)
    (hs : RowIdsShort v) :
    isRightType τ (convert P τ v) = true ∨ (convert P τ v = v ∧ v.isRaised = true) ∨
    (convert P τ v).isStr = true :=
  convert_range_general P τ v hτ (fun _ => hs)

/-- a non-trivial input used in the examples: `[T.RecordSet([1, 3]), T.RecordSet([3, 4])]` -/
def vEx : PyVal := .list ⟨none, none, []⟩
  [.recordSet ['T'] [1, 3] false [1, 3] [] [], .recordSet ['T'] [3, 4] false [3, 4] [] []]

theorem vEx_ids (tid : Str) (ids : List Int)
    (h : recordSetsIds tid [.recordSet ['T'] [1, 3] false [1, 3] [] [],
                            .recordSet ['T'] [3, 4] false [3, 4] [] []] = some ids) :
    ids = [1, 3, 3, 4] := by
  simp only [recordSetsIds] at h
  split at h
  · cases h
    rfl
  · cases h

theorem vEx_short : RowIdsShort vEx := by
  intro m xs tid ids hv hflat i hi
  cases hv
  have := vEx_ids _ _ hflat
  subst this
  simp only [List.mem_cons, List.not_mem_nil, or_false, or_self_left] at hi
  rcases hi with rfl | rfl | rfl <;> decide

example (P : Prim) : isRightType (.refList ['T']) (convert P (.refList ['T']) vEx) = true ∨
    (convert P (.refList ['T']) vEx = vEx ∧ vEx.isRaised = true) ∨
    (convert P (.refList ['T']) vEx).isStr = true :=
  convert_range_partial P _ vEx (by decide) vEx_short

theorem convert_blob (P : Prim) (v : PyVal) : convert P .blob v = v := by
  unfold convert
  split <;> rfl

/-- parameters for the witnesses: every partial primitive fails, except `json.loads("[]") = []` -/
def P0 : Prim := ⟨fun _ => none, fun _ => none, fun _ => [], fun _ => [],
    fun s => if s = ['[', ']'] then some (.list ⟨some ['[', ']'], some ['[', ']'], ['l','i','s','t']⟩ []) else none,
    fun _ => none, fun _ => none, fun _ => none, fun _ _ => .error [], fun _ => .error [], fun _ => .none,
    fun _ => .error [], fun _ => ⟨none, none, []⟩, fun _ => ⟨none, none, []⟩, fun _ _ => ⟨none, none, []⟩,
    fun _ _ => ⟨none, none, []⟩, fun _ _ _ _ => ⟨none, none, []⟩⟩

-- FULL STATEMENT (unproved, false of the code as it is):
--   theorem convert_range (P : Prim) (τ : ColType) (v : PyVal) :
--     isRightType τ (convert P τ v) = true ∨ (convert P τ v = v ∧ v.isRaised = true) ∨
--     (convert P τ v).isStr = true
/-- **The full range statement is false**: `Blob().convert(5)` is `5`: not bytes/None, not an error
    object, not text.  (Replayed on the real code by harness/gx/props/c22.py.) -/
theorem convert_range_false :
    ¬ (∀ (P : Prim) (τ : ColType) (v : PyVal),
        isRightType τ (convert P τ v) = true ∨ (convert P τ v = v ∧ v.isRaised = true) ∨
        (convert P τ v).isStr = true) := by
  intro h
  have h1 := h P0 .blob (.int 5 false)
  rw [convert_blob] at h1
  rcases h1 with h1 | ⟨_, h1⟩ | h1 <;> cases h1

theorem convert_str_fixed (P : Prim) (τ : ColType) (s e : Str)
    (h : doConvert P τ (.str s false) = .error e) : convert P τ (.str s false) = .str s false := by
  rw [convert_error P τ _ e rfl h, altOf_str]

theorem convert_idem_general (P : Prim) (τ : ColType) (v : PyVal)
    (hd : ¬ Degenerate P τ v) (hs : reparses τ = true → RowIdsShort v) (ha : AltFixed P τ v) :
    convert P τ (convert P τ v) = convert P τ v := by
  rcases convert_total P τ v with ⟨_, hc⟩ | ⟨_, r, h, hc⟩ | ⟨hr, e, h, hc, -⟩
  · rw [hc, hc]
  · rw [hc]
    exact convert_fix P τ r ((doConvert_result P τ v r h hs).2 hd)
  · rw [hc]
    cases hstr : v.isStr
    · exact ha hstr e h
    · -- a string, possibly of a subclass: its alt-text is the same text
      cases v
      case str s b =>
        rw [altOf_str]
        exact convert_str_fixed P τ s e (doConvert_str_error P τ s b e h)
      all_goals cases hstr

/-- **C22 (idempotence).**  The same value again (same class, bitwise-equal floats), except
    (a) when do_convert raises on a non-string whose fallback text is itself convertible (`AltFixed`
    excludes exactly this), and (b) on the three `Degenerate` inputs. -/
theorem convert_idem_partial (P : Prim) (τ : ColType) (v : PyVal)
    (hd : ¬ Degenerate P τ v) (hs : RowIdsShort v) (ha : AltFixed P τ v) :
    convert P τ (convert P τ v) = convert P τ v :=
  convert_idem_general P τ v hd (fun _ => hs) ha

/-- non-trivial instance: Int applied to the float 2147483648.5 (alt-text "2147483648.5", which
    float() parses back to the same float, which is again out of range) -/
example (P : Prim) (hrepr : P.floatOfStr (P.reprF (.frac 0x41E0000000100000 2147483648))
      = some (.frac 0x41E0000000100000 2147483648))
    (hne : P.reprF (.frac 0x41E0000000100000 2147483648) ≠ []) :
    AltFixed P .int (.float (.frac 0x41E0000000100000 2147483648) false) := by
  intro _ e _
  have hemp : (P.reprF (.frac 0x41E0000000100000 2147483648)).isEmpty = false := by
    cases hx : P.reprF (.frac 0x41E0000000100000 2147483648) with
    | nil => exact absurd hx hne
    | cons a as => rfl
  simp [altOf, pyStr, convert, PyVal.isRaised, doConvert, doInt, isEmptyOrNone, hemp, pyFloat,
    hrepr, F.toInt, isShort, two31, exc]

/-- all three hypotheses hold for `vEx` in a `RefList:T` column (result `[1, 3, 4]`) -/
example (P : Prim) :
    convert P (.refList ['T']) (convert P (.refList ['T']) vEx) = convert P (.refList ['T']) vEx := by
  apply convert_idem_partial
  · intro hd
    rcases hd with ⟨rows, tup, ids, gb, sb, h⟩ | ⟨m, xs, ids, hv, hflat, hdd⟩
    · cases h
    · cases hv
      have := vEx_ids _ _ hflat
      subst this
      revert hdd
      decide
  · exact vEx_short
  · intro _ e he
    cases he

example (P : Prim) : convert P (.refList ['T']) vEx =
    .list (P.listMeta [.int 1 false, .int 3 false, .int 4 false])
      [.int 1 false, .int 3 false, .int 4 false] := rfl

-- FULL STATEMENT (unproved, false of the code as it is):
--   theorem convert_idem (P : Prim) (τ : ColType) (v : PyVal) :
--     convert P τ (convert P τ v) = convert P τ v
/-- (a) `Int().convert(AltText(''))` is `''`, and `Int().convert('')` is `None`. -/
theorem convert_idem_false_alttext :
    ¬ (∀ (P : Prim) (τ : ColType) (v : PyVal), convert P τ (convert P τ v) = convert P τ v) := by
  intro h
  have h1 := h P0 .int (.altText [])
  change PyVal.none = PyVal.str [] false at h1
  cases h1

/-- (b1) `ChoiceList().convert('[]')` is `()`, and `ChoiceList().convert(())` is `None`;
    `AltFixed` and `RowIdsShort` hold for this input, so `¬ Degenerate` cannot be dropped. -/
theorem convert_idem_false_emptyjson :
    ¬ (∀ (P : Prim) (τ : ColType) (v : PyVal), RowIdsShort v → AltFixed P τ v →
        convert P τ (convert P τ v) = convert P τ v) := by
  intro h
  have h1 := h P0 .choiceList (.str ['[', ']'] false)
    (by intro m xs tid ids hv; cases hv) (by intro hstr; cases hstr)
  change PyVal.none = PyVal.tuple _ [] at h1
  cases h1

/-- (b2) `ReferenceList('T').convert(T.RecordSet([1, 3]))` is a `RecordList`; converting that gives
    the plain list `[1, 3]` (and an empty RecordSet gives `RecordList([])`, then `None`). -/
theorem convert_idem_false_recordset :
    ¬ (∀ (P : Prim) (τ : ColType) (v : PyVal), RowIdsShort v → AltFixed P τ v →
        convert P τ (convert P τ v) = convert P τ v) := by
  intro h
  have h1 := h P0 (.refList ['T']) (.recordSet ['T'] [1, 3] false [1, 3] [] [])
    (by intro m xs tid ids hv; cases hv) (by intro _ e he; cases he)
  change PyVal.list _ [.int 1 false, .int 3 false] = PyVal.recordList [1, 3] [] [] at h1
  cases h1

/-- (b3) `ReferenceList('T').convert([T.RecordSet([])])` is `[]`, and converting `[]` gives `None`. -/
theorem convert_idem_false_emptysets :
    ¬ (∀ (P : Prim) (τ : ColType) (v : PyVal), RowIdsShort v → AltFixed P τ v →
        convert P τ (convert P τ v) = convert P τ v) := by
  intro h
  have h1 := h P0 (.refList ['T']) (.list ⟨none, none, []⟩ [.recordSet ['T'] [] false [] [] []])
    (by
      intro m xs tid ids hv hflat i hi
      simp only [PyVal.list.injEq] at hv
      obtain ⟨_, hxs⟩ := hv
      subst hxs
      simp only [recordSetsIds] at hflat
      split at hflat
      · cases hflat
        cases hi
      · cases hflat)
    (by intro _ e he; cases he)
  change PyVal.none = PyVal.list _ [] at h1
  cases h1

/-- **Text, Choice, Any, Blob: idempotent on every value**, no hypothesis at all. -/
theorem convert_idem_text (P : Prim) (τ : ColType) (v : PyVal)
    (hτ : τ = .text ∨ τ = .choice ∨ τ = .any ∨ τ = .blob) :
    convert P τ (convert P τ v) = convert P τ v := by
  -- each of the four returns an exact string, such as the alt-text, unchanged
  have ha : AltFixed P τ v := by
    intro _ e _
    obtain ⟨s, hs⟩ := altOf_shape P v
    rw [hs]
    rcases hτ with rfl | rfl | rfl | rfl <;> rfl
  rcases hτ with rfl | rfl | rfl | rfl <;> exact convert_idem_general P _ v id (fun h => nomatch h) ha

/-- **Every type is idempotent on strings** (also instances of str subclasses), except ChoiceList
    on the empty JSON list: hypothesis (a) is vacuous for strings. -/
theorem convert_idem_str (P : Prim) (τ : ColType) (s : Str) (b : Bool)
    (hne : τ = .choiceList → ¬ EmptyJson P (.str s b)) :
    convert P τ (convert P τ (.str s b)) = convert P τ (.str s b) := by
  apply convert_idem_partial
  · -- a string is neither a RecordSet nor a list
    cases τ
    case choiceList => exact hne rfl
    case refList | attachments => rintro (⟨_, _, _, _, _, h⟩ | ⟨_, _, _, h, _⟩) <;> cases h
    all_goals exact id
  · intro m xs tid ids hv
    cases hv
  · intro hstr
    cases hstr

example (P : Prim) : convert P (.refList ['T']) (convert P (.refList ['T']) (.str ['[', '1', ']'] true)) =
    convert P (.refList ['T']) (.str ['[', '1', ']'] true) := by
  apply convert_idem_str
  intro h
  cases h

/-- **Id and Ref are idempotent whenever the fallback text is not the empty string.** -/
theorem convert_idem_id (P : Prim) (τ : ColType) (v : PyVal) (hτ : τ = .id ∨ τ = .ref)
    (hne : altOf P v ≠ .str [] false) :
    convert P τ (convert P τ v) = convert P τ v := by
  have ha : AltFixed P τ v := by
    intro _ e _
    obtain ⟨s, hs⟩ := altOf_shape P v
    rw [hs] at hne ⊢
    cases s with
    | nil => exact absurd rfl hne
    -- Id.do_convert raises TypeError on a non-empty string
    | cons c cs => rcases hτ with rfl | rfl <;> rfl
  rcases hτ with rfl | rfl <;> exact convert_idem_general P _ v id (fun h => nomatch h) ha

/-- e.g. a float in a Ref column: `Reference('T').convert(1.5)` is `'1.5'` and stays `'1.5'` -/
example (P : Prim) (h : P.reprF (.frac 0x3FF8000000000000 1) = ['1', '.', '5']) :
    convert P .ref (convert P .ref (.float (.frac 0x3FF8000000000000 1) false)) =
    convert P .ref (.float (.frac 0x3FF8000000000000 1) false) := by
  apply convert_idem_id P .ref _ (Or.inr rfl)
  simp [altOf, pyStr, h]

/-- Laws of CPython's `float()` / `repr()` used for numbers (validated by the harness on every
    float and int it sees): repr round-trips, decimal digits of an int parse to `float(int)`. -/
structure FloatLaws (P : Prim) : Prop where
  repr_ne : ∀ f, P.reprF f ≠ []
  repr_finite : ∀ f, f.isFinite = true → P.floatOfStr (P.reprF f) = some f
  repr_nan : ∀ b, ∃ b', P.floatOfStr (P.reprF (.nan b)) = some (.nan b')
  repr_inf : ∀ s, P.floatOfStr (P.reprF (.inf s)) = some (.inf s)
  dec_small : ∀ n, (decide (-two53 ≤ n) && decide (n ≤ two53)) = true →
    P.floatOfStr (decInt n) = some (.int n)
  dec_big : ∀ n f, (decide (-two53 ≤ n) && decide (n ≤ two53)) = false →
    P.floatOfBig n = some f → P.floatOfStr (decInt n) = some f
  big_not_short : ∀ n f m, (decide (-two53 ≤ n) && decide (n ≤ two53)) = false →
    P.floatOfBig n = some f → f.toInt = .ok m → isShort m = false
  dec_huge : ∀ n, (decide (-two53 ≤ n) && decide (n ≤ two53)) = false →
    P.floatOfBig n = none → ∃ s, P.floatOfStr (decInt n) = some (.inf s)

theorem decInt_ne (n : Int) : decInt n ≠ [] := by
  cases n <;> simp [decInt, decNat, Nat.toDigits_ne_nil]

theorem doInt_str_of_float (P : Prim) (s : Str) (f : F) (hs : s ≠ []) (hf : P.floatOfStr s = some f)
    (hbad : ∀ m, f.toInt = .ok m → isShort m = false) : ∃ e, doInt P (.str s false) = .error e := by
  have hemp : s.isEmpty = false := by
    cases s with
    | nil => exact absurd rfl hs
    | cons c cs => rfl
  unfold doInt
  simp only [isEmptyOrNone, hemp, pyFloat, hf]
  cases ht : f.toInt with
  | error e => exact ⟨e, by simp⟩
  | ok m => simp [hbad m ht, exc]

theorem doInt_error_toInt (P : Prim) (v : PyVal) (f : F) (e : Str) (hne : isEmptyOrNone v = false)
    (hf : pyFloat P v = .ok f) (he : doInt P v = .error e) (m : Int) (hm : f.toInt = .ok m) :
    isShort m = false := by
  simp only [doInt, hne, hf, hm, Bool.false_eq_true, if_false] at he
  cases hs : isShort m
  · rfl
  · rw [hs] at he
    cases he

/-- **Int is idempotent on every number** (None, bools, ints of any size, floats incl. NaN, ±inf),
    given the float()/repr() laws; **Bool is idempotent on every number** unconditionally. -/
theorem convert_idem_int_of_number (P : Prim) (hL : FloatLaws P) (v : PyVal)
    (hv : v = .none ∨ isNumeric v = true) :
    convert P .int (convert P .int v) = convert P .int v := by
  refine convert_idem_general P .int v id (fun h => nomatch h) (fun _ e he => ?_)
  -- the alt-text `s` of the number parses to an `f` for which `int(f)` raises or is out of range,
  -- as it did for the number itself: Int.do_convert raises on `s` too
  have key : ∀ s f, altOf P v = .str s false → s ≠ [] → P.floatOfStr s = some f →
      (∀ m, f.toInt = .ok m → isShort m = false) → convert P .int (altOf P v) = altOf P v := by
    intro s f ha hs hf hbad
    obtain ⟨e', he'⟩ := doInt_str_of_float P s f hs hf hbad
    rw [ha]
    exact convert_str_fixed P .int s e' he'
  rcases hv with rfl | h
  · cases he
  · cases v with
    | bool b => cases b <;> cases he
    | int n sub =>
      by_cases hsm : (decide (-two53 ≤ n) && decide (n ≤ two53)) = true
      · have hf : pyFloat P (.int n sub) = .ok (.int n) := by rw [pyFloat, floatOfInt, if_pos hsm]
        exact key (decInt n) (.int n) rfl (decInt_ne n) (hL.dec_small n hsm)
          (doInt_error_toInt P _ _ e rfl hf he)
      · have hsm' := Bool.eq_false_iff.mpr hsm
        cases hb : P.floatOfBig n with
        | some f =>
          have hf : pyFloat P (.int n sub) = .ok f := by rw [pyFloat, floatOfInt, if_neg hsm, hb]
          exact key (decInt n) f rfl (decInt_ne n) (hL.dec_big n f hsm' hb)
            (doInt_error_toInt P _ _ e rfl hf he)
        | none =>
          -- `float(n)` overflows; the digits parse to an infinity
          obtain ⟨sg, hsg⟩ := hL.dec_huge n hsm' hb
          exact key (decInt n) (.inf sg) rfl (decInt_ne n) hsg (fun m hm => nomatch hm)
    | float f sub =>
      -- `repr(f)` parses back to `f`, or to a NaN for a NaN
      obtain ⟨f', hf', ht⟩ : ∃ f', P.floatOfStr (P.reprF f) = some f' ∧ f'.toInt = f.toInt := by
        cases f with
        | nan b =>
          obtain ⟨b', hb'⟩ := hL.repr_nan b
          exact ⟨_, hb', rfl⟩
        | inf sg => exact ⟨_, hL.repr_inf sg, rfl⟩
        | negZero | int _ | frac _ _ => exact ⟨_, hL.repr_finite _ rfl, rfl⟩
      exact key (P.reprF f) f' rfl (hL.repr_ne f) hf'
        (fun m hm => doInt_error_toInt P _ f e rfl rfl he m (ht ▸ hm))
    | _ => cases h

theorem convert_idem_bool_of_number (P : Prim) (v : PyVal) (hv : v = .none ∨ isNumeric v = true) :
    convert P .bool (convert P .bool v) = convert P .bool v := by
  refine convert_idem_general P .bool v id (fun h => nomatch h) (fun _ e he => ?_)
  rcases hv with rfl | h
  · cases he
  · cases v with
    | bool b => cases b <;> cases he
    | int n sub =>
      simp only [doConvert, doBool, truthy, isNumeric] at he
      cases hn : (n != 0) <;> simp [hn] at he
    | float f sub =>
      simp only [doConvert, doBool, truthy, isNumeric] at he
      cases hf : f.truthy <;> simp [hf] at he
    | _ => cases h

/-- e.g. `Int().convert(float('nan'))`, the text `'nan'`, is converted to itself -/
example (P : Prim) (hL : FloatLaws P) :
    convert P .int (convert P .int (.float (.nan 0x7FF8000000000000) false)) =
    convert P .int (.float (.nan 0x7FF8000000000000) false) :=
  convert_idem_int_of_number P hL _ (Or.inr rfl)

end Grist.PyVal
