/-
C23  Changing a column's type converts each stored value.
About `modifyCell` (one cell through docactions.ModifyColumn + useractions.doModifyColumn), `colSet`
(column.set), `colConvert` (column.convert) and `strictEq` (objtypes.strict_equal) of
GristModel/PyVal.lean.  Defined here: the hypothesis `NoHiddenCoercion`, and the table level
`Column`, `modifyCells`, `modifyTable` for the frame theorem.  Witness parameters: `metaZ`, `PW`.
-/
import GristProofs.PyValColumn
namespace Grist.PyVal

/-- strict_equal(old, converted) holds only when the two values are really the same, not merely
    equal through True == 1 / 0.0 == 0 / -0.0 == 0.0 -/
def NoHiddenCoercion (P : Prim) (τ' : ColType) (old : PyVal) : Prop :=
  strictEq old (colConvert P τ' old) = true → exactEq old (colConvert P τ' old) = true

/-- **C23 (each cell is the conversion of its previous value).**  The cell's reported (encoded)
    value is that of the new type's conversion of the previous value, normalised by the new
    column's `set`. -/
theorem modify_type_cells (P : Prim) (τ' : ColType) (old c : PyVal)
    (h : modifyCell P τ' old = .ok c) (hn : NoHiddenCoercion P τ' old) :
    ∃ c', colSet P τ' (colConvert P τ' old) = .ok c' ∧ encode P c = encode P c' := by
  rcases modifyCell_ok P τ' old c h with ⟨hse, hraw⟩ | ⟨_, hc⟩
  · -- the raw copy stays: `set` treats it like the converted value
    exact colSet_respects P τ' old _ hse (hn hse) c hraw
  · exact ⟨c, hc, rfl⟩

theorem colConvert_int_12 (P : Prim) (hf : P.floatOfStr ['1', '2'] = some (.int 12)) :
    colConvert P .int (.str ['1', '2'] false) = .int 12 false := by
  simp only [colConvert, convert, PyVal.isRaised, doConvert, doInt, isEmptyOrNone, pyFloat, hf, F.toInt, isShort, two31]
  rfl

/-- instance: the text "12" in a column changed to Int becomes 12 (given float("12") = 12.0) -/
example (P : Prim) (hf : P.floatOfStr ['1', '2'] = some (.int 12)) :
    modifyCell P .int (.str ['1', '2'] false) = .ok (.int 12 false) := by
  rw [modifyCell, colConvert_int_12 P hf]
  rfl
example (P : Prim) (hf : P.floatOfStr ['1', '2'] = some (.int 12)) :
    NoHiddenCoercion P .int (.str ['1', '2'] false) := by
  intro h
  rw [colConvert_int_12 P hf] at h
  cases h

def metaZ : Meta := ⟨none, none, []⟩
def PW : Prim := ⟨fun _ => none, fun _ => none, fun _ => [], fun _ => [],
    fun s => if s = "[2147483648]".toList then some (.list metaZ [.int 2147483648 false]) else none,
    fun _ => none, fun _ => none, fun _ => none, fun _ _ => .error [], fun _ => .error [], fun _ => .none,
    fun _ => .error [],
    fun _ => ⟨some "[2147483648]".toList, some "[2147483648]".toList, "list".toList⟩,
    fun _ => metaZ, fun _ _ => metaZ, fun _ _ => metaZ, fun _ _ _ _ => metaZ⟩

-- FULL STATEMENT (unproved, false of the code as it is):
--   `modify_type_cells` without `hn`:  modifyCell P τ' old = .ok c →
--     ∃ c', colSet P τ' (colConvert P τ' old) = .ok c' ∧ encode P c = encode P c'
/-- **Without `NoHiddenCoercion` the statement is false**: the list cell `[True, 2]` changed to
    `RefList:T` converts to `[1, 2]`, which is `==` to the old value, so doModifyColumn leaves the
    unconverted list in place.  (Replayed on the real engine by harness/gx/props/c23.py.) -/
theorem modify_type_cells_false :
    ¬ (∀ (P : Prim) (τ' : ColType) (old c : PyVal), modifyCell P τ' old = .ok c →
        ∃ c', colSet P τ' (colConvert P τ' old) = .ok c' ∧ encode P c = encode P c') := by
  intro h
  obtain ⟨c', h1, h2⟩ := h PW (.refList ['T']) (.list metaZ [.bool true, .int 2 false])
    (.list metaZ [.bool true, .int 2 false]) rfl
  have : c' = .list (PW.listMeta [.int 1 false, .int 2 false]) [.int 1 false, .int 2 false] := by
    have h3 : colSet PW (.refList ['T']) (colConvert PW (.refList ['T']) (.list metaZ [.bool true, .int 2 false]))
        = .ok (.list (PW.listMeta [.int 1 false, .int 2 false]) [.int 1 false, .int 2 false]) := rfl
    rw [h3] at h1
    injection h1 with h1
    exact h1.symm
  subst this
  cases h2

theorem noHiddenCoercion_scalar (P : Prim) (τ' : ColType) (old : PyVal)
    (hτ : τ' = .text ∨ τ' = .choice ∨ τ' = .bool ∨ τ' = .int) : NoHiddenCoercion P τ' old := by
  obtain ⟨hst, hconv, hrep⟩ : scalarTarget τ' = true ∧ colConvert P τ' old = convert P τ' old ∧
      reparses τ' = false := by
    rcases hτ with rfl | rfl | rfl | rfl <;> exact ⟨rfl, rfl, rfl⟩
  intro hse
  rw [hconv] at hse ⊢
  cases hr : old.isRaised
  · have hsh := convert_shapeOK P τ' old hr (fun h => by rw [hrep] at h; cases h)
    generalize convert P τ' old = c at hse hsh ⊢
    obtain ⟨hp, hf⟩ := shapeOK_scalar τ' c hst hsh
    obtain rfl := strictEq_plain old c hp hf hse
    exact exactEq_plain _ hp
  · -- an error object is not strict_equal to anything
    rw [convert_raised P τ' old hr] at hse
    cases old
    case raised => cases hse
    all_goals cases hr

/-- **C23 for the target types Text, Choice, Bool, Int: no exclusion.** -/
theorem modify_type_cells_scalar (P : Prim) (τ' : ColType) (old c : PyVal)
    (hτ : τ' = .text ∨ τ' = .choice ∨ τ' = .bool ∨ τ' = .int)
    (h : modifyCell P τ' old = .ok c) :
    ∃ c', colSet P τ' (colConvert P τ' old) = .ok c' ∧ encode P c = encode P c' :=
  modify_type_cells P τ' old c h (noHiddenCoercion_scalar P τ' old hτ)

/-- **C23 (the new cell is well-typed).**  When doModifyColumn re-sets the cell (`hne`), the cell is
    the converted value itself, unless that is a text in a ChoiceList / RefList column (`hstr`). -/
theorem modify_type_range_partial (P : Prim) (τ' : ColType) (old c : PyVal)
    (hτ : τ' ≠ .blob) (hs : RowIdsShort old)
    (hne : strictEq old (colConvert P τ' old) = false)
    (hstr : reparses τ' = true → (colConvert P τ' old).isStr = false)
    (h : modifyCell P τ' old = .ok c) :
    c = colConvert P τ' old ∧
    (isRightType τ' c = true ∨ c.isRaised = true ∨ c.isStr = true) := by
  have hst := colConvert_stored P τ' old (fun _ => hs)
  rcases modifyCell_ok P τ' old c h with ⟨he, _⟩ | ⟨_, hc⟩
  · rw [hne] at he
    cases he
  · rw [colSet_stored P τ' _ hst hstr] at hc
    cases hc
    exact ⟨rfl, stored_range τ' _ hτ hst⟩

/-- instance: a date text in a column changed to Date (given the ISO parser's answer) -/
example (P : Prim) (s : Str) (hs : s.isEmpty = false) (hp : P.isoDate s = some (.int 1577836800)) :
    modifyCell P .date (.str s false) = .ok (.float (.int 1577836800) false) := by
  have hc : colConvert P .date (.str s false) = .float (.int 1577836800) false := by
    simp only [colConvert, convert, PyVal.isRaised, doConvert, doDate, isEmptyOrNone, hs, hp]
    rfl
  rw [modifyCell, hc]
  rfl

-- FULL STATEMENT (unproved, false of the code as it is):
--   the same without the hypothesis `hstr`
/-- **Without `hstr` the statement is false**: the int 2147483648 (in an Any column) changed to
    `RefList:T`: `[2147483648]` fails to convert (not a 32-bit id), the alt-text is the string
    "[2147483648]", and ReferenceListColumn.set parses that string again into the list
    [2147483648], which is neither the conversion nor a valid RefList value. -/
theorem modify_type_range_false :
    ¬ (∀ (P : Prim) (τ' : ColType) (old c : PyVal), τ' ≠ .blob → RowIdsShort old →
        strictEq old (colConvert P τ' old) = false → modifyCell P τ' old = .ok c →
        c = colConvert P τ' old ∧ (isRightType τ' c = true ∨ c.isRaised = true ∨ c.isStr = true)) := by
  intro h
  have h1 := h PW (.refList ['T']) (.int 2147483648 false) (.list metaZ [.int 2147483648 false])
    (by decide) (by intro m xs tid ids hv; cases hv) rfl rfl
  have h2 := h1.2
  revert h2
  decide

/-- **A change to Numeric is aborted by an int beyond the float range** (`float(int)` raises
    OverflowError inside NumericColumn.set while docactions.ModifyColumn copies the raw values). -/
theorem modify_type_aborts (P : Prim) (n : Int) (hbig : (decide (-two53 ≤ n) && decide (n ≤ two53)) = false)
    (hov : P.floatOfBig n = none) :
    modifyCell P .numeric (.int n false) = .error "OverflowError".toList := by
  have hset : colSet P .numeric (.int n false) = .error "OverflowError".toList := by
    show (match floatOfInt P n with | .ok f => Except.ok (PyVal.float f false) | .error e => .error e) = _
    rw [floatOfInt, hbig, hov]
    rfl
  rw [modifyCell, hset]

structure Column where
  id : Str
  cells : List PyVal

def modifyCells (P : Prim) (τ' : ColType) : List PyVal → Except Str (List PyVal)
  | [] => .ok []
  | x :: xs => match modifyCell P τ' x, modifyCells P τ' xs with
    | .ok c, .ok cs => .ok (c :: cs)
    | .error e, _ => .error e
    | _, .error e => .error e

/-- the data effect of the actions a type change emits (ModifyColumn for column `c`, then a
    BulkUpdateRecord that names only column `c`): every column but `c` keeps its cells -/
def modifyTable (P : Prim) (τ' : ColType) (c : Str) : List Column → Except Str (List Column)
  | [] => .ok []
  | col :: rest =>
    match (if col.id = c then (match modifyCells P τ' col.cells with
                               | .ok cs => Except.ok (Column.mk col.id cs) | .error e => .error e)
           else .ok col), modifyTable P τ' c rest with
    | .ok col', .ok rest' => .ok (col' :: rest')
    | .error e, _ => .error e
    | _, .error e => .error e

/-- **C23 (frame).**  Same columns in the same order; every other column keeps its cells. -/
theorem modify_type_frame (P : Prim) (τ' : ColType) (c : Str) :
    ∀ (tbl tbl' : List Column), modifyTable P τ' c tbl = .ok tbl' →
      tbl'.map (·.id) = tbl.map (·.id) ∧
      ∀ col ∈ tbl, col.id ≠ c → col ∈ tbl' := by
  intro tbl
  induction tbl with
  | nil =>
    intro tbl' h
    cases h
    exact ⟨rfl, fun _ hx => nomatch hx⟩
  | cons col rest ih =>
    intro tbl' h
    simp only [modifyTable] at h
    split at h
    next col' rest' h1 h2 =>
      cases h
      obtain ⟨hid, hmem⟩ := ih rest' h2
      have hcol : col'.id = col.id ∧ (col.id ≠ c → col' = col) := by
        by_cases hcid : col.id = c
        · rw [if_pos hcid] at h1
          split at h1
          · cases h1
            exact ⟨rfl, fun hne => absurd hcid hne⟩
          · cases h1
        · rw [if_neg hcid] at h1
          cases h1
          exact ⟨rfl, fun _ => rfl⟩
      refine ⟨by rw [List.map_cons, List.map_cons, hid, hcol.1], ?_⟩
      intro x hx hne
      rcases List.mem_cons.mp hx with rfl | hx
      · rw [hcol.2 hne]
        exact List.mem_cons_self
      · exact List.mem_cons_of_mem _ (hmem x hx hne)
    next => cases h
    next => cases h

theorem modify_type_column (P : Prim) (τ' : ColType) (c : Str) (col : Column) (rest rest' : List Column)
    (col' : Column) (hc : col.id = c) (h : modifyTable P τ' c (col :: rest) = .ok (col' :: rest')) :
    modifyCells P τ' col.cells = .ok col'.cells := by
  simp only [modifyTable, hc, if_true] at h
  split at h
  next c1 r1 h1 h2 =>
    cases h
    cases hm : modifyCells P τ' col.cells with
    | ok cs =>
      rw [hm] at h1
      cases h1
      rfl
    | error e =>
      rw [hm] at h1
      cases h1
  next => cases h
  next => cases h

example (P : Prim) : modifyTable P .text ['A']
    [⟨['A'], [.int 5 false, .none]⟩, ⟨['B'], [.float (.int 2) false, .bool true]⟩] =
    .ok [⟨['A'], [.str ['5'] false, .none]⟩, ⟨['B'], [.float (.int 2) false, .bool true]⟩] := by
  rfl

end Grist.PyVal
