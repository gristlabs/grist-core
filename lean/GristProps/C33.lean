/-
C33  JSON import reconstructs the input.
Model: GristModel/JsonImport.lean (imports/import_json.py).  The notions the statements are written
in (`elemsSpec`, `StoredRow`, `cellsOf`, ...) are defined at the head of JsonImportSpec.lean.

All statements are about `build o name data` (the importer's rows after `for val in data:
tables.add_row(name, val)`) and `dumps o name data` (the emitted tables), for EVERY document `data`,
table name `name` and include/exclude options `o` unless a hypothesis says otherwise.  `norm data`
is the document as Python holds it: repeated keys resolved (last wins), members in sorted key order.
-/
import GristProofs.JsonImportSpec
namespace Grist.JsonImport

/-- **C33 (one value per row), one table.**  Every dumped column, value or back-reference, has one
    entry per row, and the table keeps its name. -/
theorem columns_equal_length (name : String) (rows : List Row) (t : DTable)
    (h : dumpTable name rows = .ok t) :
    t.name = name ∧ ∀ c ∈ t.cols, c.data.length = rows.length := by
  rcases dumpTable_ok h with ⟨_, rfl⟩ | ⟨q, colId, _, rfl⟩
  · exact ⟨rfl, transpose_lengths rows⟩
  · refine ⟨rfl, fun c hc => ?_⟩
    rcases List.mem_append.mp hc with hc | hc
    · exact transpose_lengths rows c hc
    · rw [List.mem_singleton.mp hc]
      exact List.length_map _

/-- **C33 (one value per row), whole import.**  Each column of each produced table has one value
    for every row the importer made in that table. -/
theorem dumps_columns_equal_length (o : Opts) (name : String) (data : J) (ts : List DTable)
    (h : dumps o name data = .ok ts) :
    ∀ t ∈ ts, ∀ c ∈ t.cols, c.data.length = (rowsOf (build o name data) t.name).length := by
  intro t ht c hc
  obtain ⟨n, rows, hmem, hd⟩ := dumpAll_tables _ ts h t ht
  obtain ⟨hname, hlen⟩ := columns_equal_length n rows t hd
  rw [hname, rowsOf_of_mem (build_uniq o name data) n rows hmem]
  exact hlen c hc

/-- **C33 (tables).**  The produced tables have pairwise different names (they are the distinct
    '_'-joined key paths that received a row, in order of first use). -/
theorem table_names_distinct (o : Opts) (name : String) (data : J) (ts : List DTable)
    (h : dumps o name data = .ok ts) : (ts.map (·.name)).Nodup := by
  rw [dumpAll_names _ ts h]
  exact build_uniq o name data

example : (dumps defaultOpts "t" (.arr [.obj [("a", .sc (.num "1")), ("b", .arr [.sc .null, .sc (.str "x")])],
                                       .obj [("a", .obj [])]])).toOption =
    some [⟨"t", [⟨"a", "Numeric", [.val (.num "1"), .id 1]⟩]⟩,
         ⟨"t_b", [⟨"", "Text", [.none, .val (.str "x")]⟩, ⟨"t", "Ref:t", [.id 1, .id 1]⟩]⟩,
         ⟨"t_a", []⟩] := by decide +kernel

/-- **C33 (row ids).**  In every table the i-th row carries the reference (table, i), so the row
    ids written into cells and back-reference columns are positions in the dumped columns. -/
theorem ids_consecutive (o : Opts) (name : String) (data : J) (T : String) (i : Nat) (row : Row)
    (h : (rowsOf (build o name data) T)[i]? = some row) : row.ref = ⟨T, i + 1⟩ :=
  add_idsConsecutive.2.1 _ o [] name none IdsConsecutive.nil T i row h

/-- **C33 (the tables hold the input).**  The top-level items have rows in the main table, in
    increasing row order and without back-reference, each holding its item in the sense of
    `StoredRow`, recursively and subject to the options. -/
theorem import_stores_input (o : Opts) (name : String) (data : J) :
    StoredElems o (build o name data) name none 0 (topItems (norm data)) :=
  add_stored.2.1 _ o [] name none 0 _ (Nat.zero_le _) (Grows.refl _)

/-- **C33 (every scalar exactly once at its place).**  The scalar cells of table `T`, row by row,
    are the kept scalars of the values whose path is `T`, in document order (`elemsSpec`, computed
    from the input alone): none lost, duplicated or moved, and no other scalar cell exists. -/
theorem scalars_once (o : Opts) (name : String) (data : J) (T : String) :
    (rowsOf (build o name data) T).map rowScalars = elemsSpec o T name (topItems (norm data)) :=
  add_placed.2.1 (topItems (norm data)) o [] name none T

/-- **C33 (nested objects).**  A nested object under key `k` whose path is kept has a row `n` of
    its own in `table_k`, without back-reference, and the parent row has the cell
    `(k, Ref(table_k, n))`. -/
theorem nested_ref (o : Opts) (st : St) (table : String) (r : Ref) :
    ∀ (kvs : List (String × J)) (vals : List (String × Cell)),
      StoredItems o st table (some r) vals kvs →
      ∀ k kv', (k, J.obj kv') ∈ kvs → isIncluded o (sub table k) = true →
      ∃ n, (k, Cell.ref ⟨sub table k, n⟩) ∈ vals ∧
        StoredRow o st (sub table k) none (some ⟨sub table k, n⟩) (.obj kv') := by
  intro kvs vals h k kv' hm hinc
  obtain ⟨child, hok, hst, hsub⟩ := storedItems_mem o st table (some r) kvs vals h k _ hm
  obtain ⟨n, rfl⟩ := hok.eq_some hinc
  exact ⟨n, hsub (List.mem_singleton.mpr rfl), hst⟩

/-- **C33 (array members).** -/
theorem array_member_elems (o : Opts) (st : St) (table : String) (me : Option Ref) :
    ∀ (kvs : List (String × J)) (vals : List (String × Cell)),
      StoredItems o st table me vals kvs →
      ∀ k xs, (k, J.arr xs) ∈ kvs → StoredElems o st (sub table k) me 0 xs :=
  fun kvs vals h k _ hm => storedItems_mem o st table me kvs vals h k _ hm

/-- **C33 (array elements).**  On a kept path every stored element has a row of its own whose
    back-reference is exactly `parent`. -/
theorem array_parent_ref (o : Opts) (st : St) (table : String) (parent : Option Ref)
    (hinc : isIncluded o table = true) :
    ∀ (xs : List J) (lo : Nat), StoredElems o st table parent lo xs →
      ∀ x ∈ xs, ∃ n row, lo < n ∧ getRow st ⟨table, n⟩ = some row ∧ row.parent = parent ∧
        row.ref = ⟨table, n⟩ ∧ StoredRow o st table parent (some ⟨table, n⟩) x
  | [], _, _, _, hx => nomatch hx
  | y :: ys, lo, h, x, hx => by
    simp only [StoredElems] at h
    obtain ⟨child, hok, habove, hst, hrest⟩ := h
    obtain ⟨n, rfl⟩ := hok.eq_some hinc
    have hlo : lo < n := habove _ rfl
    rcases List.mem_cons.mp hx with rfl | hx'
    · obtain ⟨row, h1, h2, h3⟩ := storedRow_row o st table parent _ x hst
      exact ⟨n, row, hlo, h1, h2, h3, hst⟩
    · obtain ⟨m, row, h0, h1⟩ := array_parent_ref o st table parent hinc ys _ hrest x hx'
      exact ⟨m, row, Nat.lt_trans hlo h0, h1⟩

/-- **C33 (items become rows, exactly).**  A list of values at path `table` appends to that table
    one row per value if the path is kept, none otherwise, each with the given back-reference. -/
theorem addElems_rows_self (o : Opts) (table : String) (parent : Option Ref) :
    ∀ (xs : List J) (st : St), ∃ news,
      rowsOf (addElems o st table parent xs) table = rowsOf st table ++ news ∧
      news.length = (if isIncluded o table = true then xs.length else 0) ∧
      ∀ r ∈ news, r.parent = parent
  | [], st => ⟨[], by simp only [addElems, List.append_nil], by split <;> rfl, fun _ h => nomatch h⟩
  | x :: xs, st => by
    simp only [addElems]
    obtain ⟨n1, h1, l1, p1⟩ := addRow_rows_self o st table parent x
    obtain ⟨news, h2, h3, h4⟩ := addElems_rows_self o table parent xs (addRow o st table parent x).1
    refine ⟨n1 ++ news, by rw [h2, h1, List.append_assoc], ?_,
      fun r hr => (List.mem_append.mp hr).elim (p1 r) (h4 r)⟩
    rw [List.length_append, l1, h3, List.length_cons]
    split <;> omega

/-- **C33 (top-level items become the rows of the main table).** -/
theorem main_table_rows (o : Opts) (name : String) (data : J) :
    (rowsOf (build o name data) name).length =
        (if isIncluded o name = true then (topItems (norm data)).length else 0) ∧
    ∀ r ∈ rowsOf (build o name data) name, r.parent = none := by
  obtain ⟨news, h1, h2, h3⟩ := addElems_rows_self o name none (topItems (norm data)) []
  unfold build
  rw [h1, rowsOf_nil, List.nil_append]
  exact ⟨h2, h3⟩

/-- **C33 (cells become column entries).**  Every key of a row has a column that lists, row by
    row, the cell for the key (a reference as its row id, nothing as None). -/
theorem dump_value_columns (name : String) (rows : List Row) (t : DTable)
    (h : dumpTable name rows = .ok t) (k : String) (hk : ∃ r ∈ rows, k ∈ r.values.map (·.1)) :
    ∃ c ∈ t.cols, c.id = k ∧ c.data = rows.map (fun r => dumpCell (r.values.lookup k)) := by
  have hmem : k ∈ keyOrder rows := (mem_keyOrder rows k).mpr hk
  have hc : ∃ c ∈ transpose rows, c.id = k ∧ c.data = rows.map (fun r => dumpCell (r.values.lookup k)) := by
    simp only [transpose, List.mem_map]
    exact ⟨_, ⟨k, hmem, rfl⟩, rfl, rfl⟩
  obtain ⟨c, hc1, hc2⟩ := hc
  rcases dumpTable_ok h with ⟨_, rfl⟩ | ⟨q, colId, _, rfl⟩
  · exact ⟨c, hc1, hc2⟩
  · exact ⟨c, List.mem_append_left _ hc1, hc2⟩

/-- **C33 (all scalars, whole import, any options).**  The multiset of scalar cells of all rows of
    all tables is the multiset of the kept scalars of the document. -/
theorem cells_are_kept_scalars (o : Opts) (name : String) (data : J) :
    (cellsOf (build o name data)).Perm (keptElems o name (topItems (norm data))) :=
  add_cells.2.1 (topItems (norm data)) o [] name none Uniq.nil

/-- **C33 (all scalars, default options).**  Without includes/excludes the cells of all tables
    hold, as a multiset, exactly the scalars of the document. -/
theorem cells_are_input_scalars (name : String) (data : J) :
    ((cellsOf (build defaultOpts name data)).map (·.2)).Perm (allScalarsL (topItems (norm data))) :=
  ((cells_are_kept_scalars defaultOpts name data).map _).trans (kept_default.2.1 _ name)

/-! ### where the dump is weaker than the rows: the two findings -/

/-- **C33 (back-reference column), partial.**  If some row of a table has a back-reference, the
    dump ends with a back-reference column typed `Ref:<table of the first parent>` that lists, row
    by row, the parent's row id; so whenever all parents of the table's rows live in one table
    (`sameParentTable`), the column identifies every row's parent exactly. -/
theorem backref_column_partial (name : String) (rows : List Row) (t : DTable) (q : Ref)
    (hq : rows.findSome? (·.parent) = some q) (h : dumpTable name rows = .ok t) :
    (∃ c, t.cols.getLast? = some c ∧ c.type = "Ref:" ++ q.table ∧
      c.data = rows.map (fun r => match r.parent with
        | some p => DVal.id p.rowid
        | none => DVal.none)) ∧
    (sameParentTable rows = true → ∀ r ∈ rows, ∀ p, r.parent = some p → p.table = q.table) := by
  constructor
  · rcases dumpTable_ok h with ⟨hn, _⟩ | ⟨q', colId, hq', rfl⟩
    · rw [hq] at hn
      cases hn
    · cases hq.symm.trans hq'
      exact ⟨_, List.getLast?_concat .., rfl, rfl⟩
  · intro hs r hr p hp
    obtain ⟨r0, hr0, hq0⟩ := List.exists_of_findSome?_eq_some hq
    simp only [sameParentTable, List.all_eq_true] at hs
    have := hs r hr r0 hr0
    rw [hp, hq0] at this
    exact beq_iff_eq.mp this

/- FULL STATEMENT (unproved, false): for every document, all back-references of the rows of a
   table point into one table, so that the single back-reference column (typed by the first
   parent) is right for every row:
     ∀ o name data T, sameParentTable (rowsOf (build o name data) T) = true
   Counter-example (a finding, replayed on the real code by harness/gx/props/c33.py):
     {"b": {"c": [1]}, "b_c": [2]}   -- both arrays land in table t_b_c, parents in t_b and in t -/
def collisionWitness : J :=
  .obj [("b", .obj [("c", .arr [.sc (.num "1")])]), ("b_c", .arr [.sc (.num "2")])]

example : ¬ (∀ o name data T, sameParentTable (rowsOf (build o name data) T) = true) := fun h =>
  absurd (h defaultOpts "t" collisionWitness "t_b_c") (by decide +kernel)

-- what the importer emits for it: element 2 claims row 1 of t_b as parent, its parent is row 1 of t
example : (dumps defaultOpts "t" collisionWitness).toOption =
    some [⟨"t", [⟨"b", "Ref:t_b", [.id 1]⟩]⟩,
          ⟨"t_b", []⟩,
          ⟨"t_b_c", [⟨"", "Numeric", [.val (.num "1"), .val (.num "2")]⟩,
                     ⟨"t_b", "Ref:t_b", [.id 1, .id 1]⟩]⟩] := by decide +kernel

/-- **C33 (rows are visible), partial.**  If some row of a table holds a cell or has a
    back-reference, the dumped table has at least one column (and so, by
    `columns_equal_length`, shows every row). -/
theorem dump_shows_rows_partial (name : String) (rows : List Row) (t : DTable)
    (h : dumpTable name rows = .ok t) (hr : ∃ r ∈ rows, r.values ≠ [] ∨ r.parent ≠ none) :
    t.cols ≠ [] := by
  obtain ⟨r, hr, hor⟩ := hr
  rcases hor with hv | hp
  · obtain ⟨k, c, hkc⟩ : ∃ k c, (k, c) ∈ r.values := by
      cases hvs : r.values with
      | nil => exact absurd hvs hv
      | cons p ps => exact ⟨p.1, p.2, List.mem_cons_self⟩
    obtain ⟨col, hcol, _⟩ := dump_value_columns name rows t h k
      ⟨r, hr, List.mem_map.mpr ⟨(k, c), hkc, rfl⟩⟩
    exact List.ne_nil_of_mem hcol
  · cases hq : rows.findSome? (·.parent) with
    | none => exact absurd (List.findSome?_eq_none_iff.mp hq r hr) hp
    | some q =>
      obtain ⟨⟨c, hc, _⟩, _⟩ := backref_column_partial name rows t q hq h
      intro he
      rw [he] at hc
      cases hc

/- FULL STATEMENT (unproved, false): every table that has rows shows them, i.e. is dumped with at
   least one column:
     ∀ o name data T t, rowsOf (build o name data) T ≠ [] →
       (dumpTable T (rowsOf (build o name data) T)).toOption = some t → t.cols ≠ []
   Counter-example (a finding, replayed on the real code): {"a": {}} -- the row of t_a holds no
   cell, t_a is dumped without columns, yet t.a = 1 refers to its row 1. -/
def columnlessWitness : J := .obj [("a", .obj [])]

example : ¬ (∀ o name data T t, rowsOf (build o name data) T ≠ [] →
    (dumpTable T (rowsOf (build o name data) T)).toOption = some t → t.cols ≠ []) := fun h =>
  h defaultOpts "t" columnlessWitness "t_a" ⟨"t_a", []⟩ (by decide +kernel) (by decide +kernel) rfl

example : (dumps defaultOpts "t" columnlessWitness).toOption =
    some [⟨"t", [⟨"a", "Ref:t_a", [.id 1]⟩]⟩, ⟨"t_a", []⟩] := by decide +kernel

-- the same for an array of arrays at top level: the main table has rows but no columns
example : (dumps defaultOpts "t" (.arr [.arr [.sc (.num "1")]])).toOption =
    some [⟨"t", []⟩, ⟨"t_", [⟨"", "Numeric", [.val (.num "1")]⟩, ⟨"t", "Ref:t", [.id 1]⟩]⟩] := by
  decide +kernel

/-! ### Non-vacuity: a document with a nested object, arrays, a null, and options -/

def sampleDoc : J :=
  .arr [.obj [("name", .sc (.str "ann")), ("tags", .arr [.sc (.str "x"), .sc .null]),
              ("addr", .obj [("zip", .sc (.num "12")), ("geo", .arr [.arr [.sc (.num "1.5")]])])],
        .obj [("tags", .arr []), ("name", .sc (.str "bob")), ("name", .sc (.str "bobby"))]]

-- rows of the main table: one per item, keys sorted, the repeated key keeps its last value
example : (rowsOf (build defaultOpts "t" sampleDoc) "t").map (·.values) =
    [[("addr", .ref ⟨"t_addr", 1⟩), ("name", .val (.str "ann"))], [("name", .val (.str "bobby"))]] := by
  decide +kernel
-- `scalars_once` for the array sub-table, computed from the input alone
example : elemsSpec defaultOpts "t_tags" "t" (topItems (norm sampleDoc)) =
    [[("", .str "x")], [("", .null)]] := by decide +kernel
-- `ids_consecutive` / `array_parent_ref`: second element of `tags` is row 2 and points back to t row 1
example : (rowsOf (build defaultOpts "t" sampleDoc) "t_tags")[1]? =
    some ⟨[("", .val .null)], some ⟨"t", 1⟩, ⟨"t_tags", 2⟩⟩ := by decide +kernel
-- nested arrays: the inner array's element points to the row of the outer array's element
example : (rowsOf (build defaultOpts "t" sampleDoc) "t_addr_geo_").map (fun r => (r.values, r.parent)) =
    [([("", .val (.num "1.5"))], some ⟨"t_addr_geo", 1⟩)] := by decide +kernel
-- `cells_are_input_scalars`: six scalars in (after the repeated key is resolved), six cells out
example : ((cellsOf (build defaultOpts "t" sampleDoc)).map (·.2)).length = 6
    ∧ (allScalarsL (topItems (norm sampleDoc))).length = 6 := by decide +kernel
-- with options: excluding the prefix `t_addr` drops the nested object, its link and its sub-tables
example : (build (parseOpts "" ";t_addr;") "t" sampleDoc).map (·.1) = ["t", "t_tags"]
    ∧ (rowsOf (build (parseOpts "" ";t_addr;") "t" sampleDoc) "t").map (·.values) =
        [[("name", .val (.str "ann"))], [("name", .val (.str "bobby"))]] := by decide +kernel
-- including only a sub-table keeps its rows, without back-references (their parents are filtered)
example : (build (parseOpts "t_tags" "") "t" sampleDoc) =
    [("t_tags", [⟨[("", .val (.str "x"))], none, ⟨"t_tags", 1⟩⟩, ⟨[("", .val .null)], none, ⟨"t_tags", 2⟩⟩])] := by
  decide +kernel

end Grist.JsonImport
