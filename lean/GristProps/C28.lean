/-
C28  Upserts follow their specification.
Model: GristModel/Upsert.lean (`upsertImpl` = BulkAddOrUpdateRecord as written: argument checks,
accumulate over the input rows, then one BulkAddRecord and one trimmed BulkUpdateRecord;
`upsertSpec` = the documented reference: argument checks, then every input row in turn applied at
once); at the end, `upsertImplConv` (empty columns converted by the bulk actions) against
`upsertImpl`.  Defines `Invalid`, `addOrUpdateSpec` and `SameSingle` next to their statements.

Hypotheses used below and what they mean for the real engine:
  `hnext : ∀ r ∈ tids t0, r < next`   `table.next_row_id()` is above every existing row id
  `hids  : (tids t0).Nodup`            row ids are distinct
-/
import GristProofs.Upsert
namespace Grist.Upsert

variable {κ α : Type} [DecidableEq κ] [DecidableEq α]

/-! ### concrete inputs used by the `example`s (columns and values are numbers here) -/
namespace Ex
/-- columns: 0 = key column, 1 = value column, 2 = a formula column. -/
def sch : Schema Nat := [(0, .data), (1, .data), (2, .formula)]
def dflt : Rec Nat Nat := [(0, 0), (1, 0)]
/-- three records, two of them with key 7. -/
def t0 : Table Nat Nat := [(1, [(0, 7), (1, 10), (2, 14)]), (2, [(0, 7), (1, 11), (2, 14)]), (4, [(0, 8), (1, 12), (2, 16)])]
/-- three input rows: key 7 (two matches), key 8 (one match), key 9 (no match). -/
def rq : Request Nat Nat :=
  { require := [(0, [⟨7, 7, 7⟩, ⟨8, 8, 8⟩, ⟨9, 9, 9⟩])], colValues := [(1, [20, 21, 22])] }
end Ex

/-- **C28 (impl = spec, partial).**  If no record is named twice by the accumulated
    `BulkUpdateRecord` (`updTargets` = the flattened `updateRecordIds`, see `upsert_frame`), the two
    bulk actions give what the documented row-by-row reference gives: the same error, or the same
    returned ids, row ids and cells. -/
theorem upsert_impl_eq_spec_partial (sch : Schema κ) (t0 : Table κ α) (next : Nat) (dflt : Rec κ α)
    (rq : Request κ α) (opt : Options) (hnext : ∀ r ∈ tids t0, r < next)
    (hnd : (updTargets sch t0 rq opt).Nodup) :
    SameOutcome (upsertImpl sch t0 next dflt rq opt) (upsertSpec sch t0 next dflt rq opt) :=
  impl_same_spec sch t0 next dflt rq opt hnext hnd

example : (updTargets Ex.sch Ex.t0 Ex.rq { onMany := .all }) = [1, 2, 4] := by decide +kernel
example : (upsertImpl Ex.sch Ex.t0 5 Ex.dflt Ex.rq { onMany := .all }).toOption.map (·.2)
    = some ⟨[[1, 2], [4], [5]], [5], [[1, 2], [4]]⟩ := by decide +kernel

/-- **C28 (impl = spec for distinct keys).**  The hypothesis of the partial theorem holds whenever
    row ids are distinct and no two input rows have the same `require` key after type conversion -
    in particular for every request with a single input row. -/
theorem upsert_impl_eq_spec_distinct_keys (sch : Schema κ) (t0 : Table κ α) (next : Nat)
    (dflt : Rec κ α) (rq : Request κ α) (opt : Options) (hnext : ∀ r ∈ tids t0, r < next)
    (hids : (tids t0).Nodup)
    (hkeys : ∀ n, validate sch rq opt = .ok (some n) →
      ∀ i j, i < n → j < n → i ≠ j → convKey rq i ≠ convKey rq j) :
    SameOutcome (upsertImpl sch t0 next dflt rq opt) (upsertSpec sch t0 next dflt rq opt) :=
  impl_same_spec sch t0 next dflt rq opt hnext (updTargets_nodup sch t0 rq opt hids hkeys)

example : validate Ex.sch Ex.rq {} = .ok (some 3) ∧
    ∀ i, i < 3 → ∀ j, j < 3 → i ≠ j → convKey Ex.rq i ≠ convKey Ex.rq j := by decide +kernel

/-
-- FULL STATEMENT (unproved, FALSE of the code as it is): the same without `hnd`:
--   ∀ sch t0 next dflt rq opt, (∀ r ∈ tids t0, r < next) →
--     SameOutcome (upsertImpl sch t0 next dflt rq opt) (upsertSpec sch t0 next dflt rq opt)
-- Counterexample below (replayed on the real engine by harness/gx/props/c28.py, WITNESSES[0]):
-- one record with value 7; empty `require` with allow_empty_require; two input rows giving the
-- values 5 and 7.  Both rows name record 1; `trim_update_action` compares BOTH pairs with the table
-- before the action and drops the second one (7 = 7), so the record keeps 5; row by row it gets 7.
-/
namespace W1
def sch : Schema Nat := [(0, .data)]
def t0 : Table Nat Nat := [(1, [(0, 7)])]
def rq : Request Nat Nat := { require := [], colValues := [(0, [5, 7])] }
def opt : Options := { allowEmptyRequire := true }
end W1

theorem impl_eq_spec_full_false :
    ¬ (∀ (sch : Schema Nat) (t0 : Table Nat Nat) (next : Nat) (dflt : Rec Nat Nat)
         (rq : Request Nat Nat) (opt : Options), (∀ r ∈ tids t0, r < next) →
         SameOutcome (upsertImpl sch t0 next dflt rq opt) (upsertSpec sch t0 next dflt rq opt)) := by
  intro h
  have h1 := h W1.sch W1.t0 2 [(0, 0)] W1.rq W1.opt (by decide +kernel)
  have hi : upsertImpl W1.sch W1.t0 2 [(0, 0)] W1.rq W1.opt
      = .ok ([(1, [(0, 5)])], ⟨[[1], [1]], [], [[1], [1]]⟩) := by decide +kernel
  have hs : upsertSpec W1.sch W1.t0 2 [(0, 0)] W1.rq W1.opt
      = .ok ([(1, [(0, 7)])], ⟨[[1], [1]], [], [[1], [1]]⟩) := by decide +kernel
  rw [hi, hs] at h1
  have h2 := h1.2.2 1 0
  revert h2
  decide +kernel

/-- The invalid-argument classes of the property text, on the request as the code sees it. -/
inductive Invalid (rq : Request κ α) (opt : Options) : Prop
  /-- `on_many` is not "first" / "none" / "all" -/
  | badOnMany : opt.onMany = .bad → Invalid rq opt
  /-- empty `require` without `allow_empty_require` -/
  | emptyRequire : rq.require = [] → opt.allowEmptyRequire = false → Invalid rq opt
  /-- two value lists (of `require` or `col_values`) of different lengths -/
  | lengths : (∃ a ∈ lens rq, ∃ b ∈ lens rq, a ≠ b) → Invalid rq opt
  /-- two input rows with the same `require` values (as sent) -/
  | duplicateKeys (n : Nat) : rq.require ≠ [] → (∀ x ∈ lens rq, x = n) → ¬ (rawKeys rq n).Nodup →
      Invalid rq opt

/-- **C28 (validation).**  Every invalid argument class is rejected by the argument checks at the
    top of the action, before the loop and the two bulk actions, with one of the four `ValueError`s,
    by the implementation and by the reference alike. -/
theorem upsert_validation (sch : Schema κ) (t0 : Table κ α) (next : Nat) (dflt : Rec κ α)
    (rq : Request κ α) (opt : Options) (hinv : Invalid rq opt) :
    ∃ e, validate sch rq opt = .error e ∧
      (e = .badOnMany ∨ e = .emptyRequire ∨ e = .lengths ∨ e = .notUnique) ∧
      upsertImpl sch t0 next dflt rq opt = .error e ∧ upsertSpec sch t0 next dflt rq opt = .error e := by
  have key : ∃ e, validate sch rq opt = .error e ∧
      (e = .badOnMany ∨ e = .emptyRequire ∨ e = .lengths ∨ e = .notUnique) := by
    by_cases h0 : opt.onMany = .bad
    · exact ⟨_, validate_bad_on_many sch rq opt h0, Or.inl rfl⟩
    by_cases h1 : rq.require = [] ∧ opt.allowEmptyRequire = false
    · exact ⟨_, validate_empty_require sch rq opt h0 h1.1 h1.2, Or.inr (Or.inl rfl)⟩
    have h1' : rq.require ≠ [] ∨ opt.allowEmptyRequire = true :=
      (Decidable.not_and_iff_not_or_not.mp h1).imp_right (Bool.not_eq_false _).mp
    cases hinv with
    | badOnMany h => exact absurd h h0
    | emptyRequire ha hb => exact absurd ⟨ha, hb⟩ h1
    | lengths h => exact ⟨_, validate_lengths sch rq opt h0 h1' h, Or.inr (Or.inr (Or.inl rfl))⟩
    | duplicateKeys n ha hb hc =>
      exact ⟨_, validate_duplicate sch rq opt n h0 ha hb hc, Or.inr (Or.inr (Or.inr rfl))⟩
  obtain ⟨e, he, hcls⟩ := key
  exact ⟨e, he, hcls, impl_error_of_validate sch t0 next dflt rq opt e he⟩

/-- First check: bad `on_many`. -/
theorem upsert_validation_on_many (sch : Schema κ) (t0 : Table κ α) (next : Nat) (dflt : Rec κ α)
    (rq : Request κ α) (opt : Options) (h : opt.onMany = .bad) :
    upsertImpl sch t0 next dflt rq opt = .error .badOnMany :=
  (impl_error_of_validate sch t0 next dflt rq opt _ (validate_bad_on_many sch rq opt h)).1

/-- Second check: empty `require`. -/
theorem upsert_validation_empty_require (sch : Schema κ) (t0 : Table κ α) (next : Nat) (dflt : Rec κ α)
    (rq : Request κ α) (opt : Options) (h0 : opt.onMany ≠ .bad) (h1 : rq.require = [])
    (h2 : opt.allowEmptyRequire = false) :
    upsertImpl sch t0 next dflt rq opt = .error .emptyRequire :=
  (impl_error_of_validate sch t0 next dflt rq opt _ (validate_empty_require sch rq opt h0 h1 h2)).1

/-- Third check: the lengths. -/
theorem upsert_validation_lengths (sch : Schema κ) (t0 : Table κ α) (next : Nat) (dflt : Rec κ α)
    (rq : Request κ α) (opt : Options) (h0 : opt.onMany ≠ .bad)
    (h1 : rq.require ≠ [] ∨ opt.allowEmptyRequire = true)
    (h2 : ∃ a ∈ lens rq, ∃ b ∈ lens rq, a ≠ b) :
    upsertImpl sch t0 next dflt rq opt = .error .lengths :=
  (impl_error_of_validate sch t0 next dflt rq opt _ (validate_lengths sch rq opt h0 h1 h2)).1

/-- Fourth check: uniqueness of the `require` tuples as sent. -/
theorem upsert_validation_duplicate (sch : Schema κ) (t0 : Table κ α) (next : Nat) (dflt : Rec κ α)
    (rq : Request κ α) (opt : Options) (n : Nat) (h0 : opt.onMany ≠ .bad) (h1 : rq.require ≠ [])
    (h2 : ∀ x ∈ lens rq, x = n) (h3 : ¬ (rawKeys rq n).Nodup) :
    upsertImpl sch t0 next dflt rq opt = .error .notUnique :=
  (impl_error_of_validate sch t0 next dflt rq opt _ (validate_duplicate sch rq opt n h0 h1 h2 h3)).1

-- one input of each class
example : Invalid Ex.rq { onMany := .bad } := .badOnMany rfl
example : Invalid ({ require := [], colValues := [(1, [20])] } : Request Nat Nat) {} := .emptyRequire rfl rfl
example : Invalid ({ require := [(0, [⟨7, 7, 7⟩, ⟨8, 8, 8⟩])], colValues := [(1, [20])] } : Request Nat Nat) {} :=
  .lengths ⟨2, by decide, 1, by decide, by decide⟩
example : Invalid ({ require := [(0, [⟨1, 1, 1⟩, ⟨1, 1, 1⟩])], colValues := [(1, [20, 21])] } : Request Nat Nat) {} :=
  .duplicateKeys 2 (by decide +kernel) (by decide +kernel) (by decide +kernel)

/-
-- FULL STATEMENT (unproved, FALSE of the code as it is): "duplicate require keys are rejected" with
-- duplicate = the two input rows look up the same key, i.e. `Invalid` extended by
--   | duplicateConvKeys (n) : rq.require ≠ [] → (∀ x ∈ lens rq, x = n) →
--       ¬ ((List.range n).map (convKey rq)).Nodup → Invalid rq opt
-- The code compares the values as sent.  Counterexample below (replayed on the real engine by
-- harness/gx/props/c28.py, WITNESSES[1]: Int column, require i = [5, "5"]): two input rows whose raw
-- values 5 and 50 (standing for 5 and "5") both convert to 5 pass every check, and, the table being
-- empty, two records with key 5 are added.
-/
namespace W2
def sch : Schema Nat := [(0, .data), (1, .data)]
def rq : Request Nat Nat := { require := [(0, [⟨5, 5, 5⟩, ⟨50, 5, 5⟩])], colValues := [(1, [20, 21])] }
end W2

theorem validation_full_false :
    ¬ (∀ (sch : Schema Nat) (t0 : Table Nat Nat) (next : Nat) (dflt : Rec Nat Nat)
         (rq : Request Nat Nat) (opt : Options) (n : Nat), rq.require ≠ [] → (∀ x ∈ lens rq, x = n) →
         ¬ ((List.range n).map (convKey rq)).Nodup →
         ∃ e, upsertImpl sch t0 next dflt rq opt = .error e) := by
  intro h
  obtain ⟨e, he⟩ := h W2.sch [] 1 [(0, 0), (1, 0)] W2.rq {} 2 (by decide +kernel) (by decide +kernel) (by decide +kernel)
  have hi : upsertImpl W2.sch [] 1 [(0, 0), (1, 0)] W2.rq {}
      = .ok ([(1, [(0, 5), (1, 20)]), (2, [(0, 5), (1, 21)])], ⟨[[1], [2]], [1, 2], []⟩) := by decide +kernel
  rw [hi] at he
  cases he

/-- **C28 (frame).**  Whenever the action succeeds: the rows are the old rows followed by the added
    ones, whose ids are fresh; `updateRecordIds` are existing records; a record not listed there is
    unchanged, and no existing record changes outside the `col_values` columns.  Unconditional
    (holds also when a record is named by several input rows). -/
theorem upsert_frame (sch : Schema κ) (t0 : Table κ α) (next : Nat) (dflt : Rec κ α)
    (rq : Request κ α) (opt : Options) (hnext : ∀ r ∈ tids t0, r < next)
    (t : Table κ α) (res : Result) (h : upsertImpl sch t0 next dflt rq opt = .ok (t, res)) :
    tids t = tids t0 ++ res.addRecordIds ∧
    (∀ r ∈ res.addRecordIds, next ≤ r) ∧
    res.updateRecordIds.flatten = updTargets sch t0 rq opt ∧
    (∀ r ∈ res.updateRecordIds.flatten, r ∈ tids t0) ∧
    (∀ r ∈ tids t0, r ∉ res.updateRecordIds.flatten → aget t r = aget t0 r) ∧
    (∀ r ∈ tids t0, ∀ c, c ∉ akeys rq.colValues → cell t r c = cell t0 r c) :=
  impl_frame sch t0 next dflt rq opt hnext t res h

example : upsertImpl Ex.sch Ex.t0 5 Ex.dflt Ex.rq {} =
    .ok ([(1, [(0, 7), (1, 20), (2, 14)]), (2, [(0, 7), (1, 11), (2, 14)]), (4, [(0, 8), (1, 21), (2, 16)]),
          (5, [(0, 9), (1, 22)])],
         ⟨[[1], [4], [5]], [5], [[1], [4]]⟩) := by decide +kernel

/-- The documented `AddOrUpdateRecord`: nothing for two empty dictionaries, otherwise the
    reference behaviour of the one-row bulk request, reported as ADD / UPDATE / NONE. -/
def addOrUpdateSpec (sch : Schema κ) (t0 : Table κ α) (next : Nat) (dflt : Rec κ α)
    (require : List (κ × Cell α)) (colValues : List (κ × α)) (opt : Options) :
    Except Err (Table κ α × SingleResult) :=
  if require.isEmpty && colValues.isEmpty then .ok (t0, ⟨[], .none⟩)
  else singleOf (upsertSpec sch t0 next dflt (wrap require colValues) opt)

def SameSingle (a b : Except Err (Table κ α × SingleResult)) : Prop :=
  match a, b with
  | .ok (ta, ra), .ok (tb, rb) => ra = rb ∧ tids ta = tids tb ∧ ∀ r c, cell ta r c = cell tb r c
  | .error ea, .error eb => ea = eb
  | _, _ => False

/-- **C28 (single record).**  `AddOrUpdateRecord` agrees with the reference for every table,
    request and option combination (one input row never names a record twice). -/
theorem add_or_update_eq_spec (sch : Schema κ) (t0 : Table κ α) (next : Nat) (dflt : Rec κ α)
    (require : List (κ × Cell α)) (colValues : List (κ × α)) (opt : Options)
    (hnext : ∀ r ∈ tids t0, r < next) (hids : (tids t0).Nodup) :
    SameSingle (addOrUpdateImpl sch t0 next dflt require colValues opt)
      (addOrUpdateSpec sch t0 next dflt require colValues opt) := by
  rw [addOrUpdateImpl_eq]
  unfold addOrUpdateSpec
  split
  · exact ⟨rfl, rfl, fun _ _ => rfl⟩
  · have h := impl_same_spec sch t0 next dflt (wrap require colValues) opt hnext
      (updTargets_nodup_wrap sch t0 require colValues opt hids)
    revert h
    cases upsertImpl sch t0 next dflt (wrap require colValues) opt with
    | error e =>
      cases upsertSpec sch t0 next dflt (wrap require colValues) opt with
      | error e' =>
        intro h
        exact h
      | ok q =>
        intro h
        exact h.elim
    | ok p =>
      cases upsertSpec sch t0 next dflt (wrap require colValues) opt with
      | error e' =>
        intro h
        exact h.elim
      | ok q =>
        obtain ⟨ta, ra⟩ := p
        obtain ⟨tb, rb⟩ := q
        intro h
        obtain ⟨hr, hi, hc⟩ := h
        subst hr
        unfold singleOf
        dsimp only
        cases ra.recordIds <;> exact ⟨rfl, hi, hc⟩

example : addOrUpdateImpl Ex.sch Ex.t0 5 Ex.dflt [(0, ⟨7, 7, 7⟩)] [(1, 30)] { onMany := .all } =
    .ok ([(1, [(0, 7), (1, 30), (2, 14)]), (2, [(0, 7), (1, 30), (2, 14)]), (4, [(0, 8), (1, 12), (2, 16)])],
         ⟨[1, 2], .update⟩) := by decide +kernel

/-! ### empty columns (isFormula with an empty formula) -/

namespace ExE
/-- columns: 0 = key column, 1 = value column, 2 = a formula column, 3 = an EMPTY column. -/
def sch : Schema Nat := [(0, .data), (1, .data), (2, .formula), (3, .empty)]
def dflt : Rec Nat Nat := [(0, 0), (1, 0), (3, 0)]
/-- two records; the cells of the empty column are all 0 (standing for None). -/
def t0 : Table Nat Nat := [(1, [(0, 7), (1, 10), (2, 14), (3, 0)]), (2, [(0, 8), (1, 11), (2, 16), (3, 0)])]
/-- one input row: key 9 in column 0, 18 in the formula column, 5 (stored as 55) in the empty column. -/
def rq : Request Nat Nat :=
  { require := [(0, [⟨9, 9, 9⟩]), (2, [⟨18, 18, 18⟩]), (3, [⟨5, 5, 55⟩])], colValues := [(1, [20])] }
end ExE

omit [DecidableEq α] in
/-- **C28 (an added record holds its `require` values, empty columns included)**: in every
    `require` column that is no real formula column and that `col_values` does not override, the
    stored form of the `require` value. -/
theorem add_values_keep_require (sch : Schema κ) (rq : Request κ α) (i : Nat) (k : κ) (c : Cell α)
    (hreq : aget (rowAt rq.require i) k = some c) (hk : aget sch k ≠ some .formula)
    (hcv : aget (rowAt rq.colValues i) k = none) :
    aget (addValues sch rq i) k = some c.store := by
  rw [aget_addValues, hcv, hreq]
  exact if_pos hk

set_option linter.unusedSectionVars false in
theorem add_values_keep_empty_column (sch : Schema κ) (rq : Request κ α) (i : Nat) (k : κ) (c : Cell α)
    (hreq : aget (rowAt rq.require i) k = some c) (hk : aget sch k = some .empty)
    (hcv : aget (rowAt rq.colValues i) k = none) :
    aget (addValues sch rq i) k = some c.store :=
  add_values_keep_require sch rq i k c hreq (by rw [hk]; decide) hcv

set_option linter.unusedSectionVars false in
/-- Only real formula columns of `require` are left out of the added record. -/
theorem add_values_drop_formula (sch : Schema κ) (rq : Request κ α) (i : Nat) (k : κ)
    (hk : aget sch k = some .formula) (hcv : aget (rowAt rq.colValues i) k = none) :
    aget (addValues sch rq i) k = none := by
  rw [aget_addValues, hcv]
  exact if_neg (not_not_intro hk)

example : aget (rowAt ExE.rq.require 0) 3 = some ⟨5, 5, 55⟩ ∧ aget ExE.sch 3 = some .empty ∧
    aget (rowAt ExE.rq.colValues 0) 3 = none ∧ aget ExE.sch 2 = some .formula := by decide +kernel
-- the added record 3 holds key 9, value 20 and 55 in the empty column; nothing for the formula column
example : upsertImpl ExE.sch ExE.t0 3 ExE.dflt ExE.rq {} =
    .ok (ExE.t0 ++ [(3, [(0, 9), (1, 20), (3, 55)])], ⟨[[3]], [3], []⟩) := by decide +kernel

/-- **C28 (conversions of empty columns, no conversion).**  `upsertImplConv` (the model the check
    ties to the engine when an empty column takes part) without any converted column is `upsertImpl`:
    all theorems above are about the same function. -/
theorem upsertImplConv_nil (sch : Schema κ) (t0 : Table κ α) (next : Nat) (dflt : Rec κ α)
    (rq : Request κ α) (opt : Options) :
    upsertImplConv sch t0 next dflt rq opt [] [] = upsertImpl sch t0 next dflt rq opt := by
  unfold upsertImplConv upsertImpl
  simp only [fillCols_nil]

theorem addOrUpdateImplConv_nil (sch : Schema κ) (t0 : Table κ α) (next : Nat) (dflt : Rec κ α)
    (require : List (κ × Cell α)) (colValues : List (κ × α)) (opt : Options) :
    addOrUpdateImplConv sch t0 next dflt require colValues opt [] [] =
      addOrUpdateImpl sch t0 next dflt require colValues opt := by
  unfold addOrUpdateImplConv addOrUpdateImpl
  simp only [upsertImplConv_nil]

/-- **C28 (conversions of empty columns do not touch the answer).**  Whatever columns the two bulk
    actions convert: the same error, or the same returned ids and row ids (a conversion only changes
    cells; all lookups are done before the first bulk action). -/
theorem upsertImplConv_result (sch : Schema κ) (t0 : Table κ α) (next : Nat) (dflt : Rec κ α)
    (rq : Request κ α) (opt : Options) (cvAdd cvUpd : Rec κ α) :
    match upsertImplConv sch t0 next dflt rq opt cvAdd cvUpd, upsertImpl sch t0 next dflt rq opt with
    | .ok (ta, ra), .ok (tb, rb) => ra = rb ∧ tids ta = tids tb
    | .error ea, .error eb => ea = eb
    | _, _ => False := by
  unfold upsertImplConv upsertImpl
  cases validate sch rq opt with
  | error e => exact rfl
  | ok o =>
    cases o with
    | none => exact ⟨rfl, rfl⟩
    | some n =>
      dsimp only
      generalize implAcc sch t0 rq opt n = acc
      -- the same checks fail or pass on both sides; the tables differ by `fillCols` only
      by_cases ha : acc.adds.isEmpty = true
      · rw [if_pos ha, if_pos ha]
        dsimp only
        by_cases hu : acc.upds.isEmpty = true
        · rw [if_pos hu, if_pos hu]
          exact ⟨rfl, rfl⟩
        · rw [if_neg hu, if_neg hu]
          cases checkCols sch (akeys rq.colValues) with
          | error e => exact rfl
          | ok _ => exact ⟨rfl, by rw [tids_bulkUpdate, tids_bulkUpdate, tids_fillCols]⟩
      · rw [if_neg ha, if_neg ha]
        cases checkCols sch (akeys rq.colValues ++
            (requireAddKeys sch rq).filter (fun k => decide (k ∉ akeys rq.colValues))) with
        | error e => exact rfl
        | ok _ =>
          dsimp only
          by_cases hu : acc.upds.isEmpty = true
          · rw [if_pos hu, if_pos hu]
            exact ⟨rfl, by rw [tids_append, tids_append, tids_fillCols]⟩
          · rw [if_neg hu, if_neg hu]
            cases checkCols sch (akeys rq.colValues) with
            | error e => exact rfl
            | ok _ =>
              exact ⟨rfl, by rw [tids_bulkUpdate, tids_bulkUpdate, tids_fillCols, tids_append,
                tids_append, tids_fillCols]⟩

-- the empty column 3 is converted by BulkAddRecord (new default 1 for the existing rows)
example : upsertImplConv ExE.sch ExE.t0 3 ExE.dflt ExE.rq {} [(3, 1)] [] =
    .ok ([(1, [(0, 7), (1, 10), (2, 14), (3, 1)]), (2, [(0, 8), (1, 11), (2, 16), (3, 1)]),
          (3, [(0, 9), (1, 20), (3, 55)])], ⟨[[3]], [3], []⟩) := by decide +kernel

end Grist.Upsert
