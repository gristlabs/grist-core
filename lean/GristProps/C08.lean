/-
C08  Internal schema always matches the metadata.

Model: GristModel/SchemaMeta.lean (`metaSchema` = schema.build_schema over the `_grist_Tables` /
`_grist_Tables_column` tables of the document, `userSchema` / `userTable?` = engine.schema,
`SchemaConsistent` = Engine.assert_schema_consistent, `schemaConsistentB` its decision procedure).

NOT proved: the paired steps for ModifyColumn, AddTable, RemoveTable, RenameTable (those for AddColumn,
RenameColumn, RemoveColumn are).
-/
import GristProps.C04
import GristProofs.SchemaMetaPairs
namespace Grist.Doc

/-- the Bool check evaluated by the driver decides the property -/
theorem schemaConsistentB_correct (d : Doc) : schemaConsistentB d = true ↔ SchemaConsistent d :=
  schemaConsistentB_iff d

/-- `SchemaConsistent` is invariant under observational equality (no well-formedness needed: it
    reads the schema through `findTable?` / `findCol?` and the metadata cells at existing rows) -/
theorem schemaConsistent_same_invariant {d d' : Doc} (h : Same d d') :
    SchemaConsistent d ↔ SchemaConsistent d' :=
  ⟨schemaConsistent_of_same h, schemaConsistent_of_same h.symm⟩

theorem metaSchema_same_invariant {d d' : Doc} (h : Same d d') : metaSchema d = metaSchema d' :=
  metaSchema_congr h.metaAgree

/-- `DocAction.neutral`: record actions on tables other than the two metadata tables, and
    BulkUpdateRecord on those two that names no schema-bearing field (`tableFields`, `columnFields`) -/
theorem neutral_step_consistent {d : Doc} {s : Summary} {a : DocAction} {r : DAResult} (hwf : WF d)
    (hne : a.neutral) (hc : SchemaConsistent d) (h : docAction d s a = .ok r) :
    SchemaConsistent r.doc :=
  post_neutral hwf hne hc (post_of_ok h)

theorem neutral_steps_consistent {as : List DocAction} {d d' : Doc} {u : List DocAction}
    (hwf : WF d) (hargs : ∀ a ∈ as, a.rowsPositive) (hne : ∀ a ∈ as, a.neutral)
    (hc : SchemaConsistent d) (h : runActs d as = .ok (d', u)) : SchemaConsistent d' := by
  induction as generalizing d u with
  | nil =>
    simp only [runActs, Except.ok.injEq, Prod.mk.injEq] at h
    obtain ⟨rfl, rfl⟩ := h
    exact hc
  | cons a rest ih =>
    obtain ⟨r, u', hr, hrest, rfl⟩ := runActs_cons_ok h
    have ha := hne a (by simp)
    have hcd : a.colsDistinct := by
      cases a with
      | addTable t cols => exact ha.elim
      | _ => trivial
    have hwf' := docAction_WF_partial hwf (hargs a (by simp)) hcd hr
    exact ih hwf' (fun b hb => hargs b (List.mem_cons_of_mem _ hb))
      (fun b hb => hne b (List.mem_cons_of_mem _ hb)) (neutral_step_consistent hwf ha hc hr) hrest

/-- corollary of C04: after a rollback to a checkpoint the schema is as consistent as it was at
    the checkpoint, whatever the rolled-back steps did to it -/
theorem rollback_schema_consistent {st st' : EState} {steps : List (DocAction × Bool)}
    (hwf : WF st.doc) (hn : Normal st.doc) (hlen : st.stored.length = st.direct.length)
    (hargs : ∀ ab ∈ steps, ab.1.rowsPositive ∧ ab.1.colsDistinct)
    (hex : undoExactRun st.doc (steps.map (·.1)))
    (hc : SchemaConsistent st.doc)
    (h : stepDocs st steps = .ok st') :
    ∃ st'', rollback st' st.stored.length st.undo.length = .ok st'' ∧ SchemaConsistent st''.doc ∧
      metaSchema st''.doc = metaSchema st.doc := by
  obtain ⟨st'', h1, h2, _⟩ := C04.rollback_restores hwf hn hlen hargs hex h
  exact ⟨st'', h1, schemaConsistent_of_same h2.symm hc, metaSchema_same_invariant h2⟩

/-! ### paired steps of the user-action layer

`MetaUnique d` (GristProofs/SchemaMetaPairs.lean): both metadata tables exist, one table record per
`tableId`, one column record per `(parentId, colId)` -- `SchemaConsistent` alone allows duplicate
records (the last wins), and then updating one of them breaks consistency.
`TableRec d tr0 T`: `tr0` is a row of `_grist_Tables` with `tableId = T`.
`ColRec d r tr0 c`: `r` is a row of `_grist_Tables_column` with `parentId = tr0`, `colId = c`.
`NoReverseRefTo d r`: no column record has `reverseCol = r` (the engine handles two-way references
with extra ModifyColumn actions that are outside the pair). -/

/-- the `parentId` column of `_grist_Tables_column` stores ints as given (it is a Ref column; a Bool
    or Numeric column would turn `int 1` into `true` / `1.0`) -/
def ParentIdIntTyped (d : Doc) : Prop :=
  ∀ mc col, findTable? d "_grist_Tables_column" = some mc → mc.findCol? "parentId" = some col →
    ∀ k, colSet col.info.type (.int k) = .int k

theorem runActs_WF_Normal {as : List DocAction} {d d' : Doc} {u : List DocAction} (hwf : WF d)
    (hn : Normal d) (hargs : ∀ a ∈ as, a.rowsPositive ∧ a.colsDistinct)
    (h : runActs d as = .ok (d', u)) : WF d' ∧ Normal d' :=
  applyAll_WF hwf hn hargs (runActs_applyAll h)

/-- doAddColumn: `AddColumn T c info`, then AddRecord of the column record (row id `r`; its
    schema-bearing fields are `colRecVals tr0 c info`: parentId, colId, type, isFormula, formula). -/
theorem pair_addColumn {d d' : Doc} {u : List DocAction} {T c : String} {info : ColInfo}
    {tr0 r : Nat}
    (hwf : WF d) (hn : Normal d) (hc : SchemaConsistent d) (hu : MetaUnique d)
    (hT : isMetaId T = false) (htr : TableRec d tr0 T) (hrev : info.reverseColId = none)
    (hr0 : 0 < r) (hnr : NoReverseRefTo d r) (hint : ParentIdIntTyped d)
    (h : runActs d [.addColumn T c info,
      .bulkAdd "_grist_Tables_column" [r] (colRecVals tr0 c info)] = .ok (d', u)) :
    SchemaConsistent d' ∧ MetaUnique d' ∧ WF d' ∧ Normal d' := by
  have h1 := pair_addColumn_core hwf hc hu hT htr hrev hr0 hnr hint h
  have h2 := runActs_WF_Normal hwf hn (by
    intro a ha
    simp only [List.mem_cons, List.not_mem_nil, or_false] at ha
    rcases ha with rfl | rfl
    · exact ⟨trivial, trivial⟩
    · refine ⟨?_, trivial⟩
      intro x hx
      simp only [List.mem_singleton] at hx
      subst hx
      exact hr0) h
  exact ⟨h1.1, h1.2, h2.1, h2.2⟩

/-- _updateColumnRecords on a colId change: `RenameColumn T old new`, then UpdateRecord of `colId` -/
theorem pair_renameColumn {d d' : Doc} {u : List DocAction} {T old new : String} {tr0 r : Nat}
    (hwf : WF d) (hn : Normal d) (hc : SchemaConsistent d) (hu : MetaUnique d)
    (hT : isMetaId T = false) (htr : TableRec d tr0 T) (hrec : ColRec d r tr0 old)
    (hnr : NoReverseRefTo d r)
    (h : runActs d [.renameColumn T old new,
      .bulkUpdate "_grist_Tables_column" [r] [("colId", [.str new])]] = .ok (d', u)) :
    SchemaConsistent d' ∧ MetaUnique d' ∧ WF d' ∧ Normal d' := by
  have h1 := pair_renameColumn_core hwf hc hu hT htr hrec hnr h
  have h2 := runActs_WF_Normal hwf hn (by
    intro a ha
    simp only [List.mem_cons, List.not_mem_nil, or_false] at ha
    rcases ha with rfl | rfl <;> exact ⟨trivial, trivial⟩) h
  exact ⟨h1.1, h1.2, h2.1, h2.2⟩

/-- doRemoveColumns: RemoveRecord of the column record first, then `RemoveColumn T c` -/
theorem pair_removeColumn {d d' : Doc} {u : List DocAction} {T c : String} {tr0 r : Nat}
    (hwf : WF d) (hn : Normal d) (hc : SchemaConsistent d) (hu : MetaUnique d)
    (hT : isMetaId T = false) (htr : TableRec d tr0 T) (hrec : ColRec d r tr0 c)
    (hnr : NoReverseRefTo d r)
    (h : runActs d [.bulkRemove "_grist_Tables_column" [r], .removeColumn T c] = .ok (d', u)) :
    SchemaConsistent d' ∧ MetaUnique d' ∧ WF d' ∧ Normal d' := by
  have h1 := pair_removeColumn_core hc hu hT htr hrec hnr h
  have h2 := runActs_WF_Normal hwf hn (by
    intro a ha
    simp only [List.mem_cons, List.not_mem_nil, or_false] at ha
    rcases ha with rfl | rfl <;> exact ⟨trivial, trivial⟩) h
  exact ⟨h1.1, h1.2, h2.1, h2.2⟩

/-! ### a concrete document with metadata: user table `T` with columns `A`, `B` -/

def mInfo (ty : String) : ColInfo := { type := ty, isFormula := false, formula := "", reverseColId := none }

def exMetaDoc : Doc :=
  [ { id := "_grist_Tables", rows := [1],
      cols := [{ id := "tableId", info := mInfo "Text",
                 cells := fun r => if r = 1 then .str "T" else typeDefault "Text" }] },
    { id := "_grist_Tables_column", rows := [1, 2],
      cols := [
        { id := "parentId", info := mInfo "Ref:_grist_Tables",
          cells := fun r => if r = 1 then .int 1 else if r = 2 then .int 1
                            else typeDefault "Ref:_grist_Tables" },
        { id := "colId", info := mInfo "Text",
          cells := fun r => if r = 1 then .str "A" else if r = 2 then .str "B" else typeDefault "Text" },
        { id := "type", info := mInfo "Text",
          cells := fun r => if r = 1 then .str "Text" else if r = 2 then .str "Text"
                            else typeDefault "Text" },
        { id := "isFormula", info := mInfo "Bool",
          cells := fun r => if r = 1 then .bool false else if r = 2 then .bool false
                            else typeDefault "Bool" },
        { id := "formula", info := mInfo "Text",
          cells := fun r => if r = 1 then .str "" else if r = 2 then .str "" else typeDefault "Text" },
        { id := "label", info := mInfo "Text",
          cells := fun r => if r = 1 then .str "A" else if r = 2 then .str "B" else typeDefault "Text" } ] },
    { id := "T", rows := [1],
      cols := [{ id := "A", info := mInfo "Text",
                 cells := fun r => if r = 1 then .str "x" else typeDefault "Text" },
               { id := "B", info := mInfo "Text",
                 cells := fun r => if r = 1 then .str "y" else typeDefault "Text" }] } ]

/-- stated together so that the kernel works out what the three share a single time -/
theorem exMetaDoc_eval :
    metaSchema exMetaDoc = [("T", [("A", mInfo "Text"), ("B", mInfo "Text")])] ∧
    userSchema exMetaDoc = [("T", [("A", mInfo "Text"), ("B", mInfo "Text")])] ∧
    schemaConsistentB exMetaDoc = true := by decide +kernel

example : metaSchema exMetaDoc = [("T", [("A", mInfo "Text"), ("B", mInfo "Text")])] := exMetaDoc_eval.1
example : userSchema exMetaDoc = [("T", [("A", mInfo "Text"), ("B", mInfo "Text")])] := exMetaDoc_eval.2.1

theorem exMetaDoc_consistent : SchemaConsistent exMetaDoc :=
  (schemaConsistentB_correct _).1 exMetaDoc_eval.2.2

theorem exMetaDoc_WF : WF exMetaDoc := by
  refine ⟨by decide +kernel, ?_⟩
  intro tb htb
  simp only [exMetaDoc, List.mem_cons, List.not_mem_nil, or_false] at htb
  -- outside its rows every cell falls through the `if`s to the type's default
  rcases htb with rfl | rfl | rfl
  · refine ⟨by decide +kernel, by decide +kernel, by decide +kernel, fun col hcol r hr => ?_⟩
    simp only [List.mem_cons, List.not_mem_nil, or_false] at hcol hr
    subst hcol
    simp only [if_neg hr]
    rfl
  · refine ⟨by decide +kernel, by decide +kernel, by decide +kernel, fun col hcol r hr => ?_⟩
    simp only [List.mem_cons, List.not_mem_nil, or_false, not_or] at hcol hr
    rcases hcol with rfl | rfl | rfl | rfl | rfl | rfl <;> simp only [if_neg hr.1, if_neg hr.2] <;> rfl
  · refine ⟨by decide +kernel, by decide +kernel, by decide +kernel, fun col hcol r hr => ?_⟩
    simp only [List.mem_cons, List.not_mem_nil, or_false] at hcol hr
    rcases hcol with rfl | rfl <;> simp only [if_neg hr] <;> rfl

def exNeutralActs : List DocAction :=
  [.bulkUpdate "T" [1] [("A", [.str "q"])], .bulkAdd "T" [2] [("B", [.str "z"])],
   .bulkUpdate "_grist_Tables_column" [2] [("label", [.str "Bee"])]]

theorem Except.exists_of_isOk {ε α : Type} {x : Except ε α} (h : x.isOk = true) : ∃ a, x = .ok a := by
  cases x with
  | error e => cases h
  | ok a => exact ⟨a, rfl⟩

/-- neutral steps on the example: data actions on `T`, and a `label` update of a column record -/
example : ∃ d' u, runActs exMetaDoc exNeutralActs = .ok (d', u) ∧ SchemaConsistent d' := by
  obtain ⟨⟨d', u⟩, h⟩ := Except.exists_of_isOk
    (by decide +kernel : (runActs exMetaDoc exNeutralActs).isOk = true)
  refine ⟨d', u, h, ?_⟩
  apply neutral_steps_consistent (as := exNeutralActs) exMetaDoc_WF _ _ exMetaDoc_consistent h
  · intro a ha
    simp only [exNeutralActs, List.mem_cons, List.not_mem_nil, or_false] at ha
    rcases ha with rfl | rfl | rfl <;> simp [DocAction.rowsPositive]
  · intro a ha
    simp only [exNeutralActs, List.mem_cons, List.not_mem_nil, or_false] at ha
    rcases ha with rfl | rfl | rfl
    · exact ⟨fun h => absurd h (by decide +kernel), fun h => absurd h (by decide +kernel)⟩
    · exact ⟨by decide +kernel, by decide +kernel⟩
    · refine ⟨fun h => absurd h (by decide +kernel), fun _ cv hcv => ?_⟩
      simp only [List.mem_singleton] at hcv
      subst hcv
      decide +kernel

/-- by position: `Table` has no decidable equality -/
theorem exMetaDoc_MT : findTable? exMetaDoc "_grist_Tables" = exMetaDoc[0]? := by
  refine List.find?_cons_of_pos ?_
  decide +kernel

theorem exMetaDoc_MC : findTable? exMetaDoc "_grist_Tables_column" = exMetaDoc[1]? := by
  refine (List.find?_cons_of_neg ?_).trans (List.find?_cons_of_pos ?_) <;> decide +kernel

theorem exMetaDoc_MetaUnique : MetaUnique exMetaDoc := by
  refine ⟨_, _, exMetaDoc_MT, exMetaDoc_MC, ?_, ?_⟩
  · unfold TUniq
    decide +kernel
  · unfold CUniq
    decide +kernel

theorem exMetaDoc_noRef (r : Nat) (hr : r ≠ 0) : NoReverseRefTo exMetaDoc r := by
  intro mc hmc x hx h
  rw [exMetaDoc_MC] at hmc
  -- there is no `reverseCol` column: every record reads 0
  exact hr (h.symm.trans ((by decide +kernel : ∀ mc ∈ exMetaDoc[1]?, ∀ x ∈ mc.rows,
    valNat (mc.cell "reverseCol" x) = 0) mc hmc x hx))

/-- the RenameColumn pair on the example (via the `Normal`-free core lemma: `Normal exMetaDoc`
    would need `pureType "Ref:_grist_Tables"` to evaluate) -/
example : ∃ d' u, runActs exMetaDoc [.renameColumn "T" "A" "A2",
      .bulkUpdate "_grist_Tables_column" [1] [("colId", [.str "A2"])]] = .ok (d', u) ∧
    SchemaConsistent d' ∧ MetaUnique d' ∧ schemaConsistentB d' = true := by
  obtain ⟨⟨d', u⟩, h⟩ := Except.exists_of_isOk (by decide +kernel :
    (runActs exMetaDoc [.renameColumn "T" "A" "A2",
      .bulkUpdate "_grist_Tables_column" [1] [("colId", [.str "A2"])]]).isOk = true)
  have h1 := pair_renameColumn_core (tr0 := 1) exMetaDoc_WF exMetaDoc_consistent
    exMetaDoc_MetaUnique (by decide +kernel) ⟨_, exMetaDoc_MT, by decide +kernel, by decide +kernel⟩
    ⟨_, exMetaDoc_MC, by decide +kernel, by decide +kernel, by decide +kernel⟩
    (exMetaDoc_noRef 1 (by decide)) h
  exact ⟨d', u, h, h1.1, h1.2, (schemaConsistentB_correct _).2 h1.1⟩

/-- dropping a column record makes it inconsistent (table `T` still has its column `B`): the check
    is not vacuous -/
example : ¬ SchemaConsistent
    (exMetaDoc.map (fun tb => if tb.id == "_grist_Tables_column" then { tb with rows := [1] } else tb)) :=
  fun h => absurd (tableAgreesB_of_consistent h "T") (by decide +kernel)

end Grist.Doc
