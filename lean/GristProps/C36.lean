/-
C36  Page-tree indentation fixes always yield a valid tree.
Model: GristModel/Treeview.lean (treeview.fix_indents).  `fix_step` is the loop's step in closed
form; `fix_valid` goes through `applyFixes_eq_finalGo`: with distinct ids, the fixes written back
by id give the levels `finalGo` computes directly, which are valid by construction.
-/
import GristModel.Treeview
namespace Grist.Treeview

theorem validFrom_mono : ∀ (l : List Nat) (a b : Nat), a ≤ b → ValidFrom a l → ValidFrom b l := by
  intro l a b hab hl
  cases l with
  | nil => trivial
  | cons x xs => exact ⟨Nat.le_trans hl.1 hab, hl.2⟩

theorem finalGo_valid (del : Nat → Bool) : ∀ (items : List Item) (m : Nat),
    ValidFrom m (finalGo del m items) := by
  intro items
  induction items with
  | nil => exact fun _ => trivial
  | cons it rest ih =>
    intro m
    simp only [finalGo]
    split
    · exact validFrom_mono _ _ _ (Nat.min_le_left _ _) (ih (min m it.indent))
    · exact ⟨Nat.min_le_left _ _, ih _⟩

/-- **C36 (exact characterisation of changed pages).** At any point of the run with allowed
    level `m`, the next page gets a fix iff it survives and lies deeper than `m`, and the fix sets
    it to exactly `m`; a removed page hands its own (capped) level to its successor, a surviving
    page hands on its level + 1. -/
theorem fix_step (del : Nat → Bool) (it : Item) (rest : List Item) (m : Nat) :
    fixGo del m (it :: rest) =
      (if m < it.indent ∧ del it.id = false then [(it.id, m)] else []) ++
      fixGo del (if del it.id then min m it.indent else min m it.indent + 1) rest := by
  simp only [fixGo]
  congr 1
  -- the loop tests `min m indent ≠ indent`, i.e. `m < indent`; then the minimum is `m`
  by_cases hc : m < it.indent
  · have hmin : min m it.indent = m := Nat.min_eq_left (Nat.le_of_lt hc)
    have hne : (m != it.indent) = true := bne_iff_ne.mpr (Nat.ne_of_lt hc)
    cases hd : del it.id <;> simp [hmin, hne, hc]
  · have hmin : min m it.indent = it.indent := Nat.min_eq_right (by omega)
    simp [hmin, hc]

/-- **C36 (never deeper).** Every returned fix belongs to a surviving page and is strictly
    lower than the page's old indentation. -/
theorem fix_never_deeper (del : Nat → Bool) : ∀ (items : List Item) (m : Nat) (p : Nat × Nat),
    p ∈ fixGo del m items → ∃ it ∈ items, it.id = p.1 ∧ p.2 < it.indent ∧ del it.id = false := by
  intro items
  induction items with
  | nil => exact fun _ _ h => nomatch h
  | cons it rest ih =>
    intro m p h
    rw [fix_step, List.mem_append] at h
    rcases h with h | h
    · split at h
      next hc =>
        cases List.mem_singleton.mp h
        exact ⟨it, List.mem_cons_self, rfl, hc.1, hc.2⟩
      · cases h
    · obtain ⟨x, hx, hrest⟩ := ih _ p h
      exact ⟨x, List.mem_cons_of_mem _ hx, hrest⟩

theorem fixGo_lookup_none (del : Nat → Bool) (items : List Item) (m k : Nat)
    (h : ∀ it ∈ items, it.id ≠ k) : (fixGo del m items).lookup k = none := by
  rw [List.lookup_eq_none_iff]
  intro p hp
  obtain ⟨it, hit, hid, _⟩ := fix_never_deeper del items m p hp
  exact bne_iff_ne.mpr fun hk => h it hit (hid.trans hk.symm)

theorem applyFixes_eq_finalGo (del : Nat → Bool) : ∀ (items : List Item) (m : Nat),
    (items.map (·.id)).Nodup →
    (items.filter (fun it => !del it.id)).map
      (fun it => ((fixGo del m items).lookup it.id).getD it.indent)
    = finalGo del m items := by
  intro items
  induction items with
  | nil => exact fun _ _ => rfl
  | cons it rest ih =>
    intro m hnd
    rw [List.map_cons, List.nodup_cons] at hnd
    have hrest : ∀ x ∈ rest, x.id ≠ it.id := fun x hx e => hnd.1 (e ▸ List.mem_map_of_mem hx)
    -- lookups for items of `rest` skip a possible head adjustment (its id differs)
    have skip : ∀ (l : List (Nat × Nat)), ∀ x ∈ rest,
        ((if m < it.indent then [(it.id, m)] else []) ++ l).lookup x.id = l.lookup x.id := by
      intro l x hx
      split
      · simp only [List.cons_append, List.nil_append, List.lookup_cons,
          beq_eq_false_iff_ne.mpr (hrest x hx)]
      · rfl
    rw [fix_step, finalGo, List.filter_cons]
    cases hd : del it.id
    · simp only [Bool.not_false, if_true, Bool.false_eq_true, if_false, List.map_cons, and_true]
      rw [← ih (min m it.indent + 1) hnd.2]
      congr 1
      · by_cases hc : m < it.indent
        · simp only [if_pos hc, Nat.min_eq_left (Nat.le_of_lt hc), List.cons_append,
            List.lookup_cons, beq_self_eq_true, Option.getD_some]
        · rw [if_neg hc, List.nil_append, fixGo_lookup_none del rest _ it.id hrest,
            Nat.min_eq_right (Nat.le_of_not_lt hc)]
          rfl
      · exact List.map_congr_left fun x hx =>
          congrArg (Option.getD · x.indent) (skip _ x (List.mem_filter.mp hx).1)
    · simp only [Bool.not_true, Bool.false_eq_true, if_false, if_true, Bool.true_eq_false, and_false,
        List.nil_append]
      exact ih _ hnd.2

/-- **C36 (validity).** For every list of pages with distinct ids and every set of removed pages,
    applying the returned fixes leaves the remaining pages as a valid tree. -/
theorem fix_valid (items : List Item) (del : Nat → Bool) (hnd : (items.map (·.id)).Nodup) :
    ValidTree (applyFixes items del (fixIndents items del)) := by
  unfold applyFixes fixIndents ValidTree
  have := applyFixes_eq_finalGo del items 0 hnd
  rw [this]
  exact finalGo_valid del items 0

/-- **C36 (only violating pages change, no removal).** If nothing is removed and the pages
    already form a valid tree, no fix is returned. -/
theorem fix_noop_of_valid (del : Nat → Bool) (hdel : ∀ k, del k = false) :
    ∀ (items : List Item) (m : Nat), ValidFrom m (items.map (·.indent)) → fixGo del m items = [] := by
  intro items
  induction items with
  | nil => exact fun _ _ => rfl
  | cons it rest ih =>
    intro m hv
    rw [fix_step, if_neg fun h => Nat.not_lt.mpr hv.1 h.1, hdel, List.nil_append,
      Nat.min_eq_right hv.1]
    exact ih _ hv.2

/-- **C36 (pointwise greatest).** The result is the deepest admissible choice: any other
    assignment `r` of levels to the surviving pages that never deepens a page and is valid below
    the same running bounds is pointwise ≤ the result.  (Stated for the no-removal case, where the
    running bound is just "previous + 1".) -/
theorem fix_greatest (del : Nat → Bool) (hdel : ∀ k, del k = false) :
    ∀ (items : List Item) (m : Nat) (r : List Nat), r.length = items.length →
      ValidFrom m r → (∀ i (h1 : i < r.length) (h2 : i < items.length), r[i] ≤ (items[i]).indent) →
      ∀ i (h1 : i < r.length) (h2 : i < (finalGo del m items).length), r[i] ≤ (finalGo del m items)[i] := by
  intro items
  induction items with
  | nil =>
    intro m r hl _ _ i h1
    rw [List.length_nil, List.length_eq_zero_iff] at hl
    subst hl
    cases h1
  | cons it rest ih =>
    intro m r hl hv hle i h1 h2
    cases r with
    | nil => cases hl
    | cons x xs =>
      simp only [finalGo, hdel, Bool.false_eq_true, if_false] at h2 ⊢
      have hx : x ≤ min m it.indent :=
        Nat.le_min.mpr ⟨hv.1, hle 0 (Nat.zero_lt_succ _) (Nat.zero_lt_succ _)⟩
      cases i with
      | zero => exact hx
      | succ j =>
        exact ih (min m it.indent + 1) xs (Nat.succ.inj hl)
          (validFrom_mono _ _ _ (Nat.succ_le_succ hx) hv.2)
          (fun k k1 k2 => hle (k + 1) (Nat.succ_lt_succ k1) (Nat.succ_lt_succ k2)) j
          (Nat.lt_of_succ_lt_succ h1) (Nat.lt_of_succ_lt_succ h2)

/-! ### Non-vacuity: the module's documented example, and a deeper one. -/

-- ["A0","B1","C0","D1"], remove C  ⇒  [("D",0)]
example : fixIndents [⟨1,0⟩, ⟨2,1⟩, ⟨3,0⟩, ⟨4,1⟩] (fun k => k == 3) = [(4, 0)] := by decide +kernel
example : (([⟨1,0⟩, ⟨2,1⟩, ⟨3,0⟩, ⟨4,1⟩] : List Item).map (·.id)).Nodup := by decide +kernel
example : applyFixes [⟨1,0⟩, ⟨2,3⟩, ⟨3,5⟩, ⟨4,1⟩] (fun k => k == 1)
    (fixIndents [⟨1,0⟩, ⟨2,3⟩, ⟨3,5⟩, ⟨4,1⟩] (fun k => k == 1)) = [0, 1, 1] := by decide +kernel

end Grist.Treeview
