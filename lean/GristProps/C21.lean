/-
C21  Generated identifiers are valid and unique.
Model: GristModel/Identifiers.lean (sandbox/grist/identifiers.py).  The theorems are the results of
GristProofs/Identifiers.lean (for any keyword list with `kwOK`) at Python's keywords, Generated/Keywords.lean
(regenerated from `keyword.kwlist` on every run); `pick_list_step` is proved here.

Reading of the property (DESIGN.md App. B):
* "valid" = Grist's ASCII identifier shape `[A-Za-z][A-Za-z0-9_]*` (`identShape`) — hence a valid
  Python identifier that starts with neither a digit nor an underscore — and not a keyword;
  table ids start with `A`…`Z` (`startsUpper`);
* "differs case-insensitively" = the upper-cased forms differ, which is how the code compares
  (`ident.upper() not in _uppercase(avoid)`); the functions below receive the avoid set already
  upper-cased (a parameter of the model), so the claim reads
  `upperStr r ∉ avoid` for EVERY list `avoid`;
* the requested name `s` is the text after `str()`, NFKD normalisation and removal of combining
  characters (parameter); the theorems hold for every `s : List Char`.
All results are `some r`: the fuel always suffices, i.e. the real `while` loops terminate.
-/
import GristProofs.Identifiers
import Generated.Keywords
namespace Grist.Identifiers

/-- Python's keyword list (generated). -/
abbrev pyKw : List Str := Grist.Generated.pyKeywordChars

/-- The two facts about Python's keywords the proofs rely on, checked on the generated list:
    no keyword ends in a digit and no keyword consists of upper-case letters only. -/
theorem keywords_ok : kwOK pyKw = true := by decide +kernel

/-- **`_add_suffix` terminates** (the candidates `base1, base2, …` stay pairwise different after
    upper-casing) and returns the FIRST `base' ++ str(m)`, `m ≥ next`, whose upper-case form is not in
    `avoid`; `base'` is `base`, plus `_` if it ends in a digit. -/
theorem add_suffix_terminates (base : Str) (avoid : List Str) (next : Nat) :
    ∃ m, addSuffix base avoid next = some (withSuffix (suffixBase base) m) ∧
      next ≤ m ∧ m ≤ next + avoid.length ∧
      upperStr (withSuffix (suffixBase base) m) ∉ avoid ∧
      ∀ j, next ≤ j → j < m → upperStr (withSuffix (suffixBase base) j) ∈ avoid := by
  obtain ⟨m, hm, h⟩ := firstIdx_search (fun n => upperStr (withSuffix (suffixBase base) n))
    (upper_withSuffix_inj _) avoid next
  exact ⟨m, congrArg (Option.map (withSuffix (suffixBase base))) hm, h⟩

example : addSuffix ['a','1'] [['A','1','_','2'], ['A','1','_','3']] 2 = some ['a','1','_','4'] := by
  decide +kernel

/-- **`_gen_ident` terminates** and returns the first of A, B, …, Z, AA, AB, … not in `avoid`;
    it has the identifier shape, starts upper-case, is not a keyword and is its own upper-case form. -/
theorem gen_ident_fresh (avoid : List Str) :
    ∃ i, genIdent avoid = some (letters i) ∧ i ≤ avoid.length ∧
      letters i ∉ avoid ∧ (∀ j, j < i → letters j ∈ avoid) ∧
      identShape (letters i) = true ∧ startsUpper (letters i) = true ∧ letters i ∉ pyKw ∧
      upperStr (letters i) = letters i := by
  obtain ⟨i, h1, h2, h3, h4⟩ := genIdent_spec avoid
  exact ⟨i, h1, h2, h3, h4, letters_good keywords_ok i⟩

example : genIdent [['A'], ['C'], ['B']] = some ['D'] := by decide +kernel
example : letters 26 = ['A','A'] ∧ letters 701 = ['Z','Z'] ∧ letters 702 = ['A','A','A'] := by
  decide +kernel

/-- the generated names are pairwise different (so the search cannot cycle) -/
theorem gen_ident_letters_injective (a b : Nat) (h : letters a = letters b) : a = b :=
  letters_inj a b h

/-- **`_sanitize_ident` terminates** (the `while iskeyword` loop, for any prefix of identifier
    shape such as "c" and "T") and returns either "" or a non-keyword of identifier shape; with
    `capitalize=True` and an upper-case prefix the result starts with an upper-case letter. -/
theorem sanitize_shape (s pre : Str) (cap : Bool) (hpre : identShape pre = true) :
    ∃ r, sanitizeIdent pyKw s pre cap = some r ∧
      (r = [] ∨ (identShape r = true ∧ r ∉ pyKw ∧
        (cap = true → startsUpper pre = true → startsUpper r = true))) :=
  sanitize_spec pyKw s pre cap hpre

example : sanitizeIdent pyKw ['1',' ','-','i','f','!'] ['c'] false = some ['c','1','_','i','f','_'] := by
  decide +kernel
example : sanitizeIdent pyKw ['n','o','n','e'] ['T'] true = some ['T','N','o','n','e'] := by decide +kernel
example : sanitizeIdent pyKw ['_',' ','_'] ['c'] false = some [] := by decide +kernel

/-- **C21, columns.** For every requested name and every set of existing (upper-cased) names,
    `pick_col_ident` returns an identifier of shape `[A-Za-z][A-Za-z0-9_]*` that is not a keyword
    and whose upper-case form is not among the existing names. -/
theorem pick_col_valid (s : Str) (avoid : List Str) :
    ∃ r, pickColIdent pyKw s avoid = some r ∧
      identShape r = true ∧ r ∉ pyKw ∧ upperStr r ∉ avoid :=
  pickColIdent_good keywords_ok s avoid

example : pickColIdent pyKw ['i','f'] [['C','I','F'], ['C','I','F','2']] = some ['c','i','f','3'] := by
  decide +kernel

/-- **C21, tables.** Same for `pick_table_ident`, and the table id starts with `A`…`Z`. -/
theorem pick_table_valid (s : Str) (avoid : List Str) :
    ∃ r, pickTableIdent pyKw s avoid = some r ∧
      identShape r = true ∧ r ∉ pyKw ∧ upperStr r ∉ avoid ∧ startsUpper r = true := by
  obtain ⟨r, h1, ⟨h2, h3, h4⟩, h5⟩ := pickTableIdent_good keywords_ok s avoid
  exact ⟨r, h1, h2, h3, h4, h5⟩

example : pickTableIdent pyKw [] [['T','A','B','L','E','1']] = some ['T','a','b','l','e','2'] := by
  decide +kernel
example : pickTableIdent pyKw ['9',' ','x'] [['T','9','_','X']] = some ['T','9','_','x','2'] := by
  decide +kernel

/-- **C21, "already valid and unused is kept as is" (columns).** -/
theorem pick_col_fixpoint (s : Str) (avoid : List Str) (hs : identShape s = true)
    (hk : s ∉ pyKw) (ha : upperStr s ∉ avoid) : pickColIdent pyKw s avoid = some s :=
  pickColIdent_id pyKw s avoid hs hk ha

example : identShape ['m','y','_','C','o','l','2'] = true ∧ ['m','y','_','C','o','l','2'] ∉ pyKw ∧
    upperStr ['m','y','_','C','o','l','2'] ∉ [['M','Y','_','C','O','L']] := by decide +kernel

/-- **C21, "already valid and unused is kept as is" (tables: valid includes the upper-case
    first letter).** -/
theorem pick_table_fixpoint (s : Str) (avoid : List Str) (hs : identShape s = true)
    (hu : startsUpper s = true) (hk : s ∉ pyKw) (ha : upperStr s ∉ avoid) :
    pickTableIdent pyKw s avoid = some s :=
  pickTableIdent_id pyKw s avoid hs hu hk ha

example : identShape ['P','e','o','p','l','e'] = true ∧ startsUpper ['P','e','o','p','l','e'] = true ∧
    ['P','e','o','p','l','e'] ∉ pyKw ∧ upperStr ['P','e','o','p','l','e'] ∉ [['P','E','O','P','L','E','2']] := by
  decide +kernel

/-- **C21, batches.** `pick_col_ident_list` returns one identifier per requested name; each is
    valid, not a keyword and not (case-insensitively) an existing name, and the chosen identifiers
    are pairwise different case-insensitively. -/
theorem pick_list_valid (idents : List Str) (avoid : List Str) :
    ∃ rs, pickColIdentList pyKw idents avoid = some rs ∧ rs.length = idents.length ∧
      (∀ r ∈ rs, identShape r = true ∧ r ∉ pyKw ∧ upperStr r ∉ avoid) ∧
      rs.Pairwise (fun a b => upperStr a ≠ upperStr b) :=
  pickColIdentList_good keywords_ok idents avoid

example : pickColIdentList pyKw [['a'], ['A'], [], ['a','2'], ['1']] [['A','2']]
    = some [['a'], ['A','3'], ['B'], ['a','2','_','2'], ['c','1']] := by
  decide +kernel

/-- **C21, batches keep valid names.** A batch of valid, non-keyword names that are pairwise
    different case-insensitively and unused is returned unchanged. -/
theorem pick_list_fixpoint (idents : List Str) (avoid : List Str)
    (hall : ∀ s ∈ idents, identShape s = true ∧ s ∉ pyKw ∧ upperStr s ∉ avoid)
    (hd : idents.Pairwise (fun a b => upperStr a ≠ upperStr b)) :
    pickColIdentList pyKw idents avoid = some idents :=
  pickColIdentList_id pyKw idents avoid hall hd

/-- The batch is the left-to-right iteration of `pick_col_ident`, each chosen id joining the
    avoid set in upper case (so "kept as is" applies to each element relative to the names chosen
    before it). -/
theorem pick_list_step (s : Str) (rest : List Str) (avoid : List Str) (r : Str) (rs : List Str) :
    pickColIdentList pyKw (s :: rest) avoid = some (r :: rs) ↔
      pickColIdent pyKw s avoid = some r ∧
      pickColIdentList pyKw rest (upperStr r :: avoid) = some rs := by
  simp only [pickColIdentList]
  cases h1 : pickColIdent pyKw s avoid with
  | none => simp
  | some r' =>
    simp only [Option.some.injEq]
    constructor
    · intro h
      cases h2 : pickColIdentList pyKw rest (upperStr r' :: avoid) with
      | none => simp [h2] at h
      | some rs' =>
        simp only [h2, Option.some.injEq, List.cons.injEq] at h
        obtain ⟨rfl, rfl⟩ := h
        exact ⟨rfl, h2⟩
    · rintro ⟨rfl, h⟩
      simp [h]

end Grist.Identifiers
