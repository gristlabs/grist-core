/-
C16  Renames never change formula results.

Reading of the property (see also harness/gx/props/c16.py):
  * "formula programs using the supported reference forms" = `FExpr` whose name annotations agree
    with the schema (`HasTy`; the computable `check` is a sound test for it, `checked_hasTy`).  That
    astroid's inference finds exactly these occurrences is NOT proved here (modelled-not-verified; tied
    differentially).
  * "any requested name" = after sanitising/disambiguation (C21) the new id is non-empty and not in
    use: `ρ.new ≠ []`, `Fresh ρ d`.  For the VALUE clause the code additionally needs `ρ.Safe` (new
    column id not `order_by`/`sort_by`, table ids not IF/PREVIOUS/NEXT/RANK): without it the clause is
    false of the code (`rename_to_reserved_keyword_is_false`, `rename_to_function_name_is_false`).
  * "leaves every formula value unchanged" = `rename_preserves_eval`: the renamed formula evaluated in
    the renamed document gives the same value, keyed through the rename (a record of a renamed table
    carries the new table id; nothing else differs: `rename_column_value_identical`,
    `rename_scalar_value_identical`).
  * "are rewritten, and only those name tokens change in the formula text" = `print_rename_eq_patch`
    (what `_prepare_formula_renames` writes back = the print of the renamed tree, for every trivia and
    whatever the order in which occurrences are discovered), `rename_only_denoting_tokens`,
    `rename_text_outside_patches`.
-/
import GristProofs.FormulaRename
import GristProofs.FormulaRenameEval
import GristProps.C37
namespace Grist.FormulaRename
open Grist.Textbuilder (Str Patch applyPatches sortPatches NonOverlapping slice shift lastEnd)
open Grist.PredRename (patchesFrom patchesFrom_disjoint patchesFrom_strict applyPatches_pieces)

/-- **C16 (checker).**  `check`, run by the driver on every generated formula, is sound for `HasTy`. -/
theorem checked_hasTy {d : Doc} {cur : Name} (e : FExpr) (Γ : List (Name × Name)) (τ : Ty)
    (h : check d cur Γ e = some τ) : HasTy d cur Γ e τ :=
  check_sound e Γ τ h

/-- **C16 (rename_preserves_eval).**  The renamed formula evaluated in the renamed document gives the
    original value, keyed through the rename (every row, every binding of comprehension variables). -/
theorem rename_preserves_eval {ρ : Ren} {d : Doc} (hf : Fresh ρ d) (hs : ρ.Safe) {cur : Name}
    {Γ : List (Name × Name)} {e : FExpr} {τ : Ty} (h : HasTy d cur Γ e τ) (row : Nat)
    (env : List (Name × Name × Nat)) (henv : EnvOk Γ env) :
    eval (renameDoc ρ d) (ρ.tabOf cur) row (renEnv ρ env) (rename ρ e) =
      renameVal ρ (eval d cur row env e) :=
  eval_rename hf hs h row env henv

/-- The run-time table of every record is the statically assigned one (what makes the static
    rewriting correct for Python's dynamic attribute lookup). -/
theorem eval_type_sound {d : Doc} {cur : Name} {Γ : List (Name × Name)} {e : FExpr} {τ : Ty}
    (h : HasTy d cur Γ e τ) (row : Nat) (env : List (Name × Name × Nat)) (henv : EnvOk Γ env) :
    ValHasTy d (eval d cur row env e) τ :=
  eval_sound h row env henv

theorem rename_value_identical {ρ : Ren} {d : Doc} (hf : Fresh ρ d) (hs : ρ.Safe) {cur : Name}
    {Γ : List (Name × Name)} {e : FExpr} {τ : Ty} (h : HasTy d cur Γ e τ) (row : Nat)
    (env : List (Name × Name × Nat)) (henv : EnvOk Γ env) (hfix : ∀ v, WT d v τ → renameVal ρ v = v) :
    eval (renameDoc ρ d) (ρ.tabOf cur) row (renEnv ρ env) (rename ρ e) = eval d cur row env e :=
  (eval_rename hf hs h row env henv).trans (hfix _ (eval_wt h row env henv))

theorem renAtom_col (T o n : Name) (a : Atom) : renAtom (.col T o n) a = a := by
  cases a <;> rfl

theorem renameVal_col (T o n : Name) {d : Doc} {v : Val} {τ : Ty} (h : WT d v τ)
    (hτ : ∀ t, τ ≠ .kws t) : renameVal (.col T o n) v = v := by
  cases h with
  | kws => exact absurd rfl (hτ _)
  | list =>
    exact congrArg Val.list ((List.map_congr_left fun a _ => renAtom_col T o n a).trans (List.map_id _))
  | _ => rfl

/-- **C16 (column rename: identical values).**  A column rename leaves every formula value
    literally unchanged (errors included). -/
theorem rename_column_value_identical {T o n : Name} {d : Doc} (hf : Fresh (.col T o n) d)
    (hs : reservedKw n = false)
    {cur : Name} {e : FExpr} {τ : Ty} (h : HasTy d cur [] e τ) (hτ : ∀ t, τ ≠ .kws t) (row : Nat) :
    eval (renameDoc (.col T o n) d) cur row [] (rename (.col T o n) e) = eval d cur row [] e :=
  rename_value_identical hf (show (Ren.col T o n).Safe from hs) h row [] rfl
    fun _ hv => renameVal_col T o n hv hτ

/-- Result types whose values carry no table id. -/
def Scalar : Ty → Prop
  | .atom (.rcd _) => False
  | .list (.rcd _) => False
  | .atom _ => True
  | .list _ => True
  | _ => False

theorem renameVal_scalar (ρ : Ren) {d : Doc} {v : Val} {τ : Ty} (h : WT d v τ) (hτ : Scalar τ) :
    renameVal ρ v = v := by
  cases h with
  | err | int | str | bool => rfl
  | rcd | recs | kws => cases hτ
  | list h =>
    refine congrArg Val.list ((List.map_congr_left fun a ha => ?_).trans (List.map_id _))
    cases h a ha with
    | int | str | bool => rfl
    | rcd => cases hτ

/-- **C16 (any rename: identical scalar values).**  Also under a table rename, a formula of type
    Int / Text / Bool (or a list of such) has literally the same value in every row. -/
theorem rename_scalar_value_identical {ρ : Ren} {d : Doc} (hf : Fresh ρ d) (hs : ρ.Safe) {cur : Name}
    {e : FExpr} {τ : Ty} (h : HasTy d cur [] e τ) (hτ : Scalar τ) (row : Nat) :
    eval (renameDoc ρ d) (ρ.tabOf cur) row [] (rename ρ e) = eval d cur row [] e :=
  rename_value_identical hf hs h row [] rfl fun _ hv => renameVal_scalar ρ hv hτ

/-- For any rendered list of well-spelled pieces and any order of discovery: the patches are
    non-overlapping and, sorted as `Replacer` does, render the renamed pieces with the SAME trivia. -/
theorem patches_core (ρ : Ren) (hnew : ρ.new ≠ []) (toks : List Tok) (triv : List Str) (os : List Occ)
    (hok : ∀ tk ∈ toks, TokOk tk ∧ NameNe tk) (hperm : os.Perm (occs 0 triv toks)) :
    NonOverlapping (render triv toks) (makePatches ρ (render triv toks) os) ∧
    applyPatches (render triv toks) (sortPatches (makePatches ρ (render triv toks) os)) =
      render triv (toks.map (renTok ρ)) := by
  have hf := srcOf_renderPieces ρ toks triv
  have hp : (makePatches ρ (render triv toks) os).Perm (patchesFrom 0 (renderPieces ρ triv toks)) :=
    (hperm.filterMap _).trans (.of_eq (makePatches_occs ρ hnew _ toks triv [] hok hf.symm))
  have hb := renderPieces_b_ne ρ toks triv fun tk h => (hok tk h).2
  refine ⟨hf ▸ patchesFrom_disjoint _ _ (hf ▸ hp), ?_⟩
  rw [Textbuilder.sortPatches_eq_of_perm (patchesFrom_strict _ 0 hb) hp, ← hf,
    ← dstOf_renderPieces ρ toks triv fun tk h => (hok tk h).1]
  exact applyPatches_pieces _ []

theorem patches_print (ρ : Ren) (hnew : ρ.new ≠ []) (e : FExpr) (triv : List Str) (os : List Occ)
    (hne : ∀ tk ∈ print e, NameNe tk) (hperm : os.Perm (occs 0 triv (print e))) :
    NonOverlapping (render triv (print e)) (makePatches ρ (render triv (print e)) os) ∧
    applyPatches (render triv (print e)) (sortPatches (makePatches ρ (render triv (print e)) os)) =
      render triv (print (rename ρ e)) := by
  rw [print_rename]
  exact patches_core ρ hnew (print e) triv os (fun tk h => ⟨allOk_print e tk h, hne tk h⟩) hperm

theorem prepareFormula_spec (ρ : Ren) (f : Str) (os : List Occ)
    (hno : NonOverlapping f (makePatches ρ f os)) :
    ∃ r, prepareFormula ρ f os = .ok r ∧
      r.getD f = applyPatches f (sortPatches (makePatches ρ f os)) := by
  obtain ⟨tb, hb, htext⟩ := Textbuilder.replacer_text_eq_applyPatches _ _ hno
  unfold prepareFormula
  generalize makePatches ρ f os = ps at hb htext ⊢
  cases ps with
  | nil => exact ⟨none, rfl, by rw [sortPatches, List.mergeSort_nil]; rfl⟩
  | cons q qs => exact ⟨some tb.outText, by simp only [hb], htext⟩

/-- **C16 (print_rename_eq_patch).**  For every trivia and every order of the discovered occurrences,
    `_prepare_formula_renames` succeeds and stores (or leaves) exactly the print of the renamed tree. -/
theorem print_rename_eq_patch (ρ : Ren) (hnew : ρ.new ≠ []) (e : FExpr) (triv : List Str)
    (os : List Occ) (hne : ∀ tk ∈ print e, NameNe tk) (hperm : os.Perm (occs 0 triv (print e))) :
    ∃ r, prepareFormula ρ (render triv (print e)) os = .ok r ∧
      r.getD (render triv (print e)) = render triv (print (rename ρ e)) := by
  obtain ⟨hno, happ⟩ := patches_print ρ hnew e triv os hne hperm
  exact happ ▸ prepareFormula_spec ρ _ os hno

/-- **C16 (every other character unchanged).**  Every stretch of the old text between two consecutive
    sorted patches reappears unchanged, moved by the length change of the patches before it (C37). -/
theorem rename_text_outside_patches (ρ : Ren) (hnew : ρ.new ≠ []) (e : FExpr) (triv : List Str)
    (os : List Occ) (hne : ∀ tk ∈ print e, NameNe tk) (hperm : os.Perm (occs 0 triv (print e)))
    (pre post : List Patch) (x y : Int)
    (hsplit : sortPatches (makePatches ρ (render triv (print e)) os) = pre ++ post)
    (hlo : lastEnd 0 pre ≤ x) (hxy : x ≤ y) (hhi : ∀ q ∈ post, y ≤ q.start)
    (hlen : y ≤ (render triv (print e)).length) :
    slice (render triv (print (rename ρ e))) (x + shift pre) (y + shift pre) =
      slice (render triv (print e)) x y := by
  obtain ⟨hno, happ⟩ := patches_print ρ hnew e triv os hne hperm
  obtain ⟨tb, hb, htext⟩ := Textbuilder.replacer_text_eq_applyPatches _ _ hno
  exact happ ▸ htext ▸ Textbuilder.only_patched_changed _ _ pre post x y tb hno hsplit hb hlo hxy hhi hlen

/-- The entity a rename is about, as a denotation. -/
def Ren.target : Ren → Name × Option Name
  | .col T o _ => (T, some o)
  | .tab o _ => (o, none)

theorem renTok_text_of_ne (ρ : Ren) (tk : Tok) (hok : TokOk tk) (hden : tk.den ≠ some ρ.target) :
    (renTok ρ tk).text = tk.text := by
  obtain ⟨x, rfl⟩ | ⟨t, c, rfl⟩ | ⟨t, rfl⟩ := hok.cases
  · rfl
  · cases ρ with
    | tab o n => rfl
    | col T o n => exact if_neg fun h => hden (by rw [h.1, h.2]; rfl)
  · cases ρ with
    | col T o n => rfl
    | tab o n => exact if_neg fun h => hden (by rw [h]; rfl)

theorem renTok_text_target (ρ : Ren) (tk : Tok) (hden : tk.den = some ρ.target) :
    (renTok ρ tk).text = ρ.new := by
  obtain ⟨text, den⟩ := tk
  cases hden
  cases ρ with
  | col T o n => exact if_pos ⟨rfl, rfl⟩
  | tab o n => exact if_pos rfl

/-- **C16 (rename_only_denoting_tokens).**  The renamed formula has the same pieces in the same
    order; a piece that does not denote the renamed entity — a same-named column of another table, a
    comprehension variable, a string, a keyword — keeps its text. -/
theorem rename_only_denoting_tokens (ρ : Ren) (e : FExpr) (i : Nat) (tk : Tok)
    (h : (print e)[i]? = some tk) (hden : tk.den ≠ some ρ.target) :
    (print (rename ρ e)).length = (print e).length ∧
    ((print (rename ρ e))[i]?).map (·.text) = some tk.text := by
  rw [print_rename]
  refine ⟨List.length_map _, ?_⟩
  rw [List.getElem?_map, h]
  simp only [Option.map_some]
  rw [renTok_text_of_ne ρ tk (allOk_print e tk (List.mem_of_getElem? h)) hden]

/-- A piece denoting the renamed entity is spelled with the new name. -/
theorem rename_denoting_tokens (ρ : Ren) (e : FExpr) (i : Nat) (tk : Tok)
    (h : (print e)[i]? = some tk) (hden : tk.den = some ρ.target) :
    ((print (rename ρ e))[i]?).map (·.text) = some ρ.new := by
  rw [print_rename, List.getElem?_map, h]
  exact congrArg some (renTok_text_target ρ tk hden)

/-! ### Non-vacuity: concrete inputs -/

namespace Ex
def Aa : Name := ['A', 'a']
def Bb : Name := ['B', 'b']
def idc : Name := ['i', 'd']
def n : Name := ['n']
def r : Name := ['r']
def pc : Name := ['p']
def m : Name := ['m', '2']
def x : Name := ['x']

/-- Aa(id, n, r: Ref:Bb) with rows 1,2;  Bb(id, n, p: Ref:Aa) with rows 1,2,3. -/
def doc : Doc :=
  [ { name := Aa, ids := [1, 2],
      cols := [⟨idc, .int, [.int 1, .int 2]⟩, ⟨n, .int, [.int 10, .int 20]⟩, ⟨r, .ref Bb, [.ref 2, .ref 0]⟩] },
    { name := Bb, ids := [1, 2, 3],
      cols := [⟨idc, .int, [.int 1, .int 2, .int 3]⟩, ⟨n, .int, [.int 5, .int 6, .int 7]⟩,
               ⟨pc, .ref Aa, [.ref 1, .ref 1, .ref 2]⟩] } ]

/-- `(sum([x.n for x in Bb.lookupRecords(p=$id, order_by="-n")]) + $r.n)` in table Aa. -/
def e1 : FExpr :=
  .binop .add
    (.sum (.compr (.attr (.var x) Bb n) x
      (.lookup false Bb (.kw Bb pc (.dollar Aa idc) (.kwEnd Bb (some ⟨[(true, n)], false, false⟩))))))
    (.attr (.dollar Aa r) Bb n)

/-- `[n.n for n in Bb.all]`: the comprehension variable is spelled like the column. -/
def e2 : FExpr := .compr (.attr (.var n) Bb n) n (.all Bb)

/-- `IF(($n == 1), 0, Bb.lookupOne(n=$n).p.n)` in table Aa: `$n` and the `.n` at the end are Aa.n;
    the keyword `n=` is Bb.n. -/
def e3 : FExpr :=
  .ifE (.binop .eq (.dollar Aa n) (.lit 1)) (.lit 0)
    (.attr (.attr (.lookup true Bb (.kw Bb n (.dollar Aa n) (.kwEnd Bb none))) Bb pc) Aa n)

def ρ1 : Ren := .col Bb n m
def ρ2 : Ren := .tab Bb ['C', 'c']

/-- Bb(id, n) with rows 1, 2. -/
def doc2 : Doc :=
  [ { name := Bb, ids := [1, 2], cols := [⟨idc, .int, [.int 1, .int 2]⟩, ⟨n, .int, [.int 5, .int 6]⟩] } ]
/-- `Bb.lookupOne(n=6).n` -/
def e4 : FExpr := .attr (.lookup true Bb (.kw Bb n (.lit 6) (.kwEnd Bb none))) Bb n
/-- `IF(($n<6),1,2)` -/
def e5 : FExpr := .ifE (.binop .lt (.dollar Bb n) (.lit 6)) (.lit 1) (.lit 2)
def ρ3 : Ren := .col Bb n "order_by".toList
def ρ4 : Ren := .tab Bb "IF".toList
end Ex

/-
-- FULL STATEMENT (unproved): `rename_preserves_eval` without the hypothesis `ρ.Safe`, i.e. for EVERY
-- fresh new id:
--   ∀ ρ d cur e τ row, Fresh ρ d → HasTy d cur [] e τ →
--     eval (renameDoc ρ d) (ρ.tabOf cur) row [] (rename ρ e) = renameVal ρ (eval d cur row [] e)
-- It is FALSE of the code as it is, in two ways (both replayed on the real engine by
-- harness/gx/props/c16.py, recorded findings):
--  * a column renamed to `order_by` (or `sort_by`): `Bb.lookupOne(n=6).n` becomes
--    `Bb.lookupOne(order_by=6).order_by`, where the keyword is the lookup's own sorting parameter;
--  * a table renamed to `IF` (or PREVIOUS / NEXT / RANK): the table class is defined after
--    `from functions import *` and shadows the function every formula calls.
-- (Also outside the model: the live engine's cached sort keys (DESIGN.md 11.4, C16); `eval` is
--  what a freshly loaded engine computes.)
-/
open Ex in
theorem Ex.e4_values : eval doc2 Bb 1 [] e4 = .atom (.int 6) ∧
    eval (renameDoc ρ3 doc2) Bb 1 [] (rename ρ3 e4) = .err .typeError := by decide +kernel

open Ex in
theorem Ex.e5_values : eval doc2 Bb 1 [] e5 = .atom (.int 1) ∧
    eval (renameDoc ρ4 doc2) (ρ4.tabOf Bb) 1 [] (rename ρ4 e5) = .err .typeError := by decide +kernel

open Ex in
/-- The negation of the full statement, witness 1: new column id `order_by`. -/
theorem rename_to_reserved_keyword_is_false :
    ¬ (∀ (ρ : Ren) (d : Doc) (cur : Name) (e : FExpr) (τ : Ty) (row : Nat), Fresh ρ d →
        HasTy d cur [] e τ →
        eval (renameDoc ρ d) (ρ.tabOf cur) row [] (rename ρ e) = renameVal ρ (eval d cur row [] e)) := by
  intro h
  have h2 : eval (renameDoc ρ3 doc2) Bb 1 [] (rename ρ3 e4) = renameVal ρ3 (eval doc2 Bb 1 [] e4) :=
    h ρ3 doc2 Bb e4 (.atom .int) 1 (by unfold Fresh ρ3; decide +kernel)
      (checked_hasTy e4 [] _ (by decide +kernel))
  rw [e4_values.1, e4_values.2] at h2
  cases h2

open Ex in
/-- The negation of the full statement, witness 2: new table id `IF`. -/
theorem rename_to_function_name_is_false :
    ¬ (∀ (ρ : Ren) (d : Doc) (cur : Name) (e : FExpr) (τ : Ty) (row : Nat), Fresh ρ d →
        HasTy d cur [] e τ →
        eval (renameDoc ρ d) (ρ.tabOf cur) row [] (rename ρ e) = renameVal ρ (eval d cur row [] e)) := by
  intro h
  have h2 := h ρ4 doc2 Bb e5 (.atom .int) 1 (by unfold Fresh ρ4; decide +kernel)
    (checked_hasTy e5 [] _ (by decide +kernel))
  rw [e5_values.1, e5_values.2] at h2
  cases h2

open Ex in
example : eval doc2 Bb 1 [] e4 = .atom (.int 6) ∧
    eval (renameDoc ρ3 doc2) Bb 1 [] (rename ρ3 e4) = .err .typeError := e4_values
open Ex in
example : eval doc2 Bb 1 [] e5 = .atom (.int 1) ∧
    eval (renameDoc ρ4 doc2) (ρ4.tabOf Bb) 1 [] (rename ρ4 e5) = .err .typeError := e5_values
open Ex in
example : ρ1.Safe ∧ ρ2.Safe := by unfold ρ1 ρ2 Ren.Safe; decide +kernel

open Ex in
example : Fresh ρ1 doc := by unfold Fresh ρ1; decide +kernel
open Ex in
example : Fresh ρ2 doc := by unfold Fresh ρ2; decide +kernel
open Ex in
theorem Ex.check_e1 : check doc Aa [] e1 = some (.atom .int) := by decide +kernel
open Ex in
example : check doc Aa [] e1 = some (.atom .int) := check_e1
open Ex in
example : check doc Aa [] e2 = some (.list .int) := by decide +kernel
open Ex in
example : check doc Aa [] e3 = some (.atom .int) := by decide +kernel
-- hypotheses of `rename_preserves_eval` / `rename_column_value_identical` for e1, and the values
open Ex in
example : HasTy doc Aa [] e1 (.atom .int) := checked_hasTy e1 [] _ check_e1
open Ex in
example : eval doc Aa 1 [] e1 = .atom (.int 17) := by decide +kernel
open Ex in
example : eval (renameDoc ρ1 doc) Aa 1 [] (rename ρ1 e1) = .atom (.int 17) := by decide +kernel
open Ex in
example : eval (renameDoc ρ2 doc) Aa 1 [] (rename ρ2 e1) = .atom (.int 17) := by decide +kernel
-- record-valued result under a table rename: keyed through the rename
open Ex in
example : eval doc Aa 1 [] (.dollar Aa r) = .atom (.rcd Bb 2) ∧
    eval (renameDoc ρ2 doc) Aa 1 [] (rename ρ2 (.dollar Aa r)) = .atom (.rcd ['C', 'c'] 2) := by decide +kernel
-- an error stays the same error: max([]) in row 2 of Aa (no row of Bb has n = 99)
open Ex in
example : eval doc Aa 2 [] (.max (.attr (.lookup false Bb (.kw Bb n (.lit 99) (.kwEnd Bb none))) Bb n))
    = .err .valueError := by decide +kernel
-- pieces: e2 printed, and after renaming Bb.n -> m2 only the denoting piece changed
open Ex in
example : (print e2).map (·.text) =
    [['['], n, ['.'], n, ['f', 'o', 'r'], n, ['i', 'n'], Bb, ['.'], ['a', 'l', 'l'], [']']] := by decide +kernel
open Ex in
example : (print (rename ρ1 e2)).map (·.text) =
    [['['], n, ['.'], m, ['f', 'o', 'r'], n, ['i', 'n'], Bb, ['.'], ['a', 'l', 'l'], [']']] := by decide +kernel
-- e3: renaming Aa.n leaves the keyword `n=` (Bb.n) alone and vice versa
open Ex in
example : (print (rename (.col Aa n m) e3)).map (·.text) =
    [['I', 'F'], ['('], ['('], ['$'], m, ['=', '='], ['1'], [')'], [','], ['0'], [','],
     Bb, ['.'], ['l', 'o', 'o', 'k', 'u', 'p', 'O', 'n', 'e'], ['('], n, ['='], ['$'], m, [')'],
     ['.'], pc, ['.'], m, [')']] := by decide +kernel
open Ex in
example : (print (rename ρ1 e3)).map (·.text) =
    [['I', 'F'], ['('], ['('], ['$'], n, ['=', '='], ['1'], [')'], [','], ['0'], [','],
     Bb, ['.'], ['l', 'o', 'o', 'k', 'u', 'p', 'O', 'n', 'e'], ['('], m, ['='], ['$'], n, [')'],
     ['.'], pc, ['.'], n, [')']] := by decide +kernel
-- hypotheses of `print_rename_eq_patch`: names non-empty, occurrences in reverse discovery order
open Ex in
example : ∀ tk ∈ print e2, NameNe tk := by decide +kernel
open Ex in
example : ((occs 0 [[' ']] (print e2)).reverse).Perm (occs 0 [[' ']] (print e2)) := List.reverse_perm _
open Ex in
example : ∃ r, prepareFormula ρ1 (render [[' ']] (print e2)) (occs 0 [[' ']] (print e2)).reverse = .ok r ∧
    r.getD (render [[' ']] (print e2)) = render [[' ']] (print (rename ρ1 e2)) :=
  print_rename_eq_patch ρ1 (by decide +kernel) e2 [[' ']] _ (by decide +kernel) (List.reverse_perm _)
open Ex in
example : occs 0 [[' ']] (print e2) = [(4, Bb, some n), (11, Bb, none)] := by decide +kernel
-- the patch list of `rename_text_outside_patches` for that input (one patch; the split pre = [],
-- post = [it] gives: the text before position 4 is unchanged, the split pre = [it], post = [] gives:
-- the text from position 5 on is unchanged, moved by shift = +1)
open Ex in
example : makePatches ρ1 (render [[' ']] (print e2)) (occs 0 [[' ']] (print e2)) =
    [⟨4, 5, n, m⟩] := by decide +kernel
open Ex in
example : Textbuilder.shift [(⟨4, 5, n, m⟩ : Textbuilder.Patch)] = 1 := by decide +kernel
open Ex in
example : ρ1.new ≠ [] := by decide +kernel

end Grist.FormulaRename
