/-
C13  Lookups return exactly the matching rows in documented order.
Property theorems, the definition `matching` (the naive filter) and concrete instances.  The
vocabulary (`Rel`, `Lawful`, `inSet`, `LawfulMapping`, …) is defined in GristProofs/Lookup.lean.

Reading.  The lookup index of one LookupMapColumn is an event machine (`step`): record actions write
key / sort cells of rows of the looked-up table (`setKey`, `setSort`, `unset`), the engine delivers
the pending recalculations (`deliverKey` = `update_record`, `deliverSort` =
`_reset_sorted_versions`), formulas look keys up (`lookup`).  "After arbitrary edit histories" = after
any event list; "every change was delivered" = the ghost dirty sets are empty.  Python equality of
keys is structural equality of `PV.norm`alised values (`True == 1`); `matchKey` is the column-wise
match of the property text (exact columns: `==`; CONTAINS: membership, strings are no containers,
match_empty for an empty cell).
-/
import GristProofs.LookupMachine
namespace Grist.Lookup
open Grist.SortedFind (Val keyLt Key RowId pySorted)

/-- **All five bin types satisfy the bin contract** (`Lawful`): "single", "strict", and the
    containers `set`, `list`, `LookupSet`. -/
theorem twoWayMap_bins_lawful {κ γ : Type} [DecidableEq κ] [DecidableEq γ] (hk : κ → Bool) (hv : γ → Bool) :
    Lawful (singleOps (γ := γ) hk) hk hv (wfSingle hk) ∧
    Lawful (strictOps (γ := γ) hk) hk hv (wfSingle hk) ∧
    Lawful (containerOps (setC (γ := γ)) hk hv) hk hv (wfC setC hk) ∧
    Lawful (containerOps (listC (γ := γ)) hk hv) hk hv (wfC listC hk) ∧
    Lawful (containerOps (lookupSetC (γ := γ)) hk hv) hk hv (wfC lookupSetC hk) :=
  ⟨lawful_single hk hv, lawful_strict hk hv, lawful_container setC hk hv lawfulC_set,
   lawful_container listC hk hv lawfulC_list, lawful_container lookupSetC hk hv lawfulC_lookupSet⟩

/-- **`_fwd` and `_bwd` are mutually inverse** after any sequence of `insert` / `remove` /
    `remove_left` / `remove_right` / `clear` calls on an empty map, for any pair of lawful bin types
    (so for all 25 pairs of the five above), any hashability of the values, including calls that
    raise (unhashable arguments: TypeError; "strict" violations: ValueError) and whose partial work
    the `except:` block of `insert` rolls back. -/
theorem twoWayMap_fwd_bwd_inverse {α β σL σR : Type} [DecidableEq α] [DecidableEq β]
    {L : BinOps β α σL} {R : BinOps α β σR} {hα : α → Bool} {hβ : β → Bool}
    {wfL : Dict β σL → Prop} {wfR : Dict α σR → Prop}
    (LL : Lawful L hβ hα wfL) (LR : Lawful R hα hβ wfR) (ops : List (Op α β)) (l : α) (r : β) :
    Rel R (TwoWayMap.run L R {} ops).fwd l r ↔ Rel L (TwoWayMap.run L R {} ops).bwd r l :=
  (TwoWayMap.run_wf LL LR ops (TwoWayMap.wf_empty LL LR)).inv l r

/-- **index_exact.**  After ANY event list (no ordering assumption), for every row whose key cells
    have been delivered since their last change: the row is in the LookupSet stored under `K` iff it
    is in the table and its key cells belong under `K` (`keyOf`, which is `matchKey` for both
    mappings, see the two corollaries). -/
theorem index_exact {σR : Type} {M : Mapping σR} {wfR : Dict Nat σR → Prop}
    {keyOf : List Cell → LKey → Prop} (LM : LawfulMapping M wfR keyOf) (sortCols : List String)
    (evs : List Ev) (r : Nat) (hr : r ∉ (exec M sortCols {} evs).dirtyKey) (K : LKey) :
    inSet (exec M sortCols {} evs).index K r ↔
      ∃ rd, dget r (exec M sortCols {} evs).table = some rd ∧ keyOf rd.key K :=
  (indexExact_exec LM sortCols evs (indexExact_empty LM)).exact r hr K

/-- both `keyOf` are the column-wise match: what to pass for `hmk` in `do_lookup_spec` -/
theorem simple_keyOf_match (cells : List Cell) (K : LKey) :
    simpleKeyOf cells K ↔ matchKey (cells.map (fun _ => ColKind.plain)) cells K = true := by
  rw [matchKey_plain]
  simp only [simpleKeyOf, simpleTarget]
  by_cases hh : (simpleNewKey cells).hashable = true
  · simp [hh]
    constructor
    · intro h
      exact ⟨h.symm, h ▸ hh⟩
    · intro h
      exact h.1.symm
  · simp [hh]
    intro h
    rw [h]
    simpa using hh

theorem contains_keyOf_match (kinds : List ColKind) (cells : List Cell) (K : LKey) :
    containsKeyOf kinds cells K ↔ matchKey kinds cells K = true := Iff.rfl

/-- SimpleLookupMapping: the rows under `K` are exactly the rows all of whose key cells `==` the
    corresponding element of `K` (and `K` is hashable). -/
theorem index_exact_simple (sortCols : List String) (evs : List Ev) (r : Nat)
    (hr : r ∉ (exec simpleMapping sortCols {} evs).dirtyKey) (K : LKey) :
    inSet (exec simpleMapping sortCols {} evs).index K r ↔
      ∃ rd, dget r (exec simpleMapping sortCols {} evs).table = some rd ∧
        matchKey (rd.key.map (fun _ => ColKind.plain)) rd.key K = true := by
  rw [index_exact lawful_simpleMapping sortCols evs r hr K]
  simp only [simple_keyOf_match]

/-- ContainsLookupMapping (any mix of exact and CONTAINS columns, with or without match_empty): the
    rows under `K` are exactly the rows whose cells match `K` column by column — the keys produced by
    `itertools.product` over the per-column groups are neither too few nor too many. -/
theorem index_exact_contains (kinds : List ColKind) (sortCols : List String) (evs : List Ev) (r : Nat)
    (hr : r ∉ (exec (containsMapping kinds) sortCols {} evs).dirtyKey) (K : LKey) :
    inSet (exec (containsMapping kinds) sortCols {} evs).index K r ↔
      ∃ rd, dget r (exec (containsMapping kinds) sortCols {} evs).table = some rd ∧
        matchKey kinds rd.key K = true :=
  index_exact (lawful_containsMapping kinds) sortCols evs r hr K

/-- **sorted_cache_valid.**  After any event list respecting the ordering assumption
    (`disciplined`, see `Ev.allowed`): a cached sorted version of a LookupSet all of whose rows have
    had their key-cell and (for this sort spec) sort-cell changes delivered IS the sort of the
    current set under the current sort values. -/
theorem sorted_cache_valid {σR : Type} {M : Mapping σR} {wfR : Dict Nat σR → Prop}
    {keyOf : List Cell → LKey → Prop} (LM : LawfulMapping M wfR keyOf) (sortCols : List String)
    (evs : List Ev) (hd : disciplined M sortCols {} evs)
    (K : LKey) (S : LSet Nat) (spec : SortSpec) (c : List Nat)
    (hS : dget K (exec M sortCols {} evs).index.bwd = some S) (hc : dget spec S.sorted = some c)
    (hdel : ∀ r ∈ S.elems, r ∉ (exec M sortCols {} evs).dirtyKey ∧
      (exec M sortCols {} evs).sortDirty r spec = false) :
    c = sortRows (exec M sortCols {} evs).table spec S.elems := by
  have hi := inv_exec LM sortCols evs (inv_empty LM) hd
  apply hi.cache K S spec c hS hc
  intro r hr
  refine ⟨(hdel r hr).2, ?_⟩
  rintro ⟨hs, _⟩
  exact (hdel r hr).1 (hi.seen_dirty r hs)

/-- ... so a cache hit returns the same list as a fresh sort: in such a state the `lookup` event
    answers with `sorted(set)` whether or not a cached version exists. -/
theorem lookup_hit_eq_fresh {σR : Type} {M : Mapping σR} {wfR : Dict Nat σR → Prop}
    {keyOf : List Cell → LKey → Prop} (LM : LawfulMapping M wfR keyOf) (sortCols : List String)
    (evs : List Ev) (hd : disciplined M sortCols {} evs)
    (key : LKey) (S : LSet Nat) (spec : SortSpec) (hk : specKnown sortCols spec = true)
    (hh : LKey.hashable (key.map Cell.norm) = true)
    (hS : dget (key.map Cell.norm) (exec M sortCols {} evs).index.bwd = some S)
    (hdel : ∀ r ∈ S.elems, r ∉ (exec M sortCols {} evs).dirtyKey ∧
      (exec M sortCols {} evs).sortDirty r spec = false) :
    (step M sortCols (exec M sortCols {} evs) (.lookup key spec)).2 =
      .rows (sortRows (exec M sortCols {} evs).table spec S.elems) := by
  simp only [step, hk, Bool.not_true, Bool.false_eq_true, if_false, lookupByKey, hh, if_true, hS]
  cases hc : dget spec S.sorted with
  | none => rfl
  | some c =>
    simp only
    rw [sorted_cache_valid LM sortCols evs hd _ S spec c hS hc hdel]

/-- the rows of the table whose key cells match, in table order: the "naive filter" -/
def matching (mk : List Cell → LKey → Bool) (table : Dict Nat RowData) (K : LKey) : List Nat :=
  (tableRows table).filter (fun r =>
    match dget r table with
    | some rd => mk rd.key K
    | none => false)

/-- **do_lookup_spec.**  In a state reached by any disciplined event list in which every key-cell
    change and every sort-cell change (for this spec) has been delivered, a lookup of a hashable key
    with a known sort spec answers with the naive filter of the table by the column-wise match,
    sorted by the sort key of the spec (`sortRows` = `sorted(..., key=SortKey)`); the answer does not
    depend on cached versions, on the order in which rows entered the set, or on the table's row
    order. -/
theorem do_lookup_spec {σR : Type} {M : Mapping σR} {wfR : Dict Nat σR → Prop}
    {keyOf : List Cell → LKey → Prop} (LM : LawfulMapping M wfR keyOf)
    (mk : List Cell → LKey → Bool) (hmk : ∀ cells K, keyOf cells K ↔ mk cells K = true)
    (sortCols : List String) (evs : List Ev) (hd : disciplined M sortCols {} evs)
    (hkeys : (exec M sortCols {} evs).dirtyKey = [])
    (key : LKey) (spec : SortSpec)
    (hsort : ∀ r, (exec M sortCols {} evs).sortDirty r spec = false)
    (hk : specKnown sortCols spec = true) (hh : LKey.hashable (key.map Cell.norm) = true) :
    (step M sortCols (exec M sortCols {} evs) (.lookup key spec)).2 =
      .rows (sortRows (exec M sortCols {} evs).table spec
        (matching mk (exec M sortCols {} evs).table (key.map Cell.norm))) := by
  have hi := inv_exec LM sortCols evs (inv_empty LM) hd
  have hnd : (tableRows (exec M sortCols {} evs).table).Nodup := hi.nodup
  have hmem : ∀ r, r ∈ matching mk (exec M sortCols {} evs).table (key.map Cell.norm) ↔
      inSet (exec M sortCols {} evs).index (key.map Cell.norm) r := by
    intro r
    rw [hi.exact r (by rw [hkeys]; simp) _]
    simp only [matching, List.mem_filter, mem_tableRows_iff]
    constructor
    · rintro ⟨⟨rd, h1⟩, h2⟩
      rw [h1] at h2
      exact ⟨rd, h1, (hmk _ _).mpr h2⟩
    · rintro ⟨rd, h1, h2⟩
      exact ⟨⟨rd, h1⟩, by rw [h1]; exact (hmk _ _).mp h2⟩
  cases hS : dget (key.map Cell.norm) (exec M sortCols {} evs).index.bwd with
  | none =>
    have hempty : matching mk (exec M sortCols {} evs).table (key.map Cell.norm) = [] := by
      apply List.eq_nil_iff_forall_not_mem.mpr
      intro r hr
      obtain ⟨S, h1, _⟩ := (hmem r).mp hr
      rw [hS] at h1
      simp at h1
    simp only [step, hk, Bool.not_true, Bool.false_eq_true, if_false, lookupByKey, hh, if_true, hS]
    rw [hempty]
    rfl
  | some S =>
    rw [lookup_hit_eq_fresh LM sortCols evs hd key S spec hk hh hS
      (fun r _ => ⟨by rw [hkeys]; simp, hsort r⟩)]
    congr 1
    have hSnd : S.elems.Nodup := (hi.good.wfB _ S hS).2.1
    apply sortRows_eq_of_perm
    apply (List.perm_ext_iff_of_nodup hSnd (List.Sublist.nodup List.filter_sublist hnd)).mpr
    intro r
    show r ∈ S.elems ↔ r ∈ matching mk (exec M sortCols {} evs).table (key.map Cell.norm)
    rw [hmem r, inSet_iff]
    constructor
    · intro h
      exact ⟨S, hS, h⟩
    · rintro ⟨S', h1, h2⟩
      rw [hS] at h1
      injection h1 with h1
      subst h1
      exact h2

/-- The sorted list is in the documented order: strictly increasing under `SortKey.__lt__` for the
    spec (`rowLt`: the spec's columns in order, '-' columns reversed, then row id — C14's
    `keyLt_strictWeakOrder` says this is a strict weak order; on distinct rows it is total), and it is
    a permutation of the matching rows: nothing lost, nothing added, nothing repeated. -/
theorem do_lookup_sorted (mk : List Cell → LKey → Bool) (table : Dict Nat RowData)
    (hnd : (tableRows table).Nodup) (spec : SortSpec) (K : LKey) :
    (sortRows table spec (matching mk table K)).Perm (matching mk table K) ∧
    (sortRows table spec (matching mk table K)).Pairwise (fun a b => rowLt table spec a b = true) :=
  ⟨sortRows_perm table spec _,
   sortRows_strict table spec (List.Sublist.nodup List.filter_sublist hnd)⟩

set_option linter.unusedVariables false in
/-- **sorted_perm_invariant.**  `sorted(row_id_set, key=sort_key)` does not depend on the set's
    iteration order: any two duplicate-free listings of the same rows sort to the same list (the row
    id is the last sort component, so the order is total). -/
theorem sorted_perm_invariant (table : Dict Nat RowData) (spec : SortSpec) {l1 l2 : List Nat}
    (hp : l1.Perm l2) (hnd : l1.Nodup) : sortRows table spec l1 = sortRows table spec l2 :=
  sortRows_eq_of_perm table spec hp

/-- **lookupOne** = the first row of the ordered result or the empty record: for a result that is
    strictly sorted (as `do_lookup_sorted` gives) and consists of real row ids (≠ 0), `get_one` is `0`
    exactly when nothing matches, and otherwise it is a matching row that comes before every other
    matching row in the documented order. -/
theorem lookupOne_spec (table : Dict Nat RowData) (spec : SortSpec) (rs : List Nat) (h0 : 0 ∉ rs)
    (hs : rs.Pairwise (fun a b => rowLt table spec a b = true)) :
    (getOne rs = 0 ↔ rs = []) ∧
    (rs ≠ [] → getOne rs ∈ rs ∧ ∀ r ∈ rs, r ≠ getOne rs → rowLt table spec (getOne rs) r = true) := by
  cases rs with
  | nil => simp [getOne]
  | cons x t =>
    simp only [getOne]
    refine ⟨?_, ?_⟩
    · constructor
      · intro h
        exact absurd (h ▸ List.mem_cons_self) h0
      · intro h
        simp at h
    · intro _
      refine ⟨List.mem_cons_self, ?_⟩
      intro r hr hne
      rcases List.mem_cons.mp hr with e | e
      · exact absurd e hne
      · exact (List.pairwise_cons.mp hs).1 r e

theorem upToId_eq_takeWhile (t : List String) : upToId t = t.takeWhile (· != "id") := by
  induction t with
  | nil => rfl
  | cons c cs ih =>
    by_cases e : c = "id"
    · simp [upToId, e, List.takeWhile]
    · have : (c != "id") = true := by simp [e]
      simp [upToId, e, List.takeWhile, this, ih]

/-- The five conjuncts, in order:
    1. a non-empty `sort_by` string is the whole spec — its column, then (always) the row id; no
       manualSort fallback;
    2. otherwise the spec is the order_by tuple (a single string counts as a 1-tuple, None as the
       empty tuple) cut before the first 'id' when 'id' is given, else with 'manualSort' appended when
       the table has that column and the tuple does not name it already, else unchanged; an order_by
       that is neither tuple, string nor None is a TypeError;
    3. a column spec "-c" means column c descending,
    4. any other spec means that column ascending;
    5. a truthy non-string `sort_by` is a TypeError. -/
theorem make_sort_spec_spec (hasManual : Bool) :
    (∀ ob s, s ≠ "" → makeSortSpec ob (.str s) hasManual = .ok [s]) ∧
    (∀ t sb, sb = SortBy.none ∨ sb = SortBy.str "" →
      makeSortSpec (.tuple t) sb hasManual =
        .ok (if "id" ∈ t then t.takeWhile (· != "id")
             else if hasManual = true ∧ "manualSort" ∉ t then t ++ ["manualSort"] else t) ∧
      makeSortSpec (.str s) sb hasManual = makeSortSpec (.tuple [s]) sb hasManual ∧
      makeSortSpec .none sb hasManual = makeSortSpec (.tuple []) sb hasManual ∧
      makeSortSpec .other sb hasManual = .error .typeError) ∧
    (∀ c : String, parseColSpec ("-" ++ c) = (c, true)) ∧
    (∀ s : String, s.toList.head? ≠ some '-' → parseColSpec s = (s, false)) ∧
    (∀ ob, makeSortSpec ob .other hasManual = .error .typeError) := by
  refine ⟨?_, ?_, ?_, ?_, ?_⟩
  · intro ob s hs
    have : s.isEmpty = false := by
      cases h : s.isEmpty with
      | false => rfl
      | true => exact absurd (String.isEmpty_iff.mp h) hs
    simp [makeSortSpec, this]
  · intro t sb hsb
    -- a falsy `sort_by` is no `sort_by`
    have e : ∀ ob, makeSortSpec ob sb hasManual = makeSortSpec ob .none hasManual := by
      intro ob; rcases hsb with rfl | rfl <;> rfl
    refine ⟨?_, by rw [e, e]; rfl, by rw [e, e]; rfl, by rw [e]; rfl⟩
    rw [e]
    simp only [makeSortSpec, List.contains_iff_mem]
    by_cases h1 : "id" ∈ t
    · simp [h1, upToId_eq_takeWhile]
    · by_cases h2 : "manualSort" ∈ t <;> cases hasManual <;> simp [h1, h2]
  · intro c
    simp [parseColSpec, String.toList_append]
  · intro s hs
    simp only [parseColSpec]
    cases h : s.toList with
    | nil => rfl
    | cons a rest =>
      rw [h] at hs
      simp only [List.head?_cons, ne_eq, Option.some.injEq] at hs
      split
      next heq => injection heq with h1 _; exact absurd h1 hs
      · rfl
  · intro ob
    simp [makeSortSpec]

/-! ### Non-vacuity: concrete instances -/

section examples

/-- a failing insert in a map with a "strict" right bin and a `set` left bin, then more calls -/
def exOps : List (Op Nat Nat) :=
  [.insert 1 10, .insert 1 11, .insert 2 10, .removeLeft 1, .insert 3 10, .remove 2 10]

example : (TwoWayMap.run (containerOps (setC (γ := Nat)) (fun _ => true) (fun _ => true))
    (strictOps (γ := Nat) (fun _ => true)) {} exOps).fwd = [(3, 10)] := by decide
-- the second call raised ValueError and changed nothing:
example : ((({} : TwoWayMap Nat Nat (List Nat) Nat).insert
    (containerOps (setC (γ := Nat)) (fun _ => true) (fun _ => true))
    (strictOps (γ := Nat) (fun _ => true)) 1 10).1.insert
    (containerOps (setC (γ := Nat)) (fun _ => true) (fun _ => true))
    (strictOps (γ := Nat) (fun _ => true)) 1 11).2 = some .valueError := by decide
example (l r : Nat) := twoWayMap_fwd_bwd_inverse
  (lawful_container (setC (γ := Nat)) (fun _ => true) (fun _ => true) lawfulC_set)
  (lawful_strict (γ := Nat) (fun _ => true) (fun _ => true)) exOps l r

/-- a history on a one-exact-column index: three rows, key change, unhashable key, removal;
    sort column "s" with a descending lookup -/
def exEvs : List Ev :=
  [.setKey 1 [.v (.int 5)], .setSort 1 [("s", Val.int 3)], .deliverKey 1,
   .setKey 2 [.v (.bool true)], .setSort 2 [("s", Val.int 1)], .deliverKey 2,
   .setKey 3 [.v (.int 1)], .setSort 3 [("s", Val.int 2)], .deliverKey 3,
   .deliverSort 1 ["-s"], .deliverSort 2 ["-s"], .deliverSort 3 ["-s"],
   .lookup [.v (.int 1)] ["-s"],
   .setKey 1 [.v (.int 1)], .setSort 1 [("s", Val.int 9)], .deliverSort 1 ["-s"], .deliverKey 1,
   .setKey 2 [.lst [.int 1]], .deliverKey 2]

-- the event list respects the ordering assumption (decidable on a concrete list)
example : disciplined simpleMapping ["s"] {} exEvs := by
  decide +kernel

-- all deliveries done for key and for spec ["-s"]; True == 1 put row 2 under key (1,) until its
-- cell became a list (unhashable: under no key)
example : (exec simpleMapping ["s"] {} exEvs).dirtyKey = [] := by decide +kernel
example : ∀ r ∈ [1, 2, 3], (exec simpleMapping ["s"] {} exEvs).sortDirty r ["-s"] = false := by decide +kernel
example : specKnown ["s"] ["-s"] = true ∧ LKey.hashable ([Cell.v (.bool true)].map Cell.norm) = true := by decide
-- a different listing of the same set sorts to the same list
example : sortRows (exec simpleMapping ["s"] {} exEvs).table ["-s"] [3, 1] =
    sortRows (exec simpleMapping ["s"] {} exEvs).table ["-s"] [1, 3] :=
  sorted_perm_invariant _ _ (List.Perm.swap 1 3 []) (by decide)
example : (step simpleMapping ["s"] (exec simpleMapping ["s"] {} exEvs) (.lookup [.v (.bool true)] ["-s"])).2
    = .rows [1, 3] := by decide +kernel
example : matching (fun cells K => matchKey (cells.map (fun _ => ColKind.plain)) cells K)
    (exec simpleMapping ["s"] {} exEvs).table [.v (.int 1)] = [1, 3] := by decide +kernel

/-- CONTAINS with match_empty = "": list cell, empty list, string cell, None cell -/
def exEvsC : List Ev :=
  [.setKey 1 [.lst [.str "a", .str "b", .str "a"]], .deliverKey 1,
   .setKey 2 [.lst []], .deliverKey 2,
   .setKey 3 [.v (.str "ab")], .deliverKey 3,
   .setKey 4 [.v .none], .deliverKey 4,
   .setKey 1 [.lst [.str "b"]], .deliverKey 1]

example : (step (containsMapping [.contains (some (.str ""))]) [] (exec (containsMapping
    [.contains (some (.str ""))]) [] {} exEvsC) (.lookup [.v (.str "")] [])).2 = .rows [2, 4] := by decide +kernel
example : (step (containsMapping [.contains (some (.str ""))]) [] (exec (containsMapping
    [.contains (some (.str ""))]) [] {} exEvsC) (.lookup [.v (.str "a")] [])).2 = .rows [] := by decide +kernel

example : makeSortSpec (.tuple ["a", "-b", "id", "c"]) .none true = .ok ["a", "-b"] := by rfl
example : makeSortSpec (.str "-a") .none true = .ok ["-a", "manualSort"] := by rfl
example : makeSortSpec (.tuple ["-manualSort"]) .none true = .ok ["-manualSort", "manualSort"] := by rfl
example : makeSortSpec (.tuple ["a"]) (.str "s") true = .ok ["s"] := by rfl

example : getOne [3, 1] = 3 ∧ getOne [] = 0 := by decide

end examples

/-! ### Why `sorted_cache_valid` carries the ordering assumption

FULL STATEMENT (unproved, and false for the event machine with completely arbitrary interleavings):
  the conclusion of `sorted_cache_valid` for EVERY event list (without `disciplined`).
Counterexample (`exBad` below): a row's key and sort cells are written, `_reset_sorted_versions` runs
for it BEFORE `update_record` and pops the cache of the NEW key only, the key cells are then written
back to the old key before `update_record` ever runs (which then sees "no change"): the set under
the old key keeps a sorted version computed with the old sort value.  The engine recalculates only
after all doc actions of a bundle, so this interleaving is not produced by it; the check replays
every real event stream against `Ev.allowed` and reports a stream that violates it. -/

def exBad : List Ev :=
  [.setKey 1 [.v (.int 1)], .setSort 1 [("s", Val.int 1)], .deliverKey 1,
   .setKey 2 [.v (.int 1)], .setSort 2 [("s", Val.int 2)], .deliverKey 2,
   .deliverSort 1 ["s"], .deliverSort 2 ["s"],
   .lookup [.v (.int 1)] ["s"],                       -- caches [1, 2]
   .setKey 1 [.v (.int 7)], .setSort 1 [("s", Val.int 5)],
   .deliverSort 1 ["s"],                              -- pops the set of key (7,): nothing there
   .setKey 1 [.v (.int 1)],                           -- NOT allowed: row 1 is in `seen`
   .deliverKey 1]                                     -- old key == new key: nothing happens

example : ¬ disciplined simpleMapping ["s"] {} exBad := by
  decide +kernel
-- everything delivered, yet the cached version [1, 2] is not the fresh sort [2, 1]:
example : (exec simpleMapping ["s"] {} exBad).dirtyKey = [] ∧
    (exec simpleMapping ["s"] {} exBad).sortDirty 1 ["s"] = false ∧
    (step simpleMapping ["s"] (exec simpleMapping ["s"] {} exBad) (.lookup [.v (.int 1)] ["s"])).2
      = .rows [1, 2] ∧
    sortRows (exec simpleMapping ["s"] {} exBad).table ["s"] [1, 2] = [2, 1] := by decide +kernel

end Grist.Lookup
