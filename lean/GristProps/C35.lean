/-
C35  SCHEDULE yields exactly the scheduled occurrences.
Property theorems, witnesses on concrete inputs, and the candidate stream in closed form
(`fixedOcc`, `monthOcc`).  Model: GristModel/Schedule.lean (functions/schedule.py + DATE of
functions/date.py).

Vocabulary used in the statements
  datetime            one `Int`, microseconds since 1970-01-01T00:00 (naive local time)
  `fom i`             day number of the 1st of month `i = 12*year + (month-1)`
  `day1900`           day number of 1900-01-01 (`DATE` adds 1900 to earlier years: see bottom)
  `upTo stop t`       `not (end is not None and t > end)`
  `iterB sch b k`     the boundary after `k` applications of `interval.add_to`
  `FixedWF sch n`     `n-week/day/hour/minute/second`, n ≥ 1, slots = increasing offsets in [0, n units)
  `MonthWF sch M`     interval of M ≥ 1 months (years: M = 12n), slots = increasing (months, offset)
                      with months < M and offset < 28 days
  `InOrder sch b`     the property's precondition read on the model: in every pass the slot times
                      are strictly increasing and lie in [boundary, next boundary)
  `SmallNumbers spec` every numeric field the recognisers extract from the string is <= 10^7
-/
import GristProofs.ScheduleUnits
import GristProofs.ScheduleParse
namespace Grist.Schedule

/-- **C35 (boundary, fixed units).** `_round_down_to_unit` returns the last multiple of the unit
    (weeks: the last Sunday 00:00) at or before `start`. -/
theorem boundary_fixed (t : Int) (u : TUnit) (hu : u ≠ .years ∧ u ≠ .months) :
    roundDown t u ≤ t ∧ t < roundDown t u + u.us ∧
    (match u with
      | .weeks => roundDown t u % usDay = 0 ∧ (dayOf (roundDown t u) + 4) % 7 = 0
      | _ => roundDown t u % u.us = 0) := by
  obtain ⟨h1, h2⟩ := hu
  cases u
  · exact absurd rfl h1
  · exact absurd rfl h2
  · simp only [roundDown, TUnit.us, dayOf, usWeek, usDay]
    omega
  all_goals exact floor_multiple t _ (by decide)

example : roundDown 1536069600000000 .weeks = 1535846400000000 := by decide +kernel  -- Tue 2018-09-04 14:00 -> Sun 09-02

/-- **C35 (boundary, month and year units).** The boundary is the first of the month (years: of
    January) at 00:00 at or before `start`, and `start` is before the next interval. -/
theorem boundary_monthly (sch : Sched) (M : Int) (iv : MonthIv sch M) (t : Int) :
    ∃ i, roundDown t sch.unit = fom i * usDay ∧ fom i * usDay ≤ t ∧ t < fom (i + M) * usDay ∧
      (sch.unit = .years → i % 12 = 0) := by
  rcases iv.unit_month with hu | ⟨hu, hM⟩
  · refine ⟨monthIdx (dayOf t), by rw [hu, roundDown_months], (months_window t).1, ?_, ?_⟩
    · exact Int.lt_of_lt_of_le (months_window t).2 (fom_usDay_le (by have := iv.m_pos; omega))
    · intro h
      rw [hu] at h
      cases h
  · refine ⟨(civilFromDays (dayOf t)).1 * 12, by rw [hu, roundDown_years], (years_window t).1, ?_, ?_⟩
    · exact Int.lt_of_lt_of_le (years_window t).2 (fom_usDay_le (by have := iv.m_pos; omega))
    · intro _
      omega

/-- candidates of the first `K` intervals for a fixed-length unit: boundary + k·interval + slot -/
def fixedOcc (sch : Sched) (n b : Int) (K : Nat) : List Int :=
  (List.range K).flatMap (fun (k : Nat) => sch.slots.map (fun s => b + (k : Int) * (n * sch.unit.us) + s.us))

/-- candidates of the first `K` intervals for month-based units: the first of month
    `i + k·M + slot.months`, plus the slot's offset -/
def monthOcc (sch : Sched) (M i : Int) (K : Nat) : List Int :=
  (List.range K).flatMap (fun (k : Nat) => sch.slots.map
    (fun s => fom (i + (k : Int) * M + s.months) * usDay + s.us))

theorem occFrom_fixed {sch : Sched} {n : Int} (wf : FixedWF sch n) (b : Int)
    (hb : day1900 ≤ dayOf b) (K : Nat) : occFrom sch b K = fixedOcc sch n b K := by
  rw [occFrom_eq_flatMap, fixedOcc]
  congr 1
  funext k
  exact wf.outs_eq b hb k

theorem occFrom_month {sch : Sched} {M : Int} (wf : MonthWF sch M) (i : Int)
    (hb : day1900 ≤ fom i) (K : Nat) : occFrom sch (fom i * usDay) K = monthOcc sch M i K := by
  rw [occFrom_eq_flatMap, monthOcc]
  congr 1
  funext k
  exact wf.outs_eq i hb k

theorem fixed_start_lt {sch : Sched} {n : Int} (iv : FixedIv sch n) (start : Int)
    (h1900 : day1900 ≤ dayOf (roundDown start sch.unit)) :
    start ≤ sch.interval.addTo (roundDown start sch.unit) := by
  rw [iv.interval_eq, addTo_fixed _ _ rfl h1900]
  have := boundary_fixed start sch.unit iv.unit_fixed
  have := iv.period_ge
  show start ≤ _ + n * sch.unit.us
  omega

theorem month_start_lt {sch : Sched} {M : Int} (iv : MonthIv sch M) (start : Int)
    (h1900 : day1900 ≤ dayOf (roundDown start sch.unit)) :
    ∃ i, roundDown start sch.unit = fom i * usDay ∧ fom i * usDay ≤ start ∧ day1900 ≤ fom i ∧
      start ≤ sch.interval.addTo (fom i * usDay) := by
  obtain ⟨i, hi, h1, h2, _⟩ := boundary_monthly sch M iv start
  rw [hi, dayOf_fom] at h1900
  refine ⟨i, hi, h1, h1900, ?_⟩
  rw [iv.addTo_interval i h1900]
  exact Int.le_of_lt h2

/-- **C35 (series, fixed-length units).** For `n-week/day/hour/minute/second` schedules with
    `n ≥ 1` and slots increasing inside one interval (boundary not before 1900), every run with at
    least `count + 2` passes of fuel returns exactly the first `count` elements, in order, of
    `{boundary + k·n·unit + slot | k ≥ 0} ∩ [start, end]`. -/
theorem series_spec_fixed (sch : Sched) (n : Int) (wf : FixedWF sch n) (start : Int)
    (stop : Option Int) (count : Int) (fuel K : Nat)
    (h1900 : day1900 ≤ dayOf (roundDown start sch.unit))
    (hf : count.toNat + 2 ≤ fuel) (hK : count.toNat + 2 ≤ K) :
    series sch start stop count fuel =
      some (((fixedOcc sch n (roundDown start sch.unit) K).filter
        (fun t => decide (start ≤ t) && upTo stop t)).take count.toNat) := by
  unfold series
  rw [seriesFuel_ordered sch start stop _ _ wf.slots_ne (wf.inOrder _ h1900)
    (fixed_start_lt wf.toFixedIv start h1900) fuel K hf hK, occFrom_fixed wf _ h1900]

/-- `2-day: 12am, 4pm, +1d 8am` (docstring) satisfies the hypotheses -/
example : FixedWF ⟨.days, ⟨0, 2 * usDay⟩, [⟨0, 0⟩, ⟨0, 16 * usHour⟩, ⟨0, usDay + 8 * usHour⟩]⟩ 2 :=
  { unit_fixed := by decide, n_pos := by decide, interval_eq := by decide, slots_ne := by decide,
    slots_months := by decide, slots_window := by decide, slots_sorted := by decide }

/-- **C35 (series, month and year units).** Same for intervals of `M ≥ 1` months. -/
theorem series_spec_months (sch : Sched) (M : Int) (wf : MonthWF sch M) (start : Int)
    (stop : Option Int) (count : Int) (fuel K : Nat)
    (h1900 : day1900 ≤ dayOf (roundDown start sch.unit))
    (hf : count.toNat + 2 ≤ fuel) (hK : count.toNat + 2 ≤ K) :
    ∃ i, roundDown start sch.unit = fom i * usDay ∧ fom i * usDay ≤ start ∧
      series sch start stop count fuel =
        some (((monthOcc sch M i K).filter
          (fun t => decide (start ≤ t) && upTo stop t)).take count.toNat) := by
  obtain ⟨i, hi, h1, hb, hlt⟩ := month_start_lt wf.toMonthIv start h1900
  refine ⟨i, hi, h1, ?_⟩
  unfold series
  rw [hi, seriesFuel_ordered sch start stop _ _ wf.slots_ne (wf.inOrder i hb) hlt fuel K hf hK,
    occFrom_month wf i hb]

/-- `3-months: /10, +1m /20` (docstring) satisfies the hypotheses -/
example : MonthWF ⟨.months, ⟨3, 0⟩, [⟨0, 9 * usDay⟩, ⟨1, 19 * usDay⟩]⟩ 3 :=
  { unit_month := by decide, m_pos := by decide, interval_eq := by decide, slots_ne := by decide,
    slots_window := by decide, slots_sorted := by decide }

/-- **C35 (series, the property's own precondition).** Whatever the unit: under `InOrder`, and with
    `start` before the second boundary, the result is strictly increasing and nothing in
    `[start, end]` is skipped: a candidate that is missing is later than everything returned and
    the result is then full. -/
theorem series_exact (sch : Sched) (start : Int) (stop : Option Int) (count : Int)
    (hne : sch.slots ≠ []) (hord : InOrder sch (roundDown start sch.unit))
    (hb : start ≤ sch.interval.addTo (roundDown start sch.unit)) :
    ∃ r : List Int,
      (∀ fuel, count.toNat + 2 ≤ fuel → series sch start stop count fuel = some r) ∧
      r.Pairwise (· < ·) ∧ r.length ≤ count.toNat ∧
      (∀ x ∈ r, start ≤ x ∧ upTo stop x = true ∧
        ∃ k : Nat, ∃ s ∈ sch.slots, x = s.addTo (iterB sch (roundDown start sch.unit) k)) ∧
      (∀ (k : Nat) (s : Delta), s ∈ sch.slots →
        start ≤ s.addTo (iterB sch (roundDown start sch.unit) k) →
        upTo stop (s.addTo (iterB sch (roundDown start sch.unit) k)) = true →
        s.addTo (iterB sch (roundDown start sch.unit) k) ∈ r ∨
          (r.length = count.toNat ∧
            ∀ y ∈ r, y < s.addTo (iterB sch (roundDown start sch.unit) k))) :=
  seriesFuel_exact sch start stop _ _ hne hord hb

/-- the precondition of `series_exact` holds for the two syntactic classes above -/
theorem inOrder_fixed (sch : Sched) (n : Int) (wf : FixedWF sch n) (start : Int)
    (h1900 : day1900 ≤ dayOf (roundDown start sch.unit)) :
    InOrder sch (roundDown start sch.unit) ∧
      start ≤ sch.interval.addTo (roundDown start sch.unit) :=
  ⟨wf.inOrder _ h1900, fixed_start_lt wf.toFixedIv start h1900⟩

theorem inOrder_months (sch : Sched) (M : Int) (wf : MonthWF sch M) (start : Int)
    (h1900 : day1900 ≤ dayOf (roundDown start sch.unit)) :
    InOrder sch (roundDown start sch.unit) ∧
      start ≤ sch.interval.addTo (roundDown start sch.unit) := by
  obtain ⟨i, hi, _, hb, hlt⟩ := month_start_lt wf.toMonthIv start h1900
  rw [hi]
  exact ⟨wf.inOrder i hb, hlt⟩

/-- the elements of `series_exact` in closed form (fixed units) -/
theorem candidate_fixed (sch : Sched) (n : Int) (wf : FixedWF sch n) (b : Int)
    (hb : day1900 ≤ dayOf b) (k : Nat) (s : Delta) (hs : s ∈ sch.slots) :
    s.addTo (iterB sch b k) = b + (k : Int) * (n * sch.unit.us) + s.us :=
  wf.addTo_iterB b hb k s hs

/-- the elements of `series_exact` in closed form (month-based units) -/
theorem candidate_months (sch : Sched) (M : Int) (wf : MonthWF sch M) (i : Int)
    (hb : day1900 ≤ fom i) (k : Nat) (s : Delta) :
    s.addTo (iterB sch (fom i * usDay) k) = fom (i + (k : Int) * M + s.months) * usDay + s.us :=
  wf.toMonthIv.addTo_iterB i hb k s

/-- **C35 (termination, fixed units).** With an interval of `n ≥ 1` units and slots that are
    non-negative offsets (no order, no window needed), `count + 2` passes always suffice. -/
theorem series_terminates_fixed (sch : Sched) (n : Int) (iv : FixedIv sch n)
    (hne : sch.slots ≠ []) (hslots : ∀ s ∈ sch.slots, s.months = 0 ∧ 0 ≤ s.us)
    (start : Int) (stop : Option Int) (count : Int) (fuel : Nat)
    (h1900 : day1900 ≤ dayOf (roundDown start sch.unit)) (hf : count.toNat + 2 ≤ fuel) :
    (series sch start stop count fuel).isSome = true := by
  have hb := fixed_start_lt iv start h1900
  have hP := iv.period_ge
  have hL := unit_us_pos iv.unit_fixed
  have e : sch.interval.addTo (roundDown start sch.unit)
      = roundDown start sch.unit + n * sch.unit.us := by
    rw [iv.interval_eq, addTo_fixed _ _ rfl h1900]
  exact series_terminates sch start stop count hne
    (iv.progress _ start (by rw [e]; exact Int.le_trans h1900 (dayOf_mono (by omega))) hb hslots)
    fuel hf

/-- **C35 (termination, month-based units).** -/
theorem series_terminates_months (sch : Sched) (M : Int) (iv : MonthIv sch M)
    (hne : sch.slots ≠ []) (hslots : ∀ s ∈ sch.slots, 0 ≤ s.months ∧ 0 ≤ s.us)
    (start : Int) (stop : Option Int) (count : Int) (fuel : Nat)
    (h1900 : day1900 ≤ dayOf (roundDown start sch.unit)) (hf : count.toNat + 2 ≤ fuel) :
    (series sch start stop count fuel).isSome = true := by
  obtain ⟨i, hi, _, hb, hlt⟩ := month_start_lt iv start h1900
  refine series_terminates sch start stop count hne ?_ fuel hf
  rw [hi]
  rw [iv.addTo_interval i hb] at hlt ⊢
  have h1 := iv.fom_le hb 1
  rw [Int.natCast_one, Int.one_mul] at h1
  exact iv.progress (i + M) start h1 hlt hslots

/-- **C35 (an interval of 0 units never terminates).** If the interval is zero and every slot
    time of the boundary's unit lies before `start`, no amount of fuel ends the loop.
    `SCHEDULE("0-day: 1am", start=02:00)` is such an input: the real code hangs. -/
theorem zero_interval_diverges (sch : Sched) (start : Int) (stop : Option Int) (count : Int)
    (hz : sch.interval = { months := 0, us := 0 }) (hc : 0 < count)
    (h1900 : day1900 ≤ dayOf (roundDown start sch.unit))
    (hall : ∀ s ∈ sch.slots, s.addTo (roundDown start sch.unit) < start) :
    ∀ fuel, series sch start stop count fuel = none := by
  intro fuel
  unfold series
  exact seriesFuel_stuck sch start stop _ _ (by omega)
    (by rw [hz, addTo_fixed _ _ rfl h1900]; exact Int.add_zero _) hall fuel

/-! ### where the code as it is violates the property (witnesses, replayed on the real code by
    harness/gx/props/c35.py) -/

-- the witnesses below compare results of `parse` (`Except Err Sched`) by `decide`; core has no
-- `DecidableEq (Except ε α)`
deriving instance DecidableEq for Except

/-- 2018-09-04T00:00 -/
def d20180904 : Int := 17778 * usDay

-- (1) An interval of 0 units is accepted by the parser and never advances.
-- FULL STATEMENT (unproved): every schedule the parser accepts terminates:
--   ∀ spec sch start stop count, parse spec = .ok sch → ∃ fuel, (series sch start stop count fuel).isSome
/-- the parser accepts `0-day: 1am` -/
theorem zero_interval_accepted :
    parse "0-day: 1am".toList = .ok ⟨.days, ⟨0, 0⟩, [⟨0, usHour⟩]⟩ := by decide +kernel

/-- `SCHEDULE("0-day: 1am", start=2018-09-04 02:00, count=1)` runs forever -/
theorem zero_interval_witness :
    ¬ ∃ fuel, (series ⟨.days, ⟨0, 0⟩, [⟨0, usHour⟩]⟩ (d20180904 + 2 * usHour) none 1 fuel).isSome := by
  rintro ⟨fuel, h⟩
  rw [zero_interval_diverges _ _ none 1 rfl (by decide) (by decide) (by decide) fuel] at h
  cases h

/-- ... and with `start=00:00, count=3` it returns the same time three times (not increasing) -/
example : series ⟨.days, ⟨0, 0⟩, [⟨0, usHour⟩]⟩ d20180904 none 3 5
    = some [d20180904 + usHour, d20180904 + usHour, d20180904 + usHour] := by decide +kernel

-- (2) `DATE` adds 1900 to years below 1900, so a boundary before 1900-01-01 jumps to 3750.
-- FULL STATEMENT (unproved): `series_spec_fixed` / `series_spec_months` / the termination
--   theorems without the hypothesis `day1900 ≤ dayOf (roundDown start sch.unit)`.
/-- `SCHEDULE("daily: 07:30", start=1850-09-04 14:00, count=2)` = 3750-09-04 07:30, 3750-09-05 07:30
    although `daily: 07:30` satisfies `FixedWF` -/
theorem before_1900_witness :
    FixedWF ⟨.days, ⟨0, usDay⟩, [⟨0, 27000000000⟩]⟩ 1 ∧
    series ⟨.days, ⟨0, usDay⟩, [⟨0, 27000000000⟩]⟩ (daysFromCivil 1850 9 4 * usDay + 14 * usHour) none 2 4
      = some [daysFromCivil 3750 9 4 * usDay + 27000000000,
              daysFromCivil 3750 9 5 * usDay + 27000000000] ∧
    ¬ series ⟨.days, ⟨0, usDay⟩, [⟨0, 27000000000⟩]⟩ (daysFromCivil 1850 9 4 * usDay + 14 * usHour) none 2 4
      = some (((fixedOcc ⟨.days, ⟨0, usDay⟩, [⟨0, 27000000000⟩]⟩ 1
          (roundDown (daysFromCivil 1850 9 4 * usDay + 14 * usHour) .days) 4).filter
          (fun t => decide (daysFromCivil 1850 9 4 * usDay + 14 * usHour ≤ t) && upTo none t)).take 2) := by
  refine ⟨{ unit_fixed := by decide, n_pos := by decide, interval_eq := by decide,
            slots_ne := by decide, slots_months := by decide, slots_window := by decide,
            slots_sorted := by decide }, by decide +kernel, by decide +kernel⟩

/-- a week-based schedule started on Wed 1900-01-03 rounds down to Sun 1899-12-31 and jumps too -/
example : series ⟨.weeks, ⟨0, usWeek⟩, [⟨0, 0⟩]⟩ (daysFromCivil 1900 1 3 * usDay) none 1 3
    = some [daysFromCivil 3799 12 31 * usDay] := by decide +kernel

-- (3) A numeral too large for `timedelta` raises OverflowError, not ValueError.
-- FULL STATEMENT (unproved): ∀ spec e, parse spec = .error e → e = .value
theorem overflow_witness :
    ¬ ∀ spec e, parse spec = .error e → e = .value := by
  intro h
  have := h "daily: +99999999999d".toList .overflow (by decide +kernel)
  cases this

/-- **C35 (invalid strings raise ValueError, partial).** `parse` is total into `Except`; if the
    interval multiple and the counts of all slot parts are at most 10^7 (`SmallNumbers`), the
    rejection is a `ValueError`.  (Larger numerals can overflow `timedelta`: `overflow_witness`.) -/
theorem parse_error_value_partial (spec : List Char) (hs : SmallNumbers spec) (e : Err)
    (h : parse spec = .error e) : e = .value := by
  unfold parse at h
  split at h
  · cases h
    rfl
  · rename_i a b hsp
    cases hi : parseInterval (strip a) with
    | error e' =>
      rw [hi] at h
      cases h
      exact parseInterval_error _ _ hi
    | ok nu =>
      obtain ⟨n, unit⟩ := nu
      rw [hi] at h
      obtain ⟨hn, hslots⟩ := hs a b hsp n unit hi
      obtain ⟨iv, hiv, _⟩ := addInterval_small {} (n : Int) unit
        ⟨by simp only [numBound]; omega, hn⟩ (by decide)
      simp only [hiv] at h
      cases h2 : parseSlots unit (splitOn ',' b) with
      | error e' =>
        rw [h2] at h
        cases h
        exact parseSlots_small unit _ hslots _ h2
      | ok ds =>
        rw [h2] at h
        cases h

/-- `daily: 9:30am +2H` (rejected: the hour is given twice) satisfies the hypothesis -/
example : SmallNumbers "daily: 9:30am +2H".toList ∧
    parse "daily: 9:30am +2H".toList = .error .value := by
  decide +kernel

/-- parsing of the docstring examples -/
example : parse "3-months: /10, +1m /20".toList
    = .ok ⟨.months, ⟨3, 0⟩, [⟨0, 9 * usDay⟩, ⟨1, 19 * usDay⟩]⟩ := by decide +kernel
example : parse "weekly: Mo 9am, Tu 9am, Fr 2pm".toList
    = .ok ⟨.weeks, ⟨0, usWeek⟩, [⟨0, usDay + 9 * usHour⟩, ⟨0, 2 * usDay + 9 * usHour⟩,
        ⟨0, 5 * usDay + 14 * usHour⟩]⟩ := by decide +kernel
example : parse "annual: Jan-15, Apr-15".toList
    = .ok ⟨.years, ⟨12, 0⟩, [⟨0, 14 * usDay⟩, ⟨3, 14 * usDay⟩]⟩ := by decide +kernel
example : parse "9:30am +2H".toList = .error .value := by decide +kernel
example : parse "daily 9am".toList = .error .value := by decide +kernel

end Grist.Schedule
