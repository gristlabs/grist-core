/-
C02  Emitted doc actions are a faithful persistence delta.
About the engine model (GristModel/Engine.lean): what doc steps store replays to the engine's
document; what `add_changes`, `add_records`, `remove_records` keep per row; what a bundle of bulk
record actions and calc steps on one column stores at `finish`, and that replaying it gives the
engine's document up to `equal_encoding`.
-/
import GristProofs.EngineLists
import GristProofs.CalcFlush
import GristProofs.CalcGeneral
namespace Grist.Doc

/-! ### doc steps -/

/-- The document produced by a `DocActions` method does not depend on the action summary. -/
theorem docAction_doc_indep_summary (d : Doc) (s s' : Summary) (a : DocAction) :
    (docAction d s a).map (·.doc) = (docAction d s' a).map (·.doc) :=
  docAction_indep_summary (fun d _ => d) d s s' a

/-- For a word of `doc` steps, replaying the stored actions the word appended onto the start
    document gives exactly the engine's final document. -/
theorem stored_faithful_docwords {st st' : EState} {w : List Step}
    (hw : ∀ s ∈ w, ∃ a b, s = Step.doc a b) (h : run st w = .ok st') :
    applyAll st.doc (st'.stored.drop st.stored.length) = .ok st'.doc := by
  suffices ∃ ext, st'.stored = st.stored ++ ext ∧ applyAll st.doc ext = .ok st'.doc by
    obtain ⟨ext, e, hx⟩ := this
    rw [e, List.drop_left]
    exact hx
  induction w generalizing st with
  | nil =>
    cases h
    exact ⟨[], (List.append_nil _).symm, rfl⟩
  | cons s w ih =>
    obtain ⟨st1, h1, h2⟩ := run_cons_ok h
    obtain ⟨a, b, rfl⟩ := hw s (by simp)
    obtain ⟨r, hr, rfl⟩ := stepDoc_ok_iff.mp (show stepDoc st a b = .ok st1 from h1)
    obtain ⟨ext, e, hx⟩ := ih (fun s hs => hw s (List.mem_cons_of_mem _ hs)) h2
    exact ⟨a :: ext, e.trans (List.append_assoc ..), (applyAll_cons_of_post ext (post_of_ok hr)).trans hx⟩

/-! ### `add_changes`: first `before`, last `after`, one entry per row -/

theorem addChanges_colDelta (s : Summary) (t c : String) (chs : List (Nat × Val × Val)) :
    ((s.addChanges t c chs).get t).colDeltas.lookup c =
      some (addChangesFold (((s.get t).colDeltas.lookup c).getD []) chs) := by
  simp [Summary.addChanges, Summary.get_put, lookup_filter_ne_append, addChangesFold]

/-- A row keeps the `before` `m` already had, else that of the FIRST change naming it, and takes the
    `after` of the LAST one; rows no change names keep what `m` had. -/
theorem addChange_first_before_last_after (chs m : List (Nat × Val × Val)) (r : Nat) :
    (chs.foldl (fun m ch => addChange m ch.1 ch.2.1 ch.2.2) m).lookup r =
      match (chs.filter (·.1 == r)).getLast? with
      | none => m.lookup r
      | some last =>
        some (match m.lookup r with
              | some p => p.1
              | none => (((chs.filter (·.1 == r)).head?).map (·.2.1)).getD last.2.1,
              last.2.2) :=
  addChangesFold_lookup chs m r

/-- started from the empty delta: `(first before, last after)` of the changes naming the row -/
theorem addChange_from_empty (chs : List (Nat × Val × Val)) (r : Nat) :
    (chs.foldl (fun m ch => addChange m ch.1 ch.2.1 ch.2.2) []).lookup r =
      match (chs.filter (·.1 == r)).head?, (chs.filter (·.1 == r)).getLast? with
      | some f, some l => some (f.2.1, l.2.2)
      | _, _ => none :=
  addChangesFold_nil_lookup chs r

/-- at most one entry per row is kept -/
theorem addChange_one_entry_per_row (chs m : List (Nat × Val × Val))
    (h : (m.map (·.1)).Nodup) :
    ((chs.foldl (fun m ch => addChange m ch.1 ch.2.1 ch.2.2) m).map (·.1)).Nodup :=
  addChangesFold_keys_nodup chs m h

/-! ### row presence recorded by `add_records` / `remove_records` -/

theorem amSet_lookup' (m : List (Nat × Bool)) (k : Nat) (v : Bool) (j : Nat) :
    (amSet m k v).lookup j = if j = k then some v else m.lookup j := amSet_lookup m k v j

theorem amSetDefault_lookup' (m : List (Nat × Bool)) (k : Nat) (v : Bool) (j : Nat) :
    (amSetDefault m k v).lookup j = if j = k then some ((m.lookup k).getD v) else m.lookup j :=
  amSetDefault_lookup m k v j

/-- untouched rows stay as they were (in particular absent stays absent) -/
theorem presence_untouched (s : Summary) (t : String) (rows : List Nat) (r : Nat) (h : r ∉ rows) :
    ((s.addRecords t rows).get t).presentBefore.lookup r = (s.get t).presentBefore.lookup r ∧
    ((s.addRecords t rows).get t).presentAfter.lookup r = (s.get t).presentAfter.lookup r ∧
    ((s.removeRecords t rows).get t).presentBefore.lookup r = (s.get t).presentBefore.lookup r ∧
    ((s.removeRecords t rows).get t).presentAfter.lookup r = (s.get t).presentAfter.lookup r := by
  simp [addRecords_presentBefore, addRecords_presentAfter, removeRecords_presentBefore,
    removeRecords_presentAfter, h]

/-- a row first seen when added: before = absent, after = present -/
theorem presence_added (s : Summary) (t : String) (rows : List Nat) (r : Nat) (h : r ∈ rows)
    (h0 : (s.get t).presentBefore.lookup r = none) :
    ((s.addRecords t rows).get t).presentBefore.lookup r = some false ∧
    ((s.addRecords t rows).get t).presentAfter.lookup r = some true := by
  simp [addRecords_presentBefore, addRecords_presentAfter, h, h0]

/-- a row first seen when removed: before = present, after = absent -/
theorem presence_removed (s : Summary) (t : String) (rows : List Nat) (r : Nat) (h : r ∈ rows)
    (h0 : (s.get t).presentBefore.lookup r = none) :
    ((s.removeRecords t rows).get t).presentBefore.lookup r = some true ∧
    ((s.removeRecords t rows).get t).presentAfter.lookup r = some false := by
  simp [removeRecords_presentBefore, removeRecords_presentAfter, h, h0]

/-- added then removed ⇒ before = false, after = false -/
theorem presence_added_then_removed (s : Summary) (t : String) (rows1 rows2 : List Nat) (r : Nat)
    (h1 : r ∈ rows1) (h2 : r ∈ rows2) (h0 : (s.get t).presentBefore.lookup r = none) :
    (((s.addRecords t rows1).removeRecords t rows2).get t).presentBefore.lookup r = some false ∧
    (((s.addRecords t rows1).removeRecords t rows2).get t).presentAfter.lookup r = some false := by
  simp [addRecords_presentBefore, removeRecords_presentBefore, removeRecords_presentAfter,
    h1, h2, h0]

/-- removed then added ⇒ before = true, after = true -/
theorem presence_removed_then_added (s : Summary) (t : String) (rows1 rows2 : List Nat) (r : Nat)
    (h1 : r ∈ rows1) (h2 : r ∈ rows2) (h0 : (s.get t).presentBefore.lookup r = none) :
    (((s.removeRecords t rows1).addRecords t rows2).get t).presentBefore.lookup r = some true ∧
    (((s.removeRecords t rows1).addRecords t rows2).get t).presentAfter.lookup r = some true := by
  simp [addRecords_presentBefore, removeRecords_presentBefore, addRecords_presentAfter,
    h1, h2, h0]

/-! ### the general bundle: bulk record actions on other tables interleaved with calc steps

`StepOK t c`: BulkAddRecord / BulkRemoveRecord / BulkUpdateRecord on tables other than `t`, calc
steps on column `(t, c)`; `docActs w`, `calcChs w`: the doc actions and the concatenated calc changes
of the word.  Setting: empty `stored` and summary at the start; the column exists and is not
defunct-named; all touched rows exist. -/

set_option linter.unusedVariables false in
/-- what the bundle stores: the doc actions in order, then the calc flush of column `(t, c)`
    (`hrows` is not needed for this part) -/
theorem bulk_calc_word_emits {st st' : EState} {t c : String} {tb : Table} {col : Col}
    (hs : st.summary = {}) (hsto : st.stored = [])
    (ht : isDefunct t = false) (hc : isDefunct c = false)
    (hT : findTable? st.doc t = some tb) (hC : tb.findCol? c = some col)
    (w : List Step) (hw : ∀ s ∈ w, StepOK t c s)
    (hrows : ∀ ch ∈ calcChs w, ch.1 ∈ tb.rows)
    (h : run st (w ++ [.finish]) = .ok st') :
    st'.stored = docActs w ++ flushAction t c (addChangesFold [] (calcChs w)) :=
  (bulk_calc_finish hs hsto ht hc hT hC w hw h).1

/-- Replaying the stored actions of the bundle on the start document gives a document that
    shows the same as the engine's document up to `equal_encoding` of cell values … -/
theorem stored_faithful_calc_fixed_schema_encSame {st st' : EState} {t c : String} {tb : Table}
    {col : Col} (hs : st.summary = {}) (hsto : st.stored = [])
    (ht : isDefunct t = false) (hc : isDefunct c = false)
    (hT : findTable? st.doc t = some tb) (hC : tb.findCol? c = some col)
    (w : List Step) (hw : ∀ s ∈ w, StepOK t c s)
    (hrows : ∀ ch ∈ calcChs w, ch.1 ∈ tb.rows)
    (hnorm : ∀ ch ∈ calcChs w, colSet col.info.type ch.2.2 = ch.2.2)
    (hbefore : ∀ k b a, mergedChange (calcChs w) k = some (b, a) → b = col.cells k)
    (h : run st (w ++ [.finish]) = .ok st') :
    ∃ d', applyAll st.doc st'.stored = .ok d' ∧ EncSame d' st'.doc :=
  bulk_calc_faithful equalEncoding_refl hs hsto ht hc hT hC w hw hrows hnorm
    (fun k b a hm he => hbefore k b a hm ▸ he) h

/-- … and exactly the same (`Same`) when no touched row changed only its encoding. -/
theorem stored_faithful_calc_fixed_schema {st st' : EState} {t c : String} {tb : Table}
    {col : Col} (hs : st.summary = {}) (hsto : st.stored = [])
    (ht : isDefunct t = false) (hc : isDefunct c = false)
    (hT : findTable? st.doc t = some tb) (hC : tb.findCol? c = some col)
    (w : List Step) (hw : ∀ s ∈ w, StepOK t c s)
    (hrows : ∀ ch ∈ calcChs w, ch.1 ∈ tb.rows)
    (hnorm : ∀ ch ∈ calcChs w, colSet col.info.type ch.2.2 = ch.2.2)
    (hbefore : ∀ k b a, mergedChange (calcChs w) k = some (b, a) → b = col.cells k)
    (hstrict : ∀ k b a, mergedChange (calcChs w) k = some (b, a) →
      equalEncoding b a = true → b = a)
    (h : run st (w ++ [.finish]) = .ok st') :
    ∃ d', applyAll st.doc st'.stored = .ok d' ∧ Same d' st'.doc :=
  bulk_calc_faithful (fun _ => rfl) hs hsto ht hc hT hC w hw hrows hnorm
    (fun k b a hm he => hbefore k b a hm ▸ hstrict k b a hm he) h

/-! ### the special case: `calc` steps on one column, then `finish`

The word `calcs.map (Step.calc t c)` has no doc actions and `calcs.flatten` as its calc changes. -/

/-- The word emits nothing or ONE `BulkUpdateRecord t rows {c: vals}` (`flushAction`), whose rows are
    exactly the rows whose merged before/after differ under `equal_encoding`, each carrying the
    last `after`. -/
theorem calc_word_emits {st st' : EState} {t c : String} {tb : Table} {col : Col}
    (hs : st.summary = {}) (hsto : st.stored = [])
    (ht : isDefunct t = false) (hc : isDefunct c = false)
    (hT : findTable? st.doc t = some tb) (hC : tb.findCol? c = some col)
    (calcs : List (List (Nat × Val × Val)))
    (h : run st (calcs.map (Step.calc t c) ++ [.finish]) = .ok st') :
    let delta := addChangesFold [] calcs.flatten
    let rows := changedRows delta
    st'.stored = (if rows.isEmpty then [] else [.bulkUpdate t rows [(c, rows.map (afterOf delta))]]) ∧
    (∀ k, k ∈ rows ↔ ∃ b a, mergedChange calcs.flatten k = some (b, a) ∧ equalEncoding b a = false) ∧
    (∀ k b a, mergedChange calcs.flatten k = some (b, a) → afterOf delta k = a) :=
  ⟨by
    have := (bulk_calc_finish hs hsto ht hc hT hC _ (stepOK_calcs t c calcs) h).1
    rwa [docActs_calcs, calcChs_calcs] at this,
   mem_changedRows_merged _, fun _ _ _ h => afterOf_merged h⟩

/-- The replayed and the engine's document are both the start document with only the cells of
    column `(t, c)` changed (`ColView`).  At a row touched with merged `(b, a)` the engine has `a`;
    the replay has `a` if `b`, `a` differ under `equal_encoding` and the start value otherwise. -/
theorem stored_faithful_calc_word_cells {st st' : EState} {t c : String} {tb : Table} {col : Col}
    (hs : st.summary = {}) (hsto : st.stored = [])
    (ht : isDefunct t = false) (hc : isDefunct c = false)
    (hT : findTable? st.doc t = some tb) (hC : tb.findCol? c = some col)
    (calcs : List (List (Nat × Val × Val)))
    (hrows : ∀ ch ∈ calcs.flatten, ch.1 ∈ tb.rows)
    (hnorm : ∀ ch ∈ calcs.flatten, colSet col.info.type ch.2.2 = ch.2.2)
    (h : run st (calcs.map (Step.calc t c) ++ [.finish]) = .ok st') :
    ∃ d' fR fE, applyAll st.doc st'.stored = .ok d' ∧
      ColView st.doc t c tb col d' fR ∧ ColView st.doc t c tb col st'.doc fE ∧
      ∀ k, match mergedChange calcs.flatten k with
        | none => fE k = col.cells k ∧ fR k = col.cells k
        | some (b, a) => fE k = a ∧ fR k = if equalEncoding b a then col.cells k else a := by
  rw [← calcChs_calcs t c calcs] at hrows
  obtain ⟨D1, d', g1, h1, h2, h3⟩ :=
    bulk_calc_finish_views hs hsto ht hc hT hC _ (stepOK_calcs t c calcs) hrows h
  rw [docActs_calcs] at g1
  cases g1
  rw [calcChs_calcs] at h2 h3
  exact ⟨d', _, _, h1, h2, h3, replay_vs_engine_cells col _ hnorm⟩

/-- If the first `before` reported for a row is the start document's cell, the two show the same
    up to `equal_encoding` of cell values. -/
theorem stored_faithful_calc_word_encSame {st st' : EState} {t c : String} {tb : Table} {col : Col}
    (hs : st.summary = {}) (hsto : st.stored = [])
    (ht : isDefunct t = false) (hc : isDefunct c = false)
    (hT : findTable? st.doc t = some tb) (hC : tb.findCol? c = some col)
    (calcs : List (List (Nat × Val × Val)))
    (hrows : ∀ ch ∈ calcs.flatten, ch.1 ∈ tb.rows)
    (hnorm : ∀ ch ∈ calcs.flatten, colSet col.info.type ch.2.2 = ch.2.2)
    (hbefore : ∀ k b a, mergedChange calcs.flatten k = some (b, a) → b = col.cells k)
    (h : run st (calcs.map (Step.calc t c) ++ [.finish]) = .ok st') :
    ∃ d', applyAll st.doc st'.stored = .ok d' ∧ EncSame d' st'.doc := by
  rw [← calcChs_calcs t c calcs] at hrows hnorm hbefore
  exact stored_faithful_calc_fixed_schema_encSame hs hsto ht hc hT hC _ (stepOK_calcs t c calcs)
    hrows hnorm hbefore h

/-- If moreover no touched row changed only its encoding (`1` vs `1.0`), they show the same. -/
theorem stored_faithful_calc_word {st st' : EState} {t c : String} {tb : Table} {col : Col}
    (hs : st.summary = {}) (hsto : st.stored = [])
    (ht : isDefunct t = false) (hc : isDefunct c = false)
    (hT : findTable? st.doc t = some tb) (hC : tb.findCol? c = some col)
    (calcs : List (List (Nat × Val × Val)))
    (hrows : ∀ ch ∈ calcs.flatten, ch.1 ∈ tb.rows)
    (hnorm : ∀ ch ∈ calcs.flatten, colSet col.info.type ch.2.2 = ch.2.2)
    (hbefore : ∀ k b a, mergedChange calcs.flatten k = some (b, a) → b = col.cells k)
    (hstrict : ∀ k b a, mergedChange calcs.flatten k = some (b, a) →
      equalEncoding b a = true → b = a)
    (h : run st (calcs.map (Step.calc t c) ++ [.finish]) = .ok st') :
    ∃ d', applyAll st.doc st'.stored = .ok d' ∧ Same d' st'.doc := by
  rw [← calcChs_calcs t c calcs] at hrows hnorm hbefore hstrict
  exact stored_faithful_calc_fixed_schema hs hsto ht hc hT hC _ (stepOK_calcs t c calcs) hrows
    hnorm hbefore hstrict h

/-! ### non-vacuity -/

def c02Info : ColInfo := { type := "Text", isFormula := false, formula := "", reverseColId := none }
def c02FInfo : ColInfo := { type := "Text", isFormula := true, formula := "$A", reverseColId := none }
def c02ColB : Col := { id := "B", info := c02FInfo, cells := fun _ => .str "" }
def c02Tb : Table :=
  { id := "T", rows := [1, 2],
    cols := [{ id := "A", info := c02Info, cells := fun _ => .str "" }, c02ColB] }
def c02St : EState := { doc := [c02Tb] }

def c02DocWord : List Step :=
  [.doc (.bulkUpdate "T" [1] [("A", [.str "x"])]) true,
   .doc (.addColumn "T" "C" c02Info) true,
   .doc (.bulkRemove "T" [2]) false]

/-- `stored_faithful_docwords` applies to a concrete successful word of three doc steps -/
example : ∃ st', run c02St c02DocWord = .ok st' ∧ st'.stored.length = 3 ∧
    applyAll c02St.doc st'.stored = .ok st'.doc :=
  ⟨_, rfl, rfl, stored_faithful_docwords (st := c02St) (w := c02DocWord)
    (by simp [c02DocWord]) rfl⟩

def c02Calcs : List (List (Nat × Val × Val)) :=
  [[(1, .str "", .str "x")], [(1, .str "x", .str "y"), (2, .str "", .str "")]]

/-- the calc word runs and emits exactly one update, for row 1 only, with the last value -/
example : ∃ st', run c02St (c02Calcs.map (Step.calc "T" "B") ++ [.finish]) = .ok st' ∧
    st'.stored = [.bulkUpdate "T" [1] [("B", [.str "y"])]] :=
  ⟨_, rfl, by decide +kernel⟩

theorem c02_merged (k : Nat) (b a : Val) (h : mergedChange c02Calcs.flatten k = some (b, a)) :
    (k = 1 ∧ b = .str "" ∧ a = .str "y") ∨ (k = 2 ∧ b = .str "" ∧ a = .str "") := by
  by_cases h1 : k = 1
  · subst h1
    cases h
    exact .inl ⟨rfl, rfl, rfl⟩
  · by_cases h2 : k = 2
    · subst h2
      cases h
      exact .inr ⟨rfl, rfl, rfl⟩
    · -- no change names any other row
      have e1 : ¬ 1 = k := fun e => h1 e.symm
      have e2 : ¬ 2 = k := fun e => h2 e.symm
      simp [mergedChange, c02Calcs, e1, e2] at h

theorem c02_rows : ∀ ch ∈ c02Calcs.flatten, ch.1 ∈ c02Tb.rows := by
  decide

theorem c02_hnorm : ∀ ch ∈ c02Calcs.flatten, colSet c02ColB.info.type ch.2.2 = ch.2.2 := by
  intro ch h
  have e : c02Calcs.flatten =
      [(1, .str "", .str "x"), (1, .str "x", .str "y"), (2, .str "", .str "")] := rfl
  simp only [e, List.mem_cons, List.not_mem_nil, or_false] at h
  rcases h with rfl | rfl | rfl <;> exact colSet_str _ _

theorem c02_hbefore (k : Nat) (b a : Val) (h : mergedChange c02Calcs.flatten k = some (b, a)) :
    b = c02ColB.cells k := by
  rcases c02_merged k b a h with ⟨_, rfl, _⟩ | ⟨_, rfl, _⟩ <;> rfl

theorem c02_hstrict (k : Nat) (b a : Val) (h : mergedChange c02Calcs.flatten k = some (b, a))
    (he : equalEncoding b a = true) : b = a := by
  rcases c02_merged k b a h with ⟨_, rfl, rfl⟩ | ⟨_, rfl, rfl⟩
  · simp [equalEncoding] at he
  · rfl

/-- all hypotheses of `stored_faithful_calc_word` hold for it -/
example : ∃ st', run c02St (c02Calcs.map (Step.calc "T" "B") ++ [.finish]) = .ok st' ∧
    ∃ d', applyAll c02St.doc st'.stored = .ok d' ∧ Same d' st'.doc := by
  refine ⟨_, rfl, ?_⟩
  exact stored_faithful_calc_word (st := c02St) (t := "T") (c := "B") (tb := c02Tb)
    (col := c02ColB) rfl rfl (by decide +kernel) (by decide +kernel) rfl rfl c02Calcs c02_rows
    c02_hnorm c02_hbefore c02_hstrict rfl

/-! general form: a second table `U` edited by the user while column `T.B` is recomputed -/

def c02TbU : Table :=
  { id := "U", rows := [1], cols := [{ id := "X", info := c02Info, cells := fun _ => .str "" }] }
def c02St2 : EState := { doc := [c02Tb, c02TbU] }

def c02Word2 : List Step :=
  [.doc (.bulkUpdate "U" [1] [("X", [.str "u"])]) true,
   .calc "T" "B" [(1, .str "", .str "x")],
   .doc (.bulkAdd "U" [2] [("X", [.str "v"])]) true,
   .calc "T" "B" [(1, .str "x", .str "y"), (2, .str "", .str "")],
   .doc (.bulkRemove "U" [1]) true]

theorem c02_calcChs2 : calcChs c02Word2 = c02Calcs.flatten := rfl

theorem c02_hw : ∀ s ∈ c02Word2, StepOK "T" "B" s := by
  intro s hs
  simp [c02Word2] at hs
  rcases hs with rfl | rfl | rfl | rfl | rfl <;> simp [StepOK, bulkTable]

theorem c02_hrows : ∀ ch ∈ calcChs c02Word2, ch.1 ∈ c02Tb.rows := by
  rw [c02_calcChs2]
  exact c02_rows

/-- the bundle runs and stores the three user actions followed by one calc update of row 1 -/
example : ∃ st', run c02St2 (c02Word2 ++ [.finish]) = .ok st' ∧
    st'.stored = [.bulkUpdate "U" [1] [("X", [.str "u"])], .bulkAdd "U" [2] [("X", [.str "v"])],
                  .bulkRemove "U" [1], .bulkUpdate "T" [1] [("B", [.str "y"])]] := by
  refine ⟨_, rfl, ?_⟩
  rw [bulk_calc_word_emits (st := c02St2) (t := "T") (c := "B") (tb := c02Tb) (col := c02ColB)
    rfl rfl (by decide +kernel) (by decide +kernel) rfl rfl c02Word2 c02_hw c02_hrows rfl]
  decide +kernel

example : ∃ st', run c02St2 (c02Word2 ++ [.finish]) = .ok st' ∧
    ∃ d', applyAll c02St2.doc st'.stored = .ok d' ∧ Same d' st'.doc := by
  refine ⟨_, rfl, ?_⟩
  exact stored_faithful_calc_fixed_schema (st := c02St2) (t := "T") (c := "B") (tb := c02Tb)
    (col := c02ColB) rfl rfl (by decide +kernel) (by decide +kernel) rfl rfl c02Word2 c02_hw
    c02_hrows c02_hnorm c02_hbefore c02_hstrict rfl

/-! ### why the "no encoding-only change" hypothesis is needed -/

def c02CexCol : Col := { id := "B", info := c02FInfo, cells := fun _ => .int 1 }
def c02CexTb : Table := { id := "T", rows := [1], cols := [c02CexCol] }
def c02CexSt : EState := { doc := [c02CexTb] }

/-- Counterexample to `stored_faithful_calc_word` without `hstrict`: the calc step turns
    `1` into `1.0`; `equal_encoding` suppresses the update, nothing is stored, and the replayed
    document (= the start document) does not show the same as the engine's document. -/
example : ∃ st', run c02CexSt [.calc "T" "B" [(1, .int 1, .flt "1.0")], .finish] = .ok st' ∧
    st'.stored = [] ∧ ¬ Same c02CexSt.doc st'.doc := by
  refine ⟨_, rfl, by decide +kernel, ?_⟩
  intro h
  have h1 := h "T"
  have e1 : findTable? c02CexSt.doc "T" = some c02CexTb := rfl
  have hv := ColView.calc (ColView.self (d := c02CexSt.doc) (t := "T") (c := "B") (tb := c02CexTb)
    (col := c02CexCol) rfl rfl) [(1, .int 1, .flt "1.0")]
  obtain ⟨tbX, hX1, hX2, hX3, colX, hX4, hX5, hX6⟩ := hv.tbl
  have e2 : (stepFinish (stepCalc c02CexSt "T" "B" [(1, .int 1, .flt "1.0")])).doc
      = writeCalc c02CexSt.doc "T" "B" [(1, .int 1, .flt "1.0")] := rfl
  rw [e2, e1, hX1] at h1
  have h2 := h1.2 "B"
  rw [show c02CexTb.findCol? "B" = some c02CexCol from rfl, hX4] at h2
  have h3 := h2.2 1 (by simp [c02CexTb])
  rw [hX6] at h3
  simp [writeAfters, setCell, c02CexCol] at h3

end Grist.Doc
