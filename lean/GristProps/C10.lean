/-
C10  Removing rows leaves no references to them.  Model: GristModel/Refs.lean.
The clean-up in `doBulkRemoveRecord` finds the cells to rewrite through the reverse index
(`ReferenceRelation.inverse_map`) of every column referring to the table.  So: (1) the index is exact
after any sequence of column operations (`inverse_map_exact`); (2) on an exact index the updates remove
every reference to a removed row (`remove_clears_refs`) and touch nothing else (`remove_frame`).
Defines the calling condition of `clear` (`ClearOk`, `RunOk`; executable: `clearOkB`, `runOkB`).
-/
import GristProofs.Refs
namespace Grist.Refs

/-- `BaseColumn.clear()` resets `_data` but NOT the relation (reference columns do not override it).
    The engine calls it only from `load_table`: on a fresh column, or (ReplaceTableData) after every
    old row has been `unset`, i.e. when no cell refers to anything.  That calling condition is a
    hypothesis for `clear`; the other operations are unconstrained. -/
def ClearOk (c : Col) : Prop := ∀ r, refs c.kind (rawGet c r) = []

def RunOk : Col → List Op → Prop
  | _, [] => True
  | c, op :: ops => (op = .clear → ClearOk c) ∧ ∀ c', step c op = .ok c' → RunOk c' ops

theorem step_exact {c : Col} (hc : Exact c) (op : Op) (hop : op = .clear → ClearOk c) :
    ∃ c', step c op = .ok c' ∧ Exact c' := by
  cases op with
  | set r v =>
    obtain ⟨c', h1, h2, _⟩ := setCell_spec hc r v
    exact ⟨c', h1, h2⟩
  | unset r =>
    obtain ⟨c', h1, h2, _⟩ := setCell_spec hc r (dflt c.kind)
    exact ⟨c', h1, h2⟩
  | copyFrom d => exact ⟨_, rfl, copyFrom_exact c d⟩
  | clear => exact ⟨_, rfl, clearData_exact hc (hop rfl)⟩

/-- From any exact column: exact after ANY sequence of set / unset / copy_from_column /
    clear-when-empty, and no operation raises (`remove_reference` never hits a missing key). -/
theorem inverse_map_exact_from : ∀ (ops : List Op) (c : Col), Exact c → RunOk c ops →
    ∃ c', run c ops = .ok c' ∧ Exact c' := by
  intro ops
  induction ops with
  | nil =>
    intro c hc _
    exact ⟨c, rfl, hc⟩
  | cons op rest ih =>
    intro c hc hok
    obtain ⟨c1, h1, hc1⟩ := step_exact hc op hok.1
    obtain ⟨c2, h2, hc2⟩ := ih c1 hc1 (hok.2 c1 h1)
    refine ⟨c2, ?_, hc2⟩
    simp only [run, h1]
    exact h2

/-- **C10 (index).** The same for a column created by the engine (fresh, empty index). -/
theorem inverse_map_exact (k : Kind) (ops : List Op) (h : RunOk (newCol k) ops) :
    ∃ c, run (newCol k) ops = .ok c ∧
      ∀ t r, r ∈ invGet c.inv t ↔ t ∈ refs c.kind (rawGet c r) :=
  inverse_map_exact_from ops (newCol k) (newCol_exact k) h

/-- executable form of the hypothesis (used for the examples) -/
def clearOkB (c : Col) : Bool := c.data.all (fun v => (refs c.kind v).isEmpty)

theorem clearOk_of_B {c : Col} (h : clearOkB c = true) : ClearOk c := by
  intro r
  simp only [clearOkB, List.all_eq_true, List.isEmpty_iff] at h
  rw [rawGet, List.getD_eq_getElem?_getD]
  cases hg : c.data[r]? with
  | none => exact refs_dflt _
  | some v => exact h v (List.mem_of_getElem? hg)

def runOkB : Col → List Op → Bool
  | _, [] => true
  | c, op :: ops => (op != .clear || clearOkB c) &&
      match step c op with
      | .ok c' => runOkB c' ops
      | .error _ => true

theorem runOk_of_B : ∀ (ops : List Op) (c : Col), runOkB c ops = true → RunOk c ops := by
  intro ops
  induction ops with
  | nil =>
    intro _ _
    trivial
  | cons op rest ih =>
    intro c h
    simp only [runOkB, Bool.and_eq_true, Bool.or_eq_true, bne_iff_ne, ne_eq] at h
    refine ⟨fun hop => ?_, fun c' hc' => ?_⟩
    · rcases h.1 with h1 | h1
      · exact absurd hop h1
      · exact clearOk_of_B h1
    · have h2 := h.2
      rw [hc'] at h2
      exact ih c' h2

-- the hypothesis holds of a non-trivial sequence: a wrong-typed value, an overwrite with a
-- duplicate id, a copy, a clear of an emptied column
example : RunOk (newCol .refList)
    [.set 1 (.refList [2, 3]), .set 2 (.refList [3, 3]), .set 4 .alt, .set 1 (.refList [3]),
     .copyFrom [.none, .refList [2], .ref 5, .refList [1, 2]], .unset 1, .unset 3, .clear,
     .set 2 (.refList [1])] := runOk_of_B _ _ (by decide)

example : (match run (newCol .refList)
    [.set 1 (.refList [2, 3]), .set 2 (.refList [3, 3]), .set 4 .alt, .set 1 (.refList [3])] with
    | .ok c => c.inv | .error _ => []) = [(2, []), (3, [2, 1])] := by decide

/-- The side condition on `clear` is needed: clearing a column that still refers to something
    leaves a stale index entry. -/
example : ¬ (∀ ops : List Op, ∀ c, run (newCol .ref) ops = .ok c → Exact c) := by
  intro h
  have h1 := h [.set 1 (.ref 2), .clear] _ rfl
  have := (h1 2 1).mp (by decide)
  revert this
  decide

/-- **C10 (clean-up).** On an exact index the clean-up for the removed `rows` never raises; afterwards
    no cell refers to a removed row; a RefList cell that contained some keeps its other ids in order
    and is None when nothing remains; a Ref cell that pointed at one is 0. -/
theorem remove_clears_refs {c : Col} (hc : Exact c) (rows : List Nat) :
    ∃ c', cleanRemoved c rows = .ok c' ∧ c'.kind = c.kind ∧
      (∀ r t, t ∈ refs c'.kind (rawGet c' r) → t ∉ rows) ∧
      (∀ r l, c.kind = .refList → rawGet c r = .refList l → (∃ x ∈ l, x ∈ rows) →
         rawGet c' r = (if l.filter (fun x => !(rows.contains x)) = [] then Cell.none
                        else Cell.refList (l.filter (fun x => !(rows.contains x))))) ∧
      (∀ r n, c.kind = .ref → rawGet c r = .ref n → n ≠ 0 → n ∈ rows → rawGet c' r = .ref 0) := by
  obtain ⟨c', h1, _, hk, hg⟩ := cleanRemoved_spec hc rows
  refine ⟨c', h1, hk, ?_, ?_, ?_⟩
  · intro r t ht
    rw [hk, hg, refs_cleanCell] at ht
    exact ht.2
  · intro r l hkind hcell ⟨x, hx, hxr⟩
    rw [hg, hcell, hkind]
    have hh : hits .refList rows (.refList l) = true := hits_iff.2 ⟨x, hx, hxr⟩
    simp only [cleanCell, hh, if_true, List.isEmpty_iff]
  · intro r n hkind hcell hn hnr
    rw [hg, hcell, hkind]
    have hh : hits .ref rows (.ref n) = true :=
      hits_iff.2 ⟨n, by simp only [refs, hn, if_false, List.mem_singleton], hnr⟩
    simp only [cleanCell, hh, if_true]

/-- **C10 (frame).** Cells that do not refer to a removed row, wrong-typed values (alt text) and
    empty cells included, are left as they were, and the index is still exact. -/
theorem remove_frame {c : Col} (hc : Exact c) (rows : List Nat) :
    ∃ c', cleanRemoved c rows = .ok c' ∧
      (∀ r, (∀ t ∈ refs c.kind (rawGet c r), t ∉ rows) → rawGet c' r = rawGet c r) ∧
      (∀ r, rightType c.kind (rawGet c r) = false → rawGet c' r = rawGet c r) ∧
      (∀ t r, r ∈ invGet c'.inv t ↔ t ∈ refs c'.kind (rawGet c' r)) := by
  obtain ⟨c', h1, hex, hk, hg⟩ := cleanRemoved_spec hc rows
  have hframe : ∀ r, (∀ t ∈ refs c.kind (rawGet c r), t ∉ rows) → rawGet c' r = rawGet c r := by
    intro r hr
    rw [hg]
    apply cleanCell_of_not_hits
    rw [← Bool.not_eq_true, hits_iff]
    rintro ⟨t, ht, hrows⟩
    exact hr t ht hrows
  refine ⟨c', h1, hframe, ?_, hex⟩
  intro r hr
  apply hframe
  rw [refs_of_not_rightType hr]
  simp

-- a non-trivial exact column: duplicates, a wrong-typed cell, several rows referring to the
-- removed rows 3 and 1
example : Exact (colOf .refList [.none, .refList [2, 3], .refList [3], .alt, .refList [1, 2, 1]]) :=
  copyFrom_exact _ _

example : (match cleanRemoved (colOf .refList [.none, .refList [2, 3], .refList [3], .alt, .refList [1, 2, 1]]) [3, 1] with
    | .ok c => c.data | .error _ => []) = [.none, .refList [2], .none, .alt, .refList [2]] := by decide

example : (match cleanRemoved (colOf .ref [.ref 0, .ref 2, .ref 3, .alt, .ref 1]) [3, 1] with
    | .ok c => c.data | .error _ => []) = [.ref 0, .ref 2, .ref 0, .alt, .ref 0] := by decide

/-- Exactness is needed: with a stale entry the clean-up of a RefList column raises
    (`[r for r in None ...]`); with a missing entry it leaves a reference behind. -/
example : cleanRemoved { kind := .refList, data := [.none, .none], inv := [(2, [1])] } [2]
    = .error .typeError := by rfl

example : (match cleanRemoved { kind := .ref, data := [.ref 0, .ref 2], inv := [] } [2] with
    | .ok c => c.data | .error _ => []) = [.ref 0, .ref 2] := by decide

end Grist.Refs
