/-
C27  Row id allocation never collides or creates ghost rows.  Model: GristModel/RowIds.lean
(useractions.doBulkAddOrReplace, docactions.BulkAddRecord/ReplaceTableData, table.RowIDs).
Defines the words of the statements (`explicitIds`, `NoLateClash`) and `placed`, `fill`: the loop raises on
an id over 1,000,000 or returns `fill next req`, a total function with one equation per entry.  Proved for
all requests and tables: `fill_ids_spec`, `fill_ids_nodup_iff` and the partial results under its hypotheses;
the full statement is FALSE of the code (three negations with witnesses, replayed on the engine by c27.py).
-/
import GristModel.RowIds
namespace Grist.RowIds

/-- the explicit (non-None, non-negative) ids of a request, in order -/
def explicitIds : List (Option Int) → List Nat
  | [] => []
  | none :: rest => explicitIds rest
  | some i :: rest => if i < 0 then explicitIds rest else i.toNat :: explicitIds rest

/-- "no explicit id equals an automatic id handed out EARLIER in the same request"
    (`next` = the id the loop would hand out now). -/
def NoLateClash : Nat → List (Option Int) → Prop
  | _, [] => True
  | next, none :: rest => next ∉ explicitIds rest ∧ NoLateClash (next + 1) rest
  | next, some i :: rest =>
    if i < 0 then next ∉ explicitIds rest ∧ NoLateClash (next + 1) rest
    else NoLateClash (max next i.toNat + 1) rest

theorem le_maxId : ∀ (rows : List Nat) (x : Nat), x ∈ rows → x ≤ maxId rows
  | y :: ys, x, h => by
    rcases List.mem_cons.mp h with rfl | h
    · exact Nat.le_max_left _ _
    · exact Nat.le_trans (le_maxId ys x h) (Nat.le_max_right _ _)

theorem lt_nextRowId (rows : List Nat) (x : Nat) (h : x ∈ rows) : x < nextRowId rows :=
  Nat.lt_succ_of_le (le_maxId rows x h)

/-- the id stored for entry `r` when the loop's counter stands at `next` -/
def placed (next : Nat) : Option Int → Nat
  | none => next
  | some i => if i < 0 then next else i.toNat

/-- The loop without its check.  Python's body is the same for every entry: store the id, then
    `next_row_id = max(next_row_id, row_id) + 1` (on an automatic entry `row_id` is `next_row_id`). -/
def fill : Nat → List (Option Int) → List Nat
  | _, [] => []
  | next, r :: rest => placed next r :: fill (max next (placed next r) + 1) rest

theorem placed_auto {r : Option Int} (next : Nat) (h : isAuto r = true) : placed next r = next := by
  cases r with
  | none => rfl
  | some i =>
    simp only [isAuto, decide_eq_true_eq] at h
    simp only [placed, if_pos h]

theorem placed_explicit {r : Option Int} (next : Nat) (h : isAuto r = false) :
    r = some (placed next r : Int) := by
  cases r with
  | none => cases h
  | some i =>
    simp only [isAuto, decide_eq_false_iff_not] at h
    simp only [placed, if_neg h]
    congr 1
    omega

/-- For an explicit entry `placed next r` does not depend on `next`: callers pass whatever counter they
    have (any number where they have none). -/
theorem explicitIds_cons (next : Nat) (r : Option Int) (rest : List (Option Int)) :
    explicitIds (r :: rest) = if isAuto r then explicitIds rest else placed next r :: explicitIds rest := by
  cases r with
  | none => rfl
  | some i => by_cases hi : i < 0 <;> simp [explicitIds, isAuto, placed, hi]

theorem mem_explicitIds_cons (r : Option Int) {rest : List (Option Int)} {e : Nat}
    (h : e ∈ explicitIds rest) : e ∈ explicitIds (r :: rest) := by
  rw [explicitIds_cons 0]
  split
  · exact h
  · exact List.mem_cons_of_mem _ h

theorem noLateClash_cons (next : Nat) (r : Option Int) (rest : List (Option Int)) :
    NoLateClash next (r :: rest) ↔
      (isAuto r = true → next ∉ explicitIds rest) ∧ NoLateClash (max next (placed next r) + 1) rest := by
  cases r with
  | none => simp [NoLateClash, isAuto, placed]
  | some i => by_cases hi : i < 0 <;> simp [NoLateClash, isAuto, placed, hi]

theorem explicitIds_of_auto : ∀ (req : List (Option Int)), (∀ r ∈ req, isAuto r = true) →
    explicitIds req = [] := by
  intro req
  induction req with
  | nil =>
    intro _
    rfl
  | cons r rest ih =>
    intro h
    rw [explicitIds_cons 0, if_pos (h r List.mem_cons_self), ih fun r hr => h r (List.mem_cons_of_mem _ hr)]

theorem fillIds_eq_fill : ∀ (req : List (Option Int)) (next : Nat),
    (∀ i, some i ∈ req → i ≤ 1000000) → fillIds next req = .ok (fill next req) := by
  intro req
  induction req with
  | nil =>
    intro _ _
    rfl
  | cons r rest ih =>
    intro next hb
    have hrest := fun n => ih n fun i hi => hb i (List.mem_cons_of_mem _ hi)
    cases r with
    | none => simp only [fillIds, hrest, fill, placed, Nat.max_self]
    | some i =>
      have := hb i List.mem_cons_self
      by_cases hi : i < 0
      · simp only [fillIds, fill, placed, hi, if_true, hrest, Nat.max_self]
      · simp only [fillIds, fill, placed, hi, if_false, hrest, show ¬ i > 1000000 by omega]

/-- An id over 1,000,000 anywhere in the request makes the loop raise, whatever the rest. -/
theorem too_high_rejected : ∀ (req : List (Option Int)) (next : Nat) (i : Int),
    some i ∈ req → i > 1000000 → fillIds next req = .error "ValueError" := by
  intro req
  induction req with
  | nil =>
    intro next i h
    simp at h
  | cons r rest ih =>
    intro next i hmem hbig
    rcases List.mem_cons.mp hmem with rfl | hm
    · simp only [fillIds, show ¬ i < 0 by omega, hbig, if_true, if_false]
    · have hrest := fun n => ih n i hm hbig
      cases r with
      | none => simp only [fillIds, hrest]
      | some j => simp only [fillIds, hrest, ite_self]

example : fillIds 3 [none, some 1000001] = .error "ValueError" := rfl

theorem fillIds_cases (req : List (Option Int)) (next : Nat) :
    (∃ i, some i ∈ req ∧ i > 1000000) ∨ fillIds next req = .ok (fill next req) :=
  Classical.byCases Or.inl fun hb =>
    Or.inr (fillIds_eq_fill req next fun i hi => Int.not_lt.mp fun hgt => hb ⟨i, hi, hgt⟩)

theorem fillIds_ok_eq {next : Nat} {req : List (Option Int)} {ids : List Nat}
    (h : fillIds next req = .ok ids) : ids = fill next req := by
  rcases fillIds_cases req next with ⟨i, hi, hb⟩ | ho
  · rw [too_high_rejected req next i hi hb] at h
    cases h
  · exact Except.ok.inj (h.symm.trans ho)

/-- The only way the loop raises (so 1,000,000 itself, 0, repeats, ... never raise here). -/
theorem fill_error_iff : ∀ (req : List (Option Int)) (next : Nat),
    (∃ e, fillIds next req = .error e) ↔ ∃ i, some i ∈ req ∧ i > 1000000 := by
  intro req next
  refine ⟨fun ⟨e, he⟩ => (fillIds_cases req next).resolve_right fun ho => ?_,
    fun ⟨i, hi, hb⟩ => ⟨_, too_high_rejected req next i hi hb⟩⟩
  rw [ho] at he
  cases he

theorem fill_length : ∀ (req : List (Option Int)) (next : Nat), (fill next req).length = req.length := by
  intro req
  induction req with
  | nil =>
    intro _
    rfl
  | cons r rest ih =>
    intro next
    simp only [fill, List.length_cons, ih]

/-- `fill_ids_spec` from any starting `next`.  An automatic id exceeds EVERY earlier id, explicit ones
    included, because each stored id is below the counter that the rest of the request starts from. -/
theorem fill_spec : ∀ (req : List (Option Int)) (next k : Nat) (r : Option Int) (v : Nat),
    req[k]? = some r → (fill next req)[k]? = some v →
      (isAuto r = false → r = some (v : Int)) ∧
      (isAuto r = true → next ≤ v ∧ ∀ (j w : Nat), j < k → (fill next req)[j]? = some w → w < v) := by
  intro req
  induction req with
  | nil =>
    intro next k r v hr
    simp at hr
  | cons r0 rest ih =>
    intro next k r v hr hv
    simp only [fill] at hv ⊢
    cases k with
    | zero =>
      simp only [List.getElem?_cons_zero, Option.some.injEq] at hr hv
      subst hr hv
      exact ⟨placed_explicit next, fun ha => ⟨Nat.le_of_eq (placed_auto next ha).symm,
        fun j w hj => absurd hj (Nat.not_lt_zero j)⟩⟩
    | succ k =>
      simp only [List.getElem?_cons_succ] at hr hv
      obtain ⟨h1, h2⟩ := ih _ k r v hr hv
      refine ⟨h1, fun ha => ?_⟩
      obtain ⟨h3, h4⟩ := h2 ha
      refine ⟨Nat.le_trans (Nat.le_succ_of_le (Nat.le_max_left _ _)) h3, fun j w hj hw => ?_⟩
      cases j with
      | zero =>
        cases hw
        exact Nat.lt_of_lt_of_le (Nat.lt_succ_of_le (Nat.le_max_right _ _)) h3
      | succ j => exact h4 j w (Nat.lt_of_succ_lt_succ hj) hw

/-- BulkAddRecord on a table holding `rows`: one id per entry; explicit entries are returned as given;
    an automatic/negative entry gets an id above every existing row and every id returned earlier in the
    request (so above every EARLIER explicit id too). -/
theorem fill_ids_spec (rows : List Nat) (req : List (Option Int)) (ids : List Nat)
    (h : fillIds (nextRowId rows) req = .ok ids) :
    ids.length = req.length ∧
    ∀ (k : Nat) (r : Option Int) (v : Nat), req[k]? = some r → ids[k]? = some v →
      (isAuto r = false → r = some (v : Int)) ∧
      (isAuto r = true →
        (∀ x ∈ rows, x < v) ∧ ∀ (j w : Nat), j < k → ids[j]? = some w → w < v) := by
  obtain rfl := fillIds_ok_eq h
  refine ⟨fill_length _ _, fun k r v hr hv => ?_⟩
  obtain ⟨h1, h2⟩ := fill_spec req _ k r v hr hv
  refine ⟨h1, fun ha => ?_⟩
  obtain ⟨h3, h4⟩ := h2 ha
  exact ⟨fun x hx => Nat.lt_of_lt_of_le (lt_nextRowId rows x hx) h3, h4⟩

/-- a non-trivial instance: table {2,5}, request [1, None, 3, -1] ↦ [1, 7, 3, 9] -/
example : fillIds (nextRowId [2, 5]) [some 1, none, some 3, some (-1)] = .ok [1, 7, 3, 9] := by decide +kernel

theorem mem_fill : ∀ (req : List (Option Int)) (next v : Nat),
    v ∈ fill next req → v ∈ explicitIds req ∨ next ≤ v := by
  intro req
  induction req with
  | nil =>
    intro next v hv
    simp [fill] at hv
  | cons r rest ih =>
    intro next v hv
    rcases List.mem_cons.mp hv with rfl | hv
    · cases ha : isAuto r
      · rw [explicitIds_cons next, ha]
        exact Or.inl List.mem_cons_self
      · exact Or.inr (Nat.le_of_eq (placed_auto next ha).symm)
    · exact (ih _ v hv).imp (mem_explicitIds_cons r) fun h1 => by omega

theorem explicit_mem_fill : ∀ (req : List (Option Int)) (next e : Nat),
    e ∈ explicitIds req → e ∈ fill next req := by
  intro req
  induction req with
  | nil =>
    intro next e he
    simp [explicitIds] at he
  | cons r rest ih =>
    intro next e he
    rw [explicitIds_cons next] at he
    split at he
    · exact List.mem_cons_of_mem _ (ih _ e he)
    · rcases List.mem_cons.mp he with rfl | he
      · exact List.mem_cons_self
      · exact List.mem_cons_of_mem _ (ih _ e he)

/-- The returned ids are pairwise distinct EXACTLY WHEN the explicit ids are and none equals an automatic
    id handed out earlier in the request (every other accepted request returns a repeated id). -/
theorem fill_ids_nodup_iff : ∀ (req : List (Option Int)) (next : Nat) (ids : List Nat),
    fillIds next req = .ok ids →
    (ids.Nodup ↔ (explicitIds req).Nodup ∧ NoLateClash next req) := by
  suffices ∀ req next, (fill next req).Nodup ↔ (explicitIds req).Nodup ∧ NoLateClash next req from
    fun req next ids h => fillIds_ok_eq h ▸ this req next
  intro req
  induction req with
  | nil =>
    intro next
    simp [fill, explicitIds, NoLateClash]
  | cons r rest ih =>
    intro next
    have hmem : placed next r ∈ fill (max next (placed next r) + 1) rest ↔
        placed next r ∈ explicitIds rest :=
      ⟨fun h => (mem_fill _ _ _ h).resolve_right (by omega), explicit_mem_fill _ _ _⟩
    rw [fill, List.nodup_cons, ih, hmem, noLateClash_cons, explicitIds_cons next]
    cases ha : isAuto r
    · simp [and_assoc]
    · simp [placed_auto next ha, and_left_comm]

/-- both sides on concrete requests: [None, 4, -1] from 3 is clash-free and distinct; [None, 3] is neither -/
example : fillIds 3 [none, some 4, some (-1)] = .ok [3, 4, 5] ∧ NoLateClash 3 [none, some 4, some (-1)] ∧
    fillIds 3 [none, some 3] = .ok [3, 3] ∧ ¬ NoLateClash 3 [none, some 3] := by
  refine ⟨rfl, by simp [NoLateClash, explicitIds], rfl, by simp [NoLateClash, explicitIds]⟩

/-- A sufficient condition for `NoLateClash`: every explicit id is below the id the loop starts from
    (filling holes below the table's maximum can never meet an automatic id). -/
theorem noLateClash_of_below : ∀ (req : List (Option Int)) (next : Nat),
    (∀ e ∈ explicitIds req, e < next) → NoLateClash next req := by
  intro req
  induction req with
  | nil =>
    intro next _
    trivial
  | cons r rest ih =>
    intro next hb
    have hrest : ∀ e ∈ explicitIds rest, e < next := fun e he => hb e (mem_explicitIds_cons r he)
    rw [noLateClash_cons]
    exact ⟨fun _ hm => Nat.lt_irrefl _ (hrest _ hm), ih _ fun e he => by have := hrest e he; omega⟩

example : ∀ e ∈ explicitIds [none, some 1, some (-1), some 4], e < nextRowId [2, 5] := by
  decide +kernel

/-- Another sufficient condition for `NoLateClash`: no explicit entry comes after an automatic one. -/
theorem noLateClash_of_explicit_first : ∀ (pre : List (Option Int)) (post : List (Option Int)) (next : Nat),
    (∀ r ∈ pre, isAuto r = false) → (∀ r ∈ post, isAuto r = true) → NoLateClash next (pre ++ post) := by
  intro pre
  induction pre with
  | nil =>
    intro post next _ h2
    refine noLateClash_of_below post next ?_
    rw [explicitIds_of_auto post h2]
    simp
  | cons r rest ih =>
    intro post next h1 h2
    rw [List.cons_append, noLateClash_cons]
    refine ⟨fun ha => ?_, ih post _ (fun r hr => h1 r (List.mem_cons_of_mem _ hr)) h2⟩
    rw [h1 r List.mem_cons_self] at ha
    cases ha

example : NoLateClash 3 ([some 7, some 3] ++ [none, some (-2)]) :=
  noLateClash_of_explicit_first [some 7, some 3] [none, some (-2)] 3 (by decide +kernel) (by decide +kernel)

/-- The part of the full statement that holds: under the hypotheses of `fill_ids_nodup_iff`, with explicit
    ids positive and absent from the table, the returned ids are distinct, positive and new. -/
theorem fill_ids_distinct_partial (rows : List Nat) (req : List (Option Int)) (ids : List Nat)
    (h : fillIds (nextRowId rows) req = .ok ids)
    (hpos : ∀ e ∈ explicitIds req, 0 < e)
    (hnd : (explicitIds req).Nodup)
    (habs : ∀ e ∈ explicitIds req, e ∉ rows)
    (hclash : NoLateClash (nextRowId rows) req) :
    ids.Nodup ∧ (∀ v ∈ ids, 0 < v) ∧ (∀ v ∈ ids, v ∉ rows) := by
  have hmem := fun v hv => mem_fill req (nextRowId rows) v (fillIds_ok_eq h ▸ hv)
  exact ⟨(fill_ids_nodup_iff req _ ids h).mpr ⟨hnd, hclash⟩,
    fun v hv => (hmem v hv).elim (hpos v) (Nat.lt_of_lt_of_le (Nat.succ_pos _)),
    fun v hv hin => (hmem v hv).elim (fun h1 => habs v h1 hin)
      fun h1 => Nat.lt_irrefl _ (Nat.lt_of_lt_of_le (lt_nextRowId rows v hin) h1)⟩

/-- hypotheses satisfiable non-trivially: table {2,5}, request [1, None, 3, -1] -/
example : (∀ e ∈ explicitIds [some 1, none, some 3, some (-1)], 0 < e) ∧
    (explicitIds [some 1, none, some 3, some (-1)]).Nodup ∧
    (∀ e ∈ explicitIds [some 1, none, some 3, some (-1)], e ∉ [2, 5]) ∧
    NoLateClash (nextRowId [2, 5]) [some 1, none, some 3, some (-1)] := by
  -- the explicit ids 1 and 3 fill holes below the table's next id 6
  exact ⟨by decide +kernel, by decide +kernel, by decide +kernel, noLateClash_of_below _ _ (by decide +kernel)⟩

/-
-- FULL STATEMENT (unproved): every request the code accepts returns pairwise distinct positive ids
-- that are exactly the new rows:
--   ∀ rows m req res, addRequest rows m req = .ok res →
--     res.ids.Nodup ∧ (∀ v ∈ res.ids, 0 < v ∧ v ∉ rows) ∧ (∀ v, v ∈ res.rows ↔ v ∈ rows ∨ v ∈ res.ids)
-- equivalently: a request with a repeated explicit id, an explicit id equal to an earlier automatic
-- id, or an explicit id 0 is rejected.  It is FALSE of the code; the three negations follow.
-/

/-- NEGATION 1 (repeated explicit id): `BulkAddRecord T [5,5]` on rows {1,2} is accepted, announces
    two ids, one row appears. -/
theorem repeated_explicit_accepted :
    ¬ ∀ (rows : List Nat) (m : TempMap) (req : List (Option Int)) (res : AddResult),
        addRequest rows m req = .ok res → res.ids.Nodup := by
  intro h
  have := h [1, 2] [] [some 5, some 5] { ids := [5, 5], rows := [1, 2, 5], map := [] } (by decide +kernel)
  exact absurd this (by decide +kernel)

/-- NEGATION 2 (explicit id equal to an earlier automatic id): `[None, 3, None]` on rows {1,2}
    (next id 3) is accepted and returns [3, 3, 5]. -/
theorem late_clash_accepted :
    ¬ ∀ (rows : List Nat) (m : TempMap) (req : List (Option Int)) (res : AddResult),
        addRequest rows m req = .ok res → (explicitIds req).Nodup → res.ids.Nodup := by
  intro h
  have := h [1, 2] [] [none, some 3, none] { ids := [3, 3, 5], rows := [1, 2, 3, 5], map := [] }
    (by decide +kernel) (by decide +kernel)
  exact absurd this (by decide +kernel)

/-- NEGATION 3 (explicit id 0): `AddRecord T 0` on rows {1,2} is accepted, returns 0, no row exists. -/
theorem zero_id_ghost :
    ¬ ∀ (rows : List Nat) (m : TempMap) (req : List (Option Int)) (res : AddResult),
        addRequest rows m req = .ok res → ∀ v ∈ res.ids, v ∈ res.rows := by
  intro h
  have := h [1, 2] [] [some 0] { ids := [0], rows := [1, 2], map := [] } (by decide +kernel) 0 (by decide +kernel)
  exact absurd this (by decide +kernel)

/-- ReplaceTableData accepts the same three: a repeated id, an id equal to an earlier automatic one, id 0 -/
example : replaceRequest [] [some 3, some 3] = .ok { ids := [3, 3], rows := [3], map := [] } := by decide +kernel
example : replaceRequest [] [none, some 1] = .ok { ids := [1, 1], rows := [1], map := [] } := by decide +kernel
example : replaceRequest [] [some 0] = .ok { ids := [0], rows := [], map := [] } := by decide +kernel

theorem mem_addRows : ∀ (ids rows : List Nat) (v : Nat),
    v ∈ addRows rows ids ↔ v ∈ rows ∨ (v ∈ ids ∧ 0 < v) := by
  intro ids
  induction ids with
  | nil =>
    intro rows v
    simp [addRows]
  | cons r rest ih =>
    intro rows v
    rw [addRows, ih]
    -- only `v = r` needs a look: `r` joins the rows unless it is 0 or already there
    by_cases hv : v = r
    · subst hv
      by_cases hp : 0 < v <;> by_cases hc : v ∈ rows <;> simp [hp, hc]
    · split <;> simp [hv]

theorem nodup_addRows : ∀ (ids rows : List Nat), rows.Nodup → (addRows rows ids).Nodup := by
  intro ids
  induction ids with
  | nil =>
    intro rows h
    exact h
  | cons r rest ih =>
    intro rows h
    rw [addRows]
    apply ih
    split
    · rename_i hc
      rw [List.nodup_append]
      exact ⟨h, List.pairwise_singleton _ r, fun a ha b hb hab =>
        hc.2 (by simpa [← List.mem_singleton.mp hb, ← hab] using ha)⟩
    · exact h

theorem addRows_eq_append : ∀ (ids rows : List Nat), ids.Nodup → (∀ v ∈ ids, 0 < v ∧ v ∉ rows) →
    addRows rows ids = rows ++ ids := by
  intro ids
  induction ids with
  | nil =>
    intro rows _ _
    simp [addRows]
  | cons r rest ih =>
    intro rows hnd h
    obtain ⟨hr, hnd'⟩ := List.nodup_cons.mp hnd
    have h0 := h r List.mem_cons_self
    rw [addRows, if_pos ⟨h0.1, by simpa using h0.2⟩, ih _ hnd', List.append_assoc, List.singleton_append]
    intro v hv
    have := h v (List.mem_cons_of_mem _ hv)
    refine ⟨this.1, ?_⟩
    rw [List.mem_append, List.mem_singleton, not_or]
    exact ⟨this.2, fun hvr => hr (hvr ▸ hv)⟩

theorem docBulkAdd_ok {rows ids rows' : List Nat} (h : docBulkAdd rows ids = .ok rows') :
    (∀ v ∈ ids, 0 < v → v ∉ rows) ∧ rows' = addRows rows ids := by
  simp only [docBulkAdd] at h
  split at h
  · cases h
  · rename_i hany
    cases h
    refine ⟨fun v hv hp hin => hany ?_, rfl⟩
    exact List.any_eq_true.mpr ⟨v, hv, by simp [hasRow, hp, hin]⟩

theorem addRequest_ok {rows : List Nat} {m : TempMap} {req : List (Option Int)} {res : AddResult}
    (h : addRequest rows m req = .ok res) :
    ∃ ids, fillIds (nextRowId rows) req = .ok ids ∧ (∀ v ∈ ids, 0 < v → v ∉ rows) ∧
      res = { ids := ids, rows := addRows rows ids, map := updateNewRowsMap m req ids } := by
  simp only [addRequest] at h
  split at h
  · cases h
  · rename_i ids hids
    split at h
    · cases h
    · rename_i rows' hadd
      obtain ⟨habs, rfl⟩ := docBulkAdd_ok hadd
      exact ⟨ids, hids, habs, (Except.ok.inj h).symm⟩

/-- an explicit id that names an existing row rejects the request
    (ValueError from the loop or AssertionError from the doc action). -/
theorem existing_rejected (rows : List Nat) (m : TempMap) (req : List (Option Int)) (e : Nat)
    (he : e ∈ explicitIds req) (hin : e ∈ rows) (hpos : 0 < e) :
    ∃ err, addRequest rows m req = .error err := by
  cases h : addRequest rows m req with
  | error err => exact ⟨err, rfl⟩
  | ok res =>
    obtain ⟨ids, hids, habs, _⟩ := addRequest_ok h
    exact absurd hin (habs e (fillIds_ok_eq hids ▸ explicit_mem_fill req _ e he) hpos)

example : addRequest [1, 2] [] [none, some 2] = .error "AssertionError" := rfl

/-- The same for an ACCEPTED BulkAddRecord on a duplicate-free table (absence is what the doc action
    asserted): the rows afterwards are exactly the old rows plus the returned ids, `ids.length` new rows. -/
theorem add_exact_partial (rows : List Nat) (m : TempMap) (req : List (Option Int)) (res : AddResult)
    (h : addRequest rows m req = .ok res)
    (hrnd : rows.Nodup)
    (hpos : ∀ e ∈ explicitIds req, 0 < e)
    (hnd : (explicitIds req).Nodup)
    (hclash : NoLateClash (nextRowId rows) req) :
    res.ids.Nodup ∧ (∀ v ∈ res.ids, 0 < v ∧ v ∉ rows) ∧
    (∀ v, v ∈ res.rows ↔ v ∈ rows ∨ v ∈ res.ids) ∧ res.rows.Nodup ∧
    res.rows.length = rows.length + res.ids.length := by
  obtain ⟨ids, hfill, habs, rfl⟩ := addRequest_ok h
  obtain ⟨h1, h2, h3⟩ := fill_ids_distinct_partial rows req ids hfill hpos hnd
    (fun e he => habs e (fillIds_ok_eq hfill ▸ explicit_mem_fill req _ e he) (hpos e he)) hclash
  have happ : addRows rows ids = rows ++ ids :=
    addRows_eq_append _ _ h1 fun v hv => ⟨h2 v hv, h3 v hv⟩
  exact ⟨h1, fun v hv => ⟨h2 v hv, h3 v hv⟩, fun v => by rw [happ, List.mem_append],
    nodup_addRows _ _ hrnd, by rw [happ, List.length_append]⟩

example : addRequest [2, 5] [] [some 1, none, some 3, some (-1)]
    = .ok { ids := [1, 7, 3, 9], rows := [2, 5, 1, 7, 3, 9], map := [(-1, 9)] } := by decide +kernel

end Grist.RowIds
