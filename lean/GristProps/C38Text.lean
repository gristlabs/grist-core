/-
C38 (continued)  The TEXT of app/common/schema.ts is what the model of gen_js_schema.main() prints
for the current schema.py.  The file's lines and the schema's names are read as character lists and the
rendering from line 13 on is evaluated on those (GristProofs/SchemaChars.lean, `text_of_read`); only the twelve
header lines are compared as `String`.  A module of its own: the evaluation is the longest of C38 and
uses nothing of GristProps/C38.lean, so the two are checked side by side.
-/
import GristProofs.SchemaChars
import Generated.SchemaPy
import Generated.SchemaTs
namespace Grist.SchemaGen
open Grist.Generated

/-- app/common/schema.ts, as TEXT (its lines, not the parse), is what the model of
`gen_js_schema.main()` prints for schema.py.  (`tsFileLines` is the file split at newlines; the
final `""` says the file ends with a newline.) -/
theorem schema_ts_text_matches : renderLines pySchema ++ [""] = tsFileLines := by
  apply text_of_read
  case hS | hL => repeat first | with_reducible constructor | constructor
  case hdr | h => decide +kernel

-- the statement is not vacuous: the rendering is sensitive to every field it prints
example : renderLines ⟨7, [⟨"T", [⟨"a", "Ref:T", false, ""⟩]⟩]⟩ =
    [ "/* eslint-disable */", "", "/*** THIS FILE IS AUTO-GENERATED BY core/sandbox/gen_js_schema.py ***/", "",
      "import { GristObjCode } from \"app/plugin/GristData\";", "",
      "// tslint:disable:object-literal-key-quotes", "", "export const SCHEMA_VERSION = 7;", "",
      "export const schema = {", "", "  \"T\": {", "    a                   : \"Ref:T\",", "  },", "",
      "};", "", "export interface SchemaTypes {", "", "  \"T\": {", "    a: number;", "  };", "", "}" ] := by
  decide +kernel

end Grist.SchemaGen
