/-
C05  Incremental recalculation equals recalculation from scratch.
Model: GristModel/Recalc.lean.  Helper lemmas: GristProofs/Recalc*.lean; `WFState`, `Good`, `Inv`,
`DependsOnSelf`, `Ev.isCalc` are defined at the top of GristProofs/RecalcBase.lean.
Second part (L): the bookkeeping BELOW that model -- which referring rows a `_LookupRelation` of
lookup.py hands to `engine.invalidate_records` when keys of a lookup index change, and its
`_invalidated_keys_cache`.  Model: GristModel/LookupRel.lean, helper lemmas: GristProofs/LookupRel.lean.
-/
import GristProofs.RecalcExamples
import GristProofs.LookupRel
namespace Grist.Recalc

/-! ### (U1) the invariant is preserved by every transition -/

/-- `closure` really is closed under readers: it contains the seed, and with a cell every formula
    cell `< n` that may read it (`n` rounds of `readersStep` reach a fixpoint). -/
theorem closure_closed' (p : Prog) (n : Nat) (s : List Nat) :
    (∀ x ∈ s, x < n → x ∈ closure p n s) ∧
    (∀ d ∈ closure p n s, ∀ k, k < n → p.formula k = true → d ∈ p.deps k → k ∈ closure p n s) :=
  ⟨fun _ hx hlt => closure_seed p n s hx hlt,
   fun _ hd _ hk hf hdep => closure_closed p n s hd hk hf hdep⟩

/-- `write`, `eval` and `circ` all preserve `Inv` and `WFState` -/
theorem inv_preserved {p : Prog} (hr : p.Respects) {n : Nat} {st st' : State} {e : Ev}
    (hw : WFState p n st) (hi : Inv p n st) (h : step p n st e = some st') :
    Inv p n st' ∧ WFState p n st' :=
  ⟨inv_step hr hi h, hw.step h⟩

example : ∃ st', step cycProg 4 cycSt (.write 3 (.num 7)) = some st' ∧
    Inv cycProg 4 st' ∧ WFState cycProg 4 st' :=
  ⟨_, rfl, inv_preserved (e := .write 3 (.num 7)) cycProg_respects cycSt_wf cycSt_inv rfl⟩

/-! ### (U2) quiescent states are consistent -/

/-- after any accepted run from a state with the invariant, a quiescent state has every formula
    cell equal to its formula's value, or `circ` on a dependency cycle -/
theorem quiescent_consistent {p : Prog} (hr : p.Respects) {n : Nat} {st0 st : State}
    {es : List Ev} (hw : WFState p n st0) (hi : Inv p n st0) (h : run p n st0 es = some st)
    (hq : st.dirty = []) :
    ∀ c, c < n → p.formula c = true →
      st.σ c = p.f c st.σ ∨ (st.σ c = V.circ ∧ DependsOnSelf p n c) :=
  inv_quiescent (inv_run hr es hw hi h).1 hq

/-- a write followed by a complete recalculation in the diamond document -/
example : ∃ st, run diaProg 4 diaSt [.eval 1, .eval 2, .eval 3, .write 0 (.num 1),
      .eval 2, .eval 1, .eval 3] = some st ∧ st.dirty = [] ∧ st.σ 3 = V.num 5 :=
  ⟨_, rfl, by decide, by decide⟩

/-! ### (U3) the acyclic case: unique fixpoint, so incremental = from scratch -/

/-- with a rank function, two stores with the same data cells that both satisfy every formula
    agree on all cells `< n` -/
theorem acyclic_unique {p : Prog} (hr : p.Respects) {n : Nat} {rank : Nat → Nat}
    (hdl : ∀ c, c < n → ∀ d ∈ p.deps c, d < n) (hrk : Ranked p n rank) {σ1 σ2 : Nat → V}
    (hdata : ∀ c, c < n → p.formula c = false → σ1 c = σ2 c)
    (h1 : ∀ c, c < n → p.formula c = true → σ1 c = p.f c σ1)
    (h2 : ∀ c, c < n → p.formula c = true → σ2 c = p.f c σ2) :
    ∀ c, c < n → σ1 c = σ2 c :=
  fun c hc => cone_unique hr hdl hdata (fun c _ hc hf _ => h1 c hc hf) (fun c _ hc hf _ => h2 c hc hf)
    _ c (hrk.hgt hdl _ c hc (Nat.lt_succ_self _)) hc

/-- with a rank function the cycle branch is never enabled -/
theorem circ_never_enabled_acyclic {p : Prog} (hr : p.Respects) {n : Nat} {rank : Nat → Nat}
    {st : State} (hw : WFState p n st) (hrk : Ranked p n rank) (c : Nat) :
    step p n st (.circ c) = none := by
  cases h : step p n st (.circ c) with
  | none => rfl
  | some st' =>
    obtain ⟨⟨hlt, hf, _, hb⟩, _⟩ := step_circ_iff.mp h
    exact absurd (reaches_of_blockCycle hr n c hf hb)
      (Hgt.not_dependsOnSelf _ c (hrk.hgt hw.deps_lt _ c hlt (Nat.lt_succ_self _)))

/-- Two accepted runs (any events) from two states with the invariant — e.g. an incremental
    history and a from-scratch load with every formula cell dirty — that both end quiescent with the
    same data cells hold the same values in all cells `< n`. -/
theorem fresh_run_agrees {p : Prog} (hr : p.Respects) {n : Nat} {rank : Nat → Nat}
    (hrk : Ranked p n rank) {s1 s2 t1 t2 : State} {es1 es2 : List Ev}
    (hw1 : WFState p n s1) (hi1 : Inv p n s1) (hw2 : WFState p n s2) (hi2 : Inv p n s2)
    (r1 : run p n s1 es1 = some t1) (r2 : run p n s2 es2 = some t2)
    (q1 : t1.dirty = []) (q2 : t2.dirty = [])
    (hdata : ∀ c, c < n → p.formula c = false → t1.σ c = t2.σ c) :
    ∀ c, c < n → t1.σ c = t2.σ c :=
  fun c hc => quiescent_cone_agree hr hw1.deps_lt (inv_run hr es1 hw1 hi1 r1).1
    (inv_run hr es2 hw2 hi2 r2).1 q1 q2 hdata _ c (hrk.hgt hw1.deps_lt _ c hc (Nat.lt_succ_self _)) hc

/-- the same when the runs are recalculations only (eval/circ events): it is enough that the data
    cells agree at the start -/
theorem fresh_recalc_agrees {p : Prog} (hr : p.Respects) {n : Nat} {rank : Nat → Nat}
    (hrk : Ranked p n rank) {s1 s2 t1 t2 : State} {es1 es2 : List Ev}
    (hw1 : WFState p n s1) (hi1 : Inv p n s1) (hw2 : WFState p n s2) (hi2 : Inv p n s2)
    (c1 : ∀ e ∈ es1, e.isCalc = true) (c2 : ∀ e ∈ es2, e.isCalc = true)
    (r1 : run p n s1 es1 = some t1) (r2 : run p n s2 es2 = some t2)
    (q1 : t1.dirty = []) (q2 : t2.dirty = [])
    (hdata : ∀ c, c < n → p.formula c = false → s1.σ c = s2.σ c) :
    ∀ c, c < n → t1.σ c = t2.σ c :=
  fresh_run_agrees hr hrk hw1 hi1 hw2 hi2 r1 r2 q1 q2 (fun c hc hf => by
    rw [calc_run_untouched es1 c1 r1 c (.inl hf), calc_run_untouched es2 c2 r2 c (.inl hf)]
    exact hdata c hc hf)

/-- the diamond document loaded with datum 1, every formula cell dirty -/
def diaSt' : State := { σ := fun c => if c = 0 then .num 1 else .num 0, dirty := [3, 2, 1] }

/-- incremental (load, recalc, write, recalc of the two readers … ) vs from scratch with the new
    datum: the hypotheses are satisfiable and the results agree -/
example : ∃ t1 t2,
    run diaProg 4 diaSt [.eval 1, .eval 2, .eval 3, .write 0 (.num 1), .eval 2, .eval 1, .eval 3]
      = some t1 ∧
    run diaProg 4 diaSt' [.eval 1, .eval 2, .eval 3] = some t2 ∧
    ∀ c, c < 4 → t1.σ c = t2.σ c := by
  refine ⟨_, _, rfl, rfl, ?_⟩
  refine fresh_run_agrees diaProg_respects diaProg_ranked diaSt_wf diaSt_inv
    (es1 := [.eval 1, .eval 2, .eval 3, .write 0 (.num 1), .eval 2, .eval 1, .eval 3])
    (es2 := [.eval 1, .eval 2, .eval 3]) (s2 := diaSt') ⟨by decide, by decide, by decide⟩
    (Inv.of_all_dirty (by decide)) rfl rfl (by decide) (by decide) (by decide)

end Grist.Recalc

/-! ## (L) lookup.py `_LookupRelation`: which referring rows are invalidated

Everything below is about arbitrary operation sequences on one relation, starting from the empty
relation `{}` (a relation is created empty by `_RelationTracker._get_relation`).  `run true` is the
code; `run false` is the variant whose `_add_lookup` does not clear `_invalidated_keys_cache` (the
patch seeded/C05-c05).  `handedBy s ks` = the rows `invalidate_affected_keys(ks)` passes to
`engine.invalidate_records` in relation state `s` (`[]` if it does not call the engine). -/
namespace Grist.LookupRel

/-- what the driver prints for an `invalidate` operation is `handedBy` -/
theorem output_invalidate (clear : Bool) (st : St) (ks : List Key) :
    ((step clear st (.invalidate ks)).2).getD [] = handedBy st.rel ks := by
  rw [step_invalidate]
  split <;> simp [*]

/-! ### (L1) frame / exactness: the map is exactly the lookups recorded since each row's last reset -/

/-- `(r, k)` is in `_row_key_map` iff some `_add_lookup(r, k)` was followed by no `reset_rows`
    containing `r`, no `reset_rows(ALL_ROWS)` and no `reset_all` (code and variant alike) -/
theorem lookuprel_map_exact (clear : Bool) (ops : List Op) (r : Row) (k : Key) :
    (r, k) ∈ (run clear {} ops).rel.map ↔
      ∃ pre post, ops = pre ++ Op.add r k :: post ∧ ∀ o ∈ post, o.resets r = false := by
  rw [map_lastWriter]
  exact or_iff_right fun h => by simp at h

/-- `_row_key_map` holds each pair once. -/
theorem lookuprel_map_nodup (clear : Bool) (ops : List Op) : (run clear {} ops).rel.map.Nodup :=
  map_nodup clear {} (by simp) ops

example : (run true {} [.add 1 5, .add 2 5, .add 1 6, .resetRows [1], .add 1 7]).rel.map
    = [(2, 5), (1, 7)] := by decide +kernel

example : ∃ pre post, [Op.add 1 5, .add 2 5, .add 1 6, .resetRows [1], .add 1 7]
    = pre ++ Op.add 2 5 :: post ∧ ∀ o ∈ post, o.resets 2 = false :=
  ⟨[.add 1 5], [.add 1 6, .resetRows [1], .add 1 7], rfl, by decide⟩

/-- `get_affected_rows_by_keys` (used by `get_affected_rows` and by `invalidate_affected_keys`):
    exactly the rows mapped to one of the keys
    `None` maps to nothing -/
theorem lookuprel_affected_rows (m : List (Row × Key)) (keys : List Key) (r : Row) :
    r ∈ affectedRowsByKeys m keys ↔ ∃ k ∈ keys, k ≠ noneKey ∧ (r, k) ∈ m :=
  mem_affectedRowsByKeys

example : affectedRowsByKeys [(1, 5), (2, 5), (3, 6), (4, 0)] [0, 5] = [1, 2] := by decide +kernel

/-! ### (L2) the central safety statement: the cache never suppresses a row that was not already
handed over for that key since the cache was last cleared -/

/-- what `invalidate_affected_keys(ks)` hands over: the rows mapped to a key of `ks` that is neither
    `None` nor in the cache -/
theorem lookuprel_handedBy (s : Rel) (ks : List Key) (r : Row) :
    r ∈ handedBy s ks ↔ ∃ k ∈ ks, k ∉ s.cache ∧ k ≠ noneKey ∧ (r, k) ∈ s.map :=
  mem_handedBy

/-- a key is in the cache iff an `invalidate_affected_keys(ks)` with that key handed rows over and
    no `_add_lookup` / `reset_rows` / `reset_all` came after it -/
theorem lookuprel_cache_exact (ops : List Op) (k : Key) :
    k ∈ (run true {} ops).rel.cache ↔
      ∃ pre ks post, ops = pre ++ Op.invalidate ks :: post ∧ k ∈ ks ∧
        handedBy (run true {} pre).rel ks ≠ [] ∧ ∀ o ∈ post, o.clearsCache = false := by
  rw [cache_lastWriter]
  exact or_iff_right fun h => by simp at h

/-- key 5 is cached by the invalidation that handed row 1 over; key 6 (same call) too; the later
    `_add_lookup` clears both -/
example : (run true {} [.add 1 5, .invalidate [5, 6]]).rel.cache = [5, 6] ∧
    (run true {} [.add 1 5, .invalidate [5, 6], .add 2 6]).rel.cache = [] ∧
    handedBy (run true {} [.add 1 5, .invalidate [5, 6]]).rel [5, 6] = [] ∧
    handedBy (run true {} [.add 1 5, .invalidate [5, 6], .add 2 6]).rel [5, 6] = [1, 2] := by decide +kernel

/-- SAFETY.  After ANY operation sequence: a referring row `r` that recorded a lookup of key `k`
    and was not reset since is handed to `invalidate_records` by every
    `invalidate_affected_keys(ks)` with `k ∈ ks` -- unless an earlier `invalidate_affected_keys(ks')`
    with `k ∈ ks'` already handed `r` over and since then no lookup was recorded and nothing was
    reset (no operation cleared the cache).  (`ops` is any prefix of any sequence: the statement
    covers the `invalidate` operation at every position
    what the driver prints there is `handedBy`,
    see `output_invalidate`.) -/
theorem lookuprel_handed_or_already_handed (ops : List Op) (r : Row) (k : Key) (hk : k ≠ noneKey)
    (hrec : ∃ pre post, ops = pre ++ Op.add r k :: post ∧ ∀ o ∈ post, o.resets r = false)
    (ks : List Key) (hks : k ∈ ks) :
    r ∈ handedBy (run true {} ops).rel ks ∨
    ∃ pre ks' post, ops = pre ++ Op.invalidate ks' :: post ∧ k ∈ ks' ∧
      r ∈ handedBy (run true {} pre).rel ks' ∧ ∀ o ∈ post, o.clearsCache = false := by
  have hm : (r, k) ∈ (run true {} ops).rel.map := (lookuprel_map_exact true ops r k).2 hrec
  exact (handed_or_already_handed invA_empty ops hk hm hks).imp_right
    (Or.resolve_left · fun h => by simp at h)

/-- both branches occur: row 2 is handed over by the second invalidation (a lookup was recorded in
    between, the cache was cleared); the third one is suppressed for both rows, which were handed
    over by the second one -/
example : outputs true {} [.add 1 5, .invalidate [5], .add 2 5, .invalidate [5], .invalidate [5, 6]]
    = [none, some [1], none, some [1, 2], none] := by decide +kernel

example : ∃ pre post, [Op.add 1 5, .invalidate [5], .add 2 5, .invalidate [5]]
    = pre ++ Op.add 2 5 :: post ∧ ∀ o ∈ post, o.resets 2 = false :=
  ⟨[.add 1 5, .invalidate [5]], [.invalidate [5]], rfl, by decide⟩

/-! ### (L3) the same one level up: rows the engine treats as up to date
(ghost fields `live`, `clean` of GristModel/LookupRel.lean `Ghost`) -/

/-- `live`: recorded by an `_add_lookup(r, k)` after which no evaluation of `r` began (and the
    relation was not dropped by `reset_all`) -/
theorem lookuprel_live_exact (clear : Bool) (ops : List Op) (r : Row) (k : Key) :
    (r, k) ∈ (run clear {} ops).g.live ↔
      ∃ pre post, ops = pre ++ Op.add r k :: post ∧
        ∀ o ∈ post, o ≠ Op.beginEval r ∧ o ≠ Op.resetAll := by
  rw [live_lastWriter]
  exact or_iff_right fun h => by simp at h

/-- `clean`: an evaluation of `r` began, and along the rest of the run `r` was neither reset nor
    handed to `invalidate_records` (`Unclean`) -/
theorem lookuprel_clean_exact (clear : Bool) (ops : List Op) (r : Row) :
    r ∈ (run clear {} ops).g.clean ↔
      ∃ pre post, ops = pre ++ Op.beginEval r :: post ∧
        NoUnset clear (Unclean r) (next clear (run clear {} pre) (Op.beginEval r)) post := by
  rw [clean_lastWriter]
  exact or_iff_right fun h => by simp at h

/-- After ANY operation sequence: if the evaluation of `r` that the engine began last looked up
    `k`, and `r` was neither handed over nor reset since that evaluation began, then EVERY
    `invalidate_affected_keys(ks)` with `k ∈ ks` hands `r` over -- the cache never stands in the way. -/
theorem lookuprel_clean_live_handed (ops : List Op) (r : Row) (k : Key) (hk : k ≠ noneKey)
    (hl : (r, k) ∈ (run true {} ops).g.live) (hc : r ∈ (run true {} ops).g.clean)
    (ks : List Key) (hks : k ∈ ks) :
    r ∈ handedBy (run true {} ops).rel ks :=
  (invB_run invB_empty ops).handed hk hl hc hks

/-- THE EXPLICIT HYPOTHESIS about the engine: `engineSettled` -- at every `settled rows`
    observation of the sequence (the harness makes one at the end of every bundle: the referring
    rows that exist and are not in `recompute_map`), every such row whose latest evaluation recorded
    lookups began that evaluation after it was last handed to `invalidate_records` / passed to
    `reset_rows`.  (`Engine._recompute_step` removes a dirty row from `recompute_map` after
    `_recompute_one_cell`, when the row is absent from the table, or -- the case in which the
    hypothesis fails -- unevaluated when it was already evaluated in the same update.)  Under it: at every such
    observation, every lookup of a settled row's latest evaluation is honoured by every later
    invalidation of that key. -/
theorem lookuprel_settled_rows_handed (ops : List Op) (hyp : engineSettled true {} ops = true)
    (pre post : List Op) (rows : List Row) (heq : ops = pre ++ Op.settled rows :: post)
    (r : Row) (hr : r ∈ rows) (k : Key) (hk : k ≠ noneKey)
    (hl : (r, k) ∈ (run true {} pre).g.live) (ks : List Key) (hks : k ∈ ks) :
    r ∈ handedBy (run true {} pre).rel ks :=
  settled_rows_handed invB_empty (heq ▸ hyp) hr hk hl hks

/-- a sequence of the shape the engine produces (evaluate rows 1 and 2, the index changes key 5,
    both are handed over, re-evaluated, row 2 now looks up key 6
    end of bundle): the hypothesis
    holds, and a change of key 6 hands over row 2, a change of key 5 row 1 -/
def okOps : List Op :=
  [.beginEval 1, .add 1 5, .beginEval 2, .add 2 5, .invalidate [5], .resetRows [1, 2],
   .beginEval 1, .add 1 5, .beginEval 2, .add 2 6, .settled [1, 2]]

example : engineSettled true {} okOps = true ∧
    (2, 6) ∈ (run true {} okOps).g.live ∧ 2 ∈ (run true {} okOps).g.clean ∧
    handedBy (run true {} okOps).rel [6] = [2] ∧ handedBy (run true {} okOps).rel [5, 9] = [1] := by
  decide +kernel

/-- the theorem applied to that sequence: all its hypotheses hold together -/
example : 2 ∈ handedBy (run true {} (okOps.take 10)).rel [6] :=
  lookuprel_settled_rows_handed okOps (by decide +kernel) (okOps.take 10) [] [1, 2] (by decide) 2
    (by decide) 6 (by decide) (by decide +kernel) [6] (by decide)

/-- the hypothesis is not vacuous either way: it fails for a sequence in which a handed-over row is
    never evaluated again -/
example : engineSettled true {} [.beginEval 1, .add 1 5, .invalidate [5], .settled [1]] = false := by
  decide +kernel

/-! ### (L4) negation witness: without the cache clear in `_add_lookup` all of this fails -/

/-- row 1 looks up key 7 and is handed over (key 7 is cached); then row 2 looks up key 7 -/
def mutOps : List Op := [.beginEval 1, .add 1 7, .invalidate [7], .beginEval 2, .add 2 7]

/-- in the VARIANT (`run false`) row 2's lookup of key 7 is recorded, live, row 2 is clean and was
    never handed over -- yet `invalidate_affected_keys([7])` hands over nothing: the stale cache
    entry suppresses it.  The code (`run true`) hands over rows 1 and 2. -/
theorem lookuprel_variant_suppresses_needed_row :
    (2, 7) ∈ (run false {} mutOps).rel.map ∧ (2, 7) ∈ (run false {} mutOps).g.live ∧
    2 ∈ (run false {} mutOps).g.clean ∧ (2, 7) ∉ (run false {} mutOps).g.handed ∧
    handedBy (run false {} mutOps).rel [7] = [] ∧
    outputs false {} (mutOps ++ [.invalidate [7]]) = [none, none, some [1], none, none, none] ∧
    outputs true {} (mutOps ++ [.invalidate [7]]) = [none, none, some [1], none, none, some [1, 2]] := by
  decide +kernel

/-- The two invariants behind (L2) and (L3) are false of the variant. -/
theorem lookuprel_variant_breaks_invariants :
    ¬ (∀ ops, InvA (run false {} ops)) ∧ ¬ (∀ ops, InvB (run false {} ops)) := by
  constructor
  · intro h
    exact absurd (h mutOps 2 7 (by decide +kernel) (by decide) (by decide +kernel))
      (by decide +kernel)
  · intro h
    exact absurd (h mutOps 2 7 (by decide +kernel) (by decide +kernel) (by decide)).2
      (by decide +kernel)

/-- The statement of (L3) itself is false of the variant. -/
theorem lookuprel_variant_fails_L3 :
    ¬ (∀ (ops : List Op) (r : Row) (k : Key), k ≠ noneKey → (r, k) ∈ (run false {} ops).g.live →
        r ∈ (run false {} ops).g.clean → ∀ ks, k ∈ ks → r ∈ handedBy (run false {} ops).rel ks) := by
  intro h
  exact absurd (h mutOps 2 7 (by decide) (by decide +kernel) (by decide +kernel) [7] (by decide))
    (by decide +kernel)

/-- The variant behaves like the code exactly as long as no lookup is recorded while the cache is
    non-empty (`addsOnEmptyCache`: a `reset_rows` between every invalidation and the next lookup).
    The engine does not guarantee that (an
    evaluation retried after an OrderError records its lookups again without `reset_rows`
    a node
    already started in this update is not reset again) -- the harness counts the recorded traces on
    which `addsOnEmptyCache` fails and those on which the variant would answer differently. -/
theorem lookuprel_variant_agrees_if_adds_on_empty_cache (ops : List Op)
    (h : addsOnEmptyCache false {} ops = true) :
    (run false {} ops).rel = (run true {} ops).rel ∧ outputs false {} ops = outputs true {} ops :=
  variant_agrees_aux ops {} {} rfl h

example : addsOnEmptyCache false {} okOps = true := by decide +kernel
example : addsOnEmptyCache false {} mutOps = false := by decide +kernel

end Grist.LookupRel
