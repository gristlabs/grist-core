/-
C14  Sorted searches and PREVIOUS/NEXT/RANK agree with a linear scan.
Property theorems only.  Model: GristModel/SortedFind.lean; helper lemmas: GristProofs/SortedFind.lean.

Reading: a "sorted lookup result" is a list of rows `rs` that is sorted under `SortKey.__lt__`
(`keyLt`), i.e. no later row's key is `<` an earlier row's key; the "same comparison" of the linear
scan is that very comparison on the sort values (`valuesBefore`, the row-id tie-break neutralised
exactly as `_find_eq` does it).  Search values may be shorter (prefix search) or longer than the
sort spec.  All rows carry one cell per sort-spec column (`r.cells.length = n`).
-/
import GristProofs.SortedFind
namespace Grist.SortedFind

/-- **bisect_left.**  For any `lt` that is a strict weak order on `S`, any list `a` whose keys are in
    `S` and which is sorted (no later key `<` an earlier one) and any probe `x ∈ S`: the index
    returned by Python's `bisect_left(a, x, key=key)` is the number of elements strictly before the
    probe, and exactly the elements left of that index are strictly before the probe. -/
theorem bisect_left_spec {α β : Type} (S : β → Prop) (lt : β → β → Bool)
    (hswo : StrictWeakOrderOn S lt) (key : α → β) (a : List α) (x : β)
    (hS : ∀ e ∈ a, S (key e)) (hx : S x)
    (hs : a.Pairwise (fun p q => lt (key q) (key p) = false)) :
    bisectLeft lt key a x 0 a.length = a.countP (fun e => lt (key e) x) ∧
    ∀ i (h : i < a.length), (lt (key a[i]) x = true ↔ i < bisectLeft lt key a x 0 a.length) := by
  have mono : a.Pairwise (fun p q => lt (key q) x = true → lt (key p) x = true) := by
    refine List.Pairwise.imp_of_mem ?_ hs
    intro p q hp hq hqp hqx
    cases hpx : lt (key p) x with
    | true => rfl
    | false =>
      have := hswo.negtrans (hS q hq) (hS p hp) hx hqp hpx
      rw [hqx] at this
      exact absurd this (by simp)
  have hp := prefix_getElem (fun e => lt (key e) x) mono
  have e := bisectLeft_eq lt key a x _ hp 0 a.length (by omega) List.countP_le_length (by omega)
  refine ⟨e, ?_⟩
  intro i h
  rw [e, hp i h]
  simp

/-- **bisect_right.**  Same setting: the index returned by `bisect_right(a, x, key=key)` is the
    number of elements that are not after the probe. -/
theorem bisect_right_spec {α β : Type} (S : β → Prop) (lt : β → β → Bool)
    (hswo : StrictWeakOrderOn S lt) (key : α → β) (a : List α) (x : β)
    (hS : ∀ e ∈ a, S (key e)) (hx : S x)
    (hs : a.Pairwise (fun p q => lt (key q) (key p) = false)) :
    bisectRight lt key a x 0 a.length = a.countP (fun e => !lt x (key e)) ∧
    ∀ i (h : i < a.length), (lt x (key a[i]) = false ↔ i < bisectRight lt key a x 0 a.length) := by
  have mono : a.Pairwise (fun p q => (!lt x (key q)) = true → (!lt x (key p)) = true) := by
    refine List.Pairwise.imp_of_mem ?_ hs
    intro p q hp hq hqp hxq
    have hxq' : lt x (key q) = false := by simpa using hxq
    have := hswo.negtrans hx (hS q hq) (hS p hp) hxq' hqp
    simp [this]
  have hp := prefix_getElem (fun e => !lt x (key e)) mono
  have e := bisectRight_eq lt key a x _ hp 0 a.length (by omega) List.countP_le_length (by omega)
  refine ⟨e, ?_⟩
  intro i h
  rw [e]
  have := hp i h
  constructor
  · intro hf
    rw [hf] at this
    simpa using this.symm
  · intro hlt
    rw [decide_eq_true hlt] at this
    simpa using this

/-- **`SortKey.__lt__` is a strict weak order** on keys that carry the same number of values
    (any mix of None / bool / int / str, any '-' flags, any row ids incl. the ±max sentinels). -/
theorem keyLt_strictWeakOrder (spec : List Bool) (n : Nat) :
    StrictWeakOrderOn (fun k : Key => k.values.length = n) (keyLt spec) where
  irrefl := fun a _ => keyLt_irrefl spec a
  trans := fun a b c ha hb hc h1 h2 =>
    keyLt_trans (by rw [ha, hb]) (by rw [hb, hc]) h1 h2
  incomp_trans := fun a b c ha hb hc h1 h2 h3 h4 =>
    ⟨keyLt_negtrans (by rw [ha, hb]) (by rw [hb, hc]) h1 h3,
     keyLt_negtrans (by rw [hc, hb]) (by rw [hb, ha]) h4 h2⟩

/-- `SortKey.__lt__` is total on keys of distinct rows: it orders any two rows with different ids. -/
theorem keyLt_total_rows (spec : List Bool) (a b : Row) (h : a.id ≠ b.id) :
    keyLt spec (key a) (key b) = true ∨ keyLt spec (key b) (key a) = true :=
  keyLt_total h a.cells b.cells

section find
variable (spec : List Bool) (rs : List Row) (vs : List Val) (n : Nat)

/-- **find.lt** = the LAST record of the ordered set whose sort values are strictly before the
    search values, or the empty record. -/
theorem find_lt_scan (hspec : spec ≠ []) (hvs : vs ≠ []) (hlen : ∀ r ∈ rs, r.cells.length = n)
    (hs : rs.Pairwise (fun a b => keyLt spec (key b) (key a) = false)) :
    findLt spec rs vs = .ok (scanLast rs (fun r => valuesBefore spec r.cells vs)) := by
  unfold findLt scanLast
  rw [getSortKey_ok spec hspec, probeKey_ok vs _ hvs]
  simp only [bisectFind, bisectIndex, if_true, bind, Except.bind, pure, Except.pure]
  rw [bisectLeft_probe spec rs vs n hlen hs, atIndex_pred rs _ List.countP_le_length,
    prefix_last _ (mono_before spec rs vs n hlen hs)]

/-- **find.le** = the LAST record whose sort values are not after the search values. -/
theorem find_le_scan (hspec : spec ≠ []) (hvs : vs ≠ []) (hlen : ∀ r ∈ rs, r.cells.length = n)
    (hs : rs.Pairwise (fun a b => keyLt spec (key b) (key a) = false)) :
    findLe spec rs vs = .ok (scanLast rs (fun r => !valuesBefore spec vs r.cells)) := by
  unfold findLe scanLast
  rw [getSortKey_ok spec hspec, probeKey_ok vs _ hvs]
  simp only [bisectFind, bisectIndex, Bool.false_eq_true, if_false, bind, Except.bind, pure, Except.pure]
  rw [bisectRight_probe spec rs vs n hlen hs, atIndex_pred rs _ List.countP_le_length,
    prefix_last _ (mono_not_after spec rs vs n hlen hs)]

/-- **find.gt** = the FIRST record whose sort values are strictly after the search values. -/
theorem find_gt_scan (hspec : spec ≠ []) (hvs : vs ≠ []) (hlen : ∀ r ∈ rs, r.cells.length = n)
    (hs : rs.Pairwise (fun a b => keyLt spec (key b) (key a) = false)) :
    findGt spec rs vs = .ok (scanFirst rs (fun r => valuesBefore spec vs r.cells)) := by
  unfold findGt scanFirst
  rw [getSortKey_ok spec hspec, probeKey_ok vs _ hvs]
  simp only [bisectFind, bisectIndex, Bool.false_eq_true, if_false, bind, Except.bind, pure, Except.pure]
  rw [bisectRight_probe spec rs vs n hlen hs, atIndex_nat,
    ← prefix_find_not _ (mono_not_after spec rs vs n hlen hs)]
  simp

/-- **find.ge** = the FIRST record whose sort values are not before the search values. -/
theorem find_ge_scan (hspec : spec ≠ []) (hvs : vs ≠ []) (hlen : ∀ r ∈ rs, r.cells.length = n)
    (hs : rs.Pairwise (fun a b => keyLt spec (key b) (key a) = false)) :
    findGe spec rs vs = .ok (scanFirst rs (fun r => !valuesBefore spec r.cells vs)) := by
  unfold findGe scanFirst
  rw [getSortKey_ok spec hspec, probeKey_ok vs _ hvs]
  simp only [bisectFind, bisectIndex, if_true, bind, Except.bind, pure, Except.pure]
  rw [bisectLeft_probe spec rs vs n hlen hs, atIndex_nat,
    ← prefix_find_not _ (mono_before spec rs vs n hlen hs)]

/-- **find.eq** = the FIRST record whose sort values are neither before nor after the search values
    (row ids are positive, so the empty record is told apart by `if found:`). -/
theorem find_eq_scan (hspec : spec ≠ []) (hvs : vs ≠ []) (hlen : ∀ r ∈ rs, r.cells.length = n)
    (hid : ∀ r ∈ rs, r.id ≠ 0)
    (hs : rs.Pairwise (fun a b => keyLt spec (key b) (key a) = false)) :
    findEq spec rs vs = .ok (scanFirst rs (fun r =>
      !valuesBefore spec r.cells vs && !valuesBefore spec vs r.cells)) := by
  unfold findEq scanFirst
  rw [getSortKey_ok spec hspec, probeKey_ok vs _ hvs]
  simp only [bisectFind, bisectIndex, if_true, bind, Except.bind, pure, Except.pure]
  have hfound := prefix_find_not _ (mono_before spec rs vs n hlen hs)
  rw [bisectLeft_probe spec rs vs n hlen hs, atIndex_nat, ← hfound]
  cases hf : rs.find? (fun e => !valuesBefore spec e.cells vs) with
  | none =>
    simp only
    rw [List.find?_eq_none] at hf
    suffices h : rs.find? (fun r => !valuesBefore spec r.cells vs && !valuesBefore spec vs r.cells)
        = none by rw [h]
    rw [List.find?_eq_none]
    intro x hx
    have := hf x hx
    simp only [Bool.not_eq_eq_eq_not, Bool.not_true] at this
    simp [this]
  | some f =>
    have hfm : f ∈ rs := List.mem_of_find?_eq_some hf
    have hne : (f.id != 0) = true := by simpa using hid f hfm
    simp only [hne, if_true]
    rw [show (⟨RowId.id f.id, vs⟩ : Key) = ⟨.id f.id, vs⟩ from rfl]
    have hk : keyLt spec ⟨.id f.id, vs⟩ (key f) = valuesBefore spec vs f.cells :=
      keyLt_eq_valuesBefore spec (RowId.lt_irrefl _)
    rw [hk]
    cases hafter : valuesBefore spec vs f.cells with
    | false =>
      simp only [Bool.false_eq_true, if_false]
      rw [find?_and hf (by simp [hafter])]
    | true =>
      simp only [if_true]
      -- nothing in the set is "equal": rows left of f are before, f and rows right of it are after
      suffices h : rs.find? (fun r => !valuesBefore spec r.cells vs && !valuesBefore spec vs r.cells)
          = none by rw [h]
      rw [List.find?_eq_none]
      intro x hx
      have hB := prefix_getElem _ (mono_before spec rs vs n hlen hs)
      have hA := prefix_getElem _ (mono_not_after spec rs vs n hlen hs)
      obtain ⟨i, hi, rfl⟩ := List.getElem_of_mem hx
      -- f sits at the boundary index of "before"
      have hjf0 : rs[rs.countP (fun r => valuesBefore spec r.cells vs)]? = some f := by
        rw [← hfound]
        exact hf
      obtain ⟨hj, hjf⟩ := List.getElem?_eq_some_iff.mp hjf0
      have h2 := hA _ hj
      rw [hjf, hafter] at h2
      have hjA : ¬ rs.countP (fun r => valuesBefore spec r.cells vs) <
          rs.countP (fun r => !valuesBefore spec vs r.cells) := by
        intro h
        rw [decide_eq_true h] at h2
        simp at h2
      have hBi := hB i hi
      have hAi := hA i hi
      by_cases hij : i < rs.countP (fun r => valuesBefore spec r.cells vs)
      · rw [decide_eq_true hij] at hBi
        simp [hBi]
      · have : ¬ i < rs.countP (fun r => !valuesBefore spec vs r.cells) := by omega
        rw [decide_eq_false this] at hAi
        have : valuesBefore spec vs rs[i].cells = true := by simpa using hAi
        simp [this]

end find

section pnr
variable (spec : List Bool) (tbl : List Row) (n : Nat)

/-- **The ordered group.**  `lookup_records(**group, order_by=...)` is a permutation of the rows
    whose group_by cells equal the given ones, and is STRICTLY sorted by the sort key (row ids are
    distinct, so no two keys are equivalent). -/
theorem lookup_sorted (hnd : (tbl.map (·.id)).Nodup) (hlen : ∀ r ∈ tbl, r.cells.length = n)
    (g : List Val) :
    (lookupRecords spec tbl g).Perm (tbl.filter (fun r => groupEq r.group g)) ∧
    (lookupRecords spec tbl g).Pairwise (fun a b => keyLt spec (key a) (key b) = true) := by
  have hperm := pySorted_perm (fun a b => keyLt spec (key a) (key b))
    (tbl.filter (fun r => groupEq r.group g))
  refine ⟨hperm, ?_⟩
  have hmem : ∀ a, a ∈ tbl.filter (fun r => groupEq r.group g) → a ∈ tbl :=
    fun a ha => (List.mem_filter.mp ha).1
  have hsorted := pySorted_pairwise (fun a b => keyLt spec (key a) (key b))
    (fun r => r.cells.length = n)
    (fun a b c ha hb hc h1 h2 => keyLt_trans (ha.trans hb.symm) (hb.trans hc.symm) h1 h2)
    (fun a b _ _ h => keyLt_asymm h) (tbl.filter (fun r => groupEq r.group g))
    (fun a ha => hlen a (hmem a ha))
  -- distinct ids along the sorted list
  have hnd' : ((lookupRecords spec tbl g).map (·.id)).Nodup := by
    have h1 : ((tbl.filter (fun r => groupEq r.group g)).map (·.id)).Nodup :=
      List.Nodup.sublist (List.Sublist.map _ List.filter_sublist) hnd
    exact (List.Perm.nodup_iff (List.Perm.map _ hperm)).mpr h1
  have hids : (lookupRecords spec tbl g).Pairwise (fun a b => a.id ≠ b.id) := by
    have := hnd'
    rw [List.Nodup, List.pairwise_map] at this
    exact this
  refine List.Pairwise.imp ?_ (List.Pairwise.and hsorted hids)
  intro a b ⟨h1, h2⟩
  rcases keyLt_total_rows spec a b h2 with h | h
  · exact h
  · rw [h1] at h
    exact absurd h (by simp)

/-- The ordered group is THE sorted arrangement: any permutation of the group that is sorted by the
    sort key is equal to it (so modelling `sorted()` by an insertion sort loses nothing). -/
theorem lookup_sorted_unique (hnd : (tbl.map (·.id)).Nodup) (hlen : ∀ r ∈ tbl, r.cells.length = n)
    (g : List Val) (l : List Row)
    (hp : l.Perm (tbl.filter (fun r => groupEq r.group g)))
    (hs : l.Pairwise (fun a b => keyLt spec (key b) (key a) = false)) :
    l = lookupRecords spec tbl g := by
  obtain ⟨hperm, hstrict⟩ := lookup_sorted spec tbl n hnd hlen g
  have hs' : (lookupRecords spec tbl g).Pairwise (fun a b => keyLt spec (key b) (key a) = false) :=
    List.Pairwise.imp (fun h => keyLt_asymm h) hstrict
  refine List.Perm.eq_of_pairwise (le := fun a b => keyLt spec (key b) (key a) = false) ?_ hs hs'
    (hp.trans hperm.symm)
  intro a b ha hb h1 h2
  have ha' : a ∈ tbl := (List.mem_filter.mp (hp.mem_iff.mp ha)).1
  have hb' : b ∈ tbl := (List.mem_filter.mp (hperm.mem_iff.mp hb)).1
  apply eq_of_map_eq (·.id) hnd ha' hb'
  apply Classical.byContradiction
  intro hne
  rcases keyLt_total_rows spec a b hne with h | h
  · rw [h2] at h
    exact absurd h (by simp)
  · rw [h1] at h
    exact absurd h (by simp)

/-- **PREVIOUS / NEXT / RANK.**  For a table with distinct row ids and a record `r` of it: `r` occurs
    in its ordered group `rs = lookup_records(group_by cells of r, order_by)`, and for the position
    `i` of `r` in `rs` (unique, `rs` has no duplicates):
    PREVIOUS = the record at `i-1` (empty record if `i = 0`), NEXT = the record at `i+1` (empty
    record at the end), RANK asc = `i+1`, RANK desc = `len rs - i`.  The record's own index is found
    by the bisection because the row id is the last sort component and ids are distinct. -/
theorem previous_next_rank_spec (hspec : spec ≠ []) (hnd : (tbl.map (·.id)).Nodup)
    (hlen : ∀ r ∈ tbl, r.cells.length = n) (r : Row) (hr : r ∈ tbl) :
    r ∈ sortedLookup spec tbl r ∧
    ∀ i : Nat, (sortedLookup spec tbl r)[i]? = some r →
      PREVIOUS spec tbl r = .ok (if i = 0 then none else (sortedLookup spec tbl r)[i - 1]?) ∧
      NEXT spec tbl r = .ok (sortedLookup spec tbl r)[i + 1]? ∧
      RANK spec tbl r "asc" = .ok ((i : Int) + 1) ∧
      RANK spec tbl r "desc" = .ok (((sortedLookup spec tbl r).length : Int) - i) := by
  obtain ⟨hperm, hstrict⟩ := lookup_sorted spec tbl n hnd hlen r.group
  have hmem : r ∈ sortedLookup spec tbl r := by
    unfold sortedLookup
    rw [hperm.mem_iff, List.mem_filter]
    exact ⟨hr, groupEq_refl _⟩
  refine ⟨hmem, ?_⟩
  intro i hi
  obtain ⟨hil, hir⟩ := List.getElem?_eq_some_iff.mp hi
  have own := own_index (keyLt spec) key (sortedLookup spec tbl r)
    (fun a _ => keyLt_irrefl spec (key a)) (fun a _ b _ h => keyLt_asymm h) hstrict i hil
  rw [hir] at own
  obtain ⟨ol, or_⟩ := own
  unfold PREVIOUS NEXT RANK findPrevious findNext findRank
  rw [getSortKey_ok spec hspec]
  simp only [bisectFind, bisectIndex, if_true, Bool.false_eq_true, if_false, bind, Except.bind,
    pure, Except.pure]
  rw [ol, or_]
  refine ⟨?_, ?_, ?_, ?_⟩
  · rw [atIndex_pred _ i (by omega)]
  · rw [atIndex_nat]
  · simp
  · simp

end pnr

/-! ### Non-vacuity: concrete sorted record sets with duplicate and mixed-type keys -/

section examples
open Val

/-- order_by="k" on a table with manualSort: spec = [k asc, manualSort asc];
    k = None, True, 1, 1, "a" (True == 1: three equivalent keys), ordered by manualSort inside ties -/
def exRows : List Row :=
  [⟨2, [none, int 3], []⟩, ⟨4, [bool true, int 1], []⟩, ⟨1, [int 1, int 4], []⟩,
   ⟨5, [int 1, int 5], []⟩, ⟨3, [str "a", int 2], []⟩]

theorem exRows_sorted : exRows.Pairwise (fun a b => keyLt [false, false] (key b) (key a) = false) := by
  decide
theorem exRows_len : ∀ r ∈ exRows, r.cells.length = 2 := by decide
theorem exRows_ids : ∀ r ∈ exRows, r.id ≠ 0 := by decide

example : exRows.Pairwise (fun a b => keyLt [false, false] (key b) (key a) = false) := exRows_sorted
example : ∀ r ∈ exRows, r.cells.length = 2 := exRows_len
example : ∀ r ∈ exRows, r.id ≠ 0 := exRows_ids

-- the scans (right-hand sides of the theorems) on this set, search value 1 (equal to True):
example : scanLast exRows (fun r => valuesBefore [false, false] r.cells [int 1]) = some ⟨2, [none, int 3], []⟩ := by decide
example : scanLast exRows (fun r => !valuesBefore [false, false] [int 1] r.cells) = some ⟨5, [int 1, int 5], []⟩ := by decide
example : scanFirst exRows (fun r => valuesBefore [false, false] [int 1] r.cells) = some ⟨3, [str "a", int 2], []⟩ := by decide
example : scanFirst exRows (fun r => !valuesBefore [false, false] r.cells [int 1]) = some ⟨4, [bool true, int 1], []⟩ := by decide
-- hence, by the theorems, the model's find ops return exactly these:
example : findLt [false, false] exRows [int 1] = .ok (some ⟨2, [none, int 3], []⟩) := by
  rw [find_lt_scan [false, false] exRows [int 1] 2 (by decide) (by decide) exRows_len exRows_sorted]
  exact congrArg Except.ok (by decide)
example : findLe [false, false] exRows [int 1] = .ok (some ⟨5, [int 1, int 5], []⟩) := by
  rw [find_le_scan [false, false] exRows [int 1] 2 (by decide) (by decide) exRows_len exRows_sorted]
  exact congrArg Except.ok (by decide)
example : findEq [false, false] exRows [int 1] = .ok (some ⟨4, [bool true, int 1], []⟩) := by
  rw [find_eq_scan [false, false] exRows [int 1] 2 (by decide) (by decide) exRows_len exRows_ids exRows_sorted]
  exact congrArg Except.ok (by decide)
-- no record equals 0 (False would): eq gives the empty record, ge the first number
example : findEq [false, false] exRows [int 0] = .ok Option.none := by
  rw [find_eq_scan [false, false] exRows [int 0] 2 (by decide) (by decide) exRows_len exRows_ids exRows_sorted]
  exact congrArg Except.ok (by decide)
-- two search values (k, manualSort): prefix of length 2
example : findGt [false, false] exRows [bool true, int 4] = .ok (some ⟨5, [int 1, int 5], []⟩) := by
  rw [find_gt_scan [false, false] exRows [bool true, int 4] 2 (by decide) (by decide) exRows_len exRows_sorted]
  exact congrArg Except.ok (by decide)

/-- a table with two groups (group_by cell 1 == True, and "x"), descending k -/
def exTbl : List Row :=
  [⟨1, [int 3, int 1], [int 1]⟩, ⟨2, [none, int 2], [bool true]⟩, ⟨3, [str "a", int 3], [int 1]⟩,
   ⟨4, [int 3, int 4], [str "x"]⟩, ⟨5, [bool true, int 5], [int 1]⟩]

theorem exTbl_nodup : (exTbl.map (·.id)).Nodup := by decide
theorem exTbl_len : ∀ r ∈ exTbl, r.cells.length = 2 := by decide

example : (exTbl.map (·.id)).Nodup := exTbl_nodup
example : ∀ r ∈ exTbl, r.cells.length = 2 := exTbl_len
example : (sortedLookup [true, false] exTbl ⟨1, [int 3, int 1], [int 1]⟩).map (·.id) = [3, 1, 5, 2] := by decide
-- row 1 sits at index 1 of its group [3, 1, 5, 2]
theorem exTbl_row1 : (sortedLookup [true, false] exTbl ⟨1, [int 3, int 1], [int 1]⟩)[1]? = some ⟨1, [int 3, int 1], [int 1]⟩ := by
  decide
example : (sortedLookup [true, false] exTbl ⟨1, [int 3, int 1], [int 1]⟩)[1]? = some ⟨1, [int 3, int 1], [int 1]⟩ :=
  exTbl_row1

-- PREVIOUS / NEXT / RANK of row 1 (index 1 in [3, 1, 5, 2]) through the theorem
example : PREVIOUS [true, false] exTbl ⟨1, [int 3, int 1], [int 1]⟩ = .ok (some ⟨3, [str "a", int 3], [int 1]⟩) ∧
    NEXT [true, false] exTbl ⟨1, [int 3, int 1], [int 1]⟩ = .ok (some ⟨5, [bool true, int 5], [int 1]⟩) ∧
    RANK [true, false] exTbl ⟨1, [int 3, int 1], [int 1]⟩ "asc" = .ok 2 ∧
    RANK [true, false] exTbl ⟨1, [int 3, int 1], [int 1]⟩ "desc" = .ok 3 := by
  have h := (previous_next_rank_spec [true, false] exTbl 2 (by decide) exTbl_nodup exTbl_len
    ⟨1, [int 3, int 1], [int 1]⟩ (by decide)).2 1 exTbl_row1
  refine ⟨?_, ?_, ?_, ?_⟩
  · rw [h.1]
    exact congrArg Except.ok (by decide)
  · rw [h.2.1]
    exact congrArg Except.ok (by decide)
  · rw [h.2.2.1]
    rfl
  · rw [h.2.2.2]
    exact congrArg Except.ok (by decide)

-- the abstract bisect theorem instantiated with `keyLt` on 2-value keys
example : bisectLeft (keyLt [false, false]) key exRows ⟨.negMax, [int 1, int 5]⟩ 0 exRows.length = 3 := by
  rw [(bisect_left_spec _ _ (keyLt_strictWeakOrder [false, false] 2) key exRows
    ⟨.negMax, [int 1, int 5]⟩ exRows_len rfl exRows_sorted).1]
  decide
example : bisectRight (keyLt [false, false]) key exRows ⟨.posMax, [int 1, int 5]⟩ 0 exRows.length = 4 := by
  rw [(bisect_right_spec _ _ (keyLt_strictWeakOrder [false, false] 2) key exRows
    ⟨.posMax, [int 1, int 5]⟩ exRows_len rfl exRows_sorted).1]
  decide

-- strings among themselves (code-point order, "B" < "a" < "b"), descending: "b", "a", "B", 7, None
def exStr : List Row :=
  [⟨1, [str "b"], []⟩, ⟨2, [str "a"], []⟩, ⟨3, [str "a"], []⟩, ⟨4, [str "B"], []⟩, ⟨5, [int 7], []⟩, ⟨6, [none], []⟩]
example : exStr.Pairwise (fun a b => keyLt [true] (key b) (key a) = false) := by decide
example : findLe [true] exStr [str "a"] = .ok (some ⟨3, [str "a"], []⟩) := by
  rw [find_le_scan [true] exStr [str "a"] 1 (by decide) (by decide) (by decide) (by decide)]
  exact congrArg Except.ok (by decide)

end examples

end Grist.SortedFind
