/-
C20  Row positions stay unique and order-preserving.
Model: GristModel/Relabel.lean (relabeling.py, one transcription generic over the key type).  Defines
`Outcome` (the clauses of the property) and `intOps` (a lawful instance of the primitives over `Int`);
`Laws`, `Slot` and the lemmas come from GristProofs/Relabel.lean.

Every theorem is about an ARBITRARY lawful linear order `K` (`Std.IsLinearOrder`, `Std.LawfulOrderLT`);
`Float` is never mentioned.  The driver runs the same definitions at `K := Float`.

What is and is not proved
  * the bookkeeping of `_group_insertions` / `ungroup` / applying adjustments;
  * `checker_sound` / `checker_complete`: the decidable checker `validOutcome` (neighbour comparisons
    only) holds exactly when the clauses `Outcome` hold; the harness evaluates it on every real outcome;
  * `prepare_inserts_partial`: a NORMAL return of `prepareInserts` on which no `_adjust_range` /
    `_adjust_all` step ran satisfies `Outcome`, assuming `Laws`.
  * NOT proved: totality (the asserts / "This isn't expected" can fire — and do, see the findings of the
    Python check), and the crowded-neighbourhood path (`_adjust_range`), whose correctness rests on
    density properties of IEEE doubles; that path is covered by the bit-for-bit differential test plus
    `validOutcome` on its outputs.
-/
import GristModel.Relabel
import GristProofs.Relabel
namespace Grist.Relabel
open Std

variable {K : Type} [LT K] [LE K] [DecidableLT K] [DecidableLE K] [IsLinearOrder K] [LawfulOrderLT K]

/-- The clauses of C20 for an outcome `(adj, newKeys)` of `prepare_inserts(existing, keys)`;
    `applyAdj existing adj` are the positions of the existing rows afterwards. -/
structure Outcome (isFin : K → Bool) (existing keys : List K) (adj : List (Nat × K))
    (newKeys : List K) : Prop where
  /-- one new position per request -/
  len : newKeys.length = keys.length
  /-- adjustments name distinct existing rows -/
  adj_rows : (adj.map (·.1)).Nodup ∧ ∀ p ∈ adj, p.1 < existing.length
  /-- existing rows keep their order -/
  existing_order : (applyAdj existing adj).Pairwise (· < ·)
  /-- every position written is finite -/
  finite : (∀ p ∈ adj, isFin p.2 = true) ∧ (∀ k ∈ newKeys, isFin k = true)
  /-- all rows end up with pairwise distinct positions -/
  distinct : (applyAdj existing adj ++ newKeys).Nodup
  /-- each new row is placed where its requested key falls: after every existing row with a smaller
      OLD key, before every existing row with an equal or larger OLD key -/
  placement : ∀ (a i : Nat) (q x f s : K), keys[a]? = some q → existing[i]? = some x →
    (applyAdj existing adj)[i]? = some f → newKeys[a]? = some s → (x < q → f < s) ∧ (q ≤ x → s < f)
  /-- new rows keep the order of their requests, ties by request index -/
  request_order : ∀ (a b : Nat) (qa qb sa sb : K), keys[a]? = some qa → keys[b]? = some qb →
    newKeys[a]? = some sa → newKeys[b]? = some sb → (qa < qb ∨ (qa = qb ∧ a < b)) → sa < sb

/-- On a sorted list the bisection point `b` of `k` splits it into the rows `< k`
    and the rows `≥ k` — a key equal to an existing one goes BEFORE it. -/
theorem bisect_left_spec (existing : List K) (k : K) (hs : existing.Pairwise (· ≤ ·)) :
    bisectLeft existing k ≤ existing.length ∧
    ∀ (i : Nat) (x : K), existing[i]? = some x →
      (i < bisectLeft existing k → x < k) ∧ (bisectLeft existing k ≤ i → k ≤ x) :=
  ⟨bisectLeft_le_length existing k,
   fun i x hx => ⟨bisectLeft_lt existing k i x hx, bisectLeft_ge existing k hs i x hx⟩⟩

example : bisectLeft [3, 4, 4, 5] (4 : Int) = 1 := by decide +kernel

/-- The groups `(index, count)` have strictly increasing indices, positive
    counts, indices within `0..len(existing)`, and the count recorded for index `s` is exactly the number
    of requests whose key bisects `existing` at `s` (so each request is counted at `bisect_left`). -/
theorem group_insertions_spec (existing keys : List K) :
    ((insGroups existing keys).map (·.1)).Pairwise (· < ·) ∧
    (∀ g ∈ insGroups existing keys, 0 < g.2 ∧ g.1 ≤ existing.length) ∧
    ∀ s : Nat, ((insGroups existing keys).lookup s).getD 0
      = (keys.filter (fun k => bisectLeft existing k == s)).length := by
  have hsorted := insKeys_bisect_sorted existing keys
  refine ⟨groupRuns_sorted _ hsorted, ?_, ?_⟩
  · intro g hg
    obtain ⟨p, _, hp⟩ := List.mem_map.mp (groupRuns_mem _ hg)
    exact ⟨groupRuns_pos _ g hg, hp ▸ bisectLeft_le_length _ _⟩
  · intro s
    unfold insGroups
    rw [groupRuns_count _ hsorted s]
    have hperm := (insKeys_perm keys).map (fun p => bisectLeft existing p.1)
    rw [hperm.count_eq s, List.count_eq_length_filter]
    have : keys.zipIdx.map (fun p => bisectLeft existing p.1) = keys.map (bisectLeft existing) := by
      rw [show (fun p : K × Nat => bisectLeft existing p.1) = (bisectLeft existing) ∘ Prod.fst from rfl,
        ← List.map_map, List.zipIdx_map_fst]
    rw [this, List.filter_map, List.length_map]
    rfl

example : insGroups [3, 4, 5] ([3, 3, 4, 5, 6, 4, 6, 4] : List Int) = [(0, 2), (1, 3), (2, 1), (3, 2)] := by
  decide +kernel

/-- `ungroup` hands the `p`-th new key (in key order) to the request that has rank `p`
    in `sorted((key, i) …)`. -/
theorem ungroup_slot (keys slots : List K) (hl : slots.length = keys.length) :
    (ungroup (indices keys) slots).length = keys.length ∧
    ∀ (p : Nat) (q : K × Nat) (s : K), (insKeys keys)[p]? = some q → slots[p]? = some s →
      (ungroup (indices keys) slots)[q.2]? = some s :=
  have ⟨h1, h2⟩ := ungroup_spec (indices keys) slots keys.length (indices_perm keys) hl
  ⟨h1, fun p q s hq hs => h2 p q.2 s (indices_getElem? hq) hs⟩

/-- If the new keys are handed out strictly increasing, the result keeps the order
    of the requests, ties by request index. -/
theorem ungroup_order (keys slots : List K) (hl : slots.length = keys.length)
    (hinc : slots.Pairwise (· < ·)) :
    ∀ (a b : Nat) (qa qb sa sb : K), keys[a]? = some qa → keys[b]? = some qb →
      (ungroup (indices keys) slots)[a]? = some sa → (ungroup (indices keys) slots)[b]? = some sb →
      (qa < qb ∨ (qa = qb ∧ a < b)) → sa < sb :=
  order_of_sorted_requests (ungroup_rank_order keys slots hl hinc)

example : ungroup (indices ([4, 5, 6, 5, 4] : List Int)) [1, 2, 3, 4, 5] = [1, 3, 5, 4, 2] := by decide +kernel

/-- The two neighbour checks (existing rows after the adjustments, new key against the neighbours of
    slot `b`) give the order of ALL rows. -/
theorem apply_adjustments_order (existing : List K) (adj : List (Nat × K)) (b : Nat) (s : K)
    (hinc : strictlyInc (applyAdj existing adj) = true)
    (hslot : slotOK (applyAdj existing adj) b s = true) :
    (applyAdj existing adj).length = existing.length ∧
    (applyAdj existing adj).Pairwise (· < ·) ∧
    ∀ (i : Nat) (x : K), (applyAdj existing adj)[i]? = some x → (i < b → x < s) ∧ (b ≤ i → s < x) :=
  ⟨applyAdj_length existing adj, (strictlyInc_iff _).mp hinc,
   slot_global (((strictlyInc_iff _).mp hinc).imp le_of_lt) ((slotOK_iff _ _ _).mp hslot)⟩

example : applyAdj ([10, 20, 30] : List Int) [(0, 5), (2, 40)] = [5, 20, 40] := by decide +kernel
example : strictlyInc (applyAdj ([10, 20, 30] : List Int) [(0, 5), (2, 40)]) = true ∧
    slotOK (applyAdj ([10, 20, 30] : List Int) [(0, 5), (2, 40)]) 1 7 = true := by decide +kernel

/-- For sorted existing keys the decidable checker `validOutcome` holds exactly when the clauses of
    the property do. -/
theorem validOutcome_iff (isFin : K → Bool) (existing keys : List K) (adj : List (Nat × K))
    (newKeys : List K) (hs : existing.Pairwise (· ≤ ·)) :
    validOutcome isFin existing keys adj newKeys = true ↔ Outcome isFin existing keys adj newKeys := by
  unfold validOutcome
  simp only [Bool.and_eq_true, beq_iff_eq, List.all_eq_true, decide_eq_true_eq, nodupNat_iff]
  constructor
  · rintro ⟨⟨⟨⟨⟨hlen, hnd⟩, hadj⟩, hfin⟩, hinc⟩, hrest⟩
    have hf := (strictlyInc_iff _).mp hinc
    obtain ⟨H2, H3⟩ := (slotChecks_iff hlen).mp hrest
    obtain ⟨hpl, hord, hdis⟩ := clauses_of_slots hs hf hlen H2 H3
    exact ⟨hlen, ⟨hnd, fun p hp => (hadj p hp).1⟩, hf, ⟨fun p hp => (hadj p hp).2, hfin⟩, hdis,
      hpl, hord⟩
  · rintro ⟨hlen, hrows, hord, hfin, _, hplace, hreq⟩
    exact ⟨⟨⟨⟨⟨hlen, hrows.1⟩, fun p hp => ⟨hrows.2 p hp, hfin.1 p hp⟩⟩, hfin.2⟩,
      (strictlyInc_iff _).mpr hord⟩, (slotChecks_iff hlen).mpr
        ⟨rankInc_of_order hreq, inSlots_of_placement hs (applyAdj_length existing adj) hplace⟩⟩

/-- For sorted existing keys, an outcome accepted by the decidable checker
    `validOutcome` (which only compares neighbours) satisfies every clause of the property. -/
theorem checker_sound (isFin : K → Bool) (existing keys : List K) (adj : List (Nat × K))
    (newKeys : List K) (hs : existing.Pairwise (· ≤ ·))
    (hv : validOutcome isFin existing keys adj newKeys = true) :
    Outcome isFin existing keys adj newKeys :=
  (validOutcome_iff isFin existing keys adj newKeys hs).mp hv

/-- Conversely every outcome satisfying the clauses is accepted, so for sorted
    existing keys `validOutcome` DECIDES the property's clauses. -/
theorem checker_complete (isFin : K → Bool) (existing keys : List K) (adj : List (Nat × K))
    (newKeys : List K) (hs : existing.Pairwise (· ≤ ·))
    (ho : Outcome isFin existing keys adj newKeys) :
    validOutcome isFin existing keys adj newKeys = true :=
  (validOutcome_iff isFin existing keys adj newKeys hs).mpr ho

-- the outcome of `test_prepare_inserts_simple` (existing 3,4,5; requests 3,3,4,5,6,4,6,4), scaled by 4
example : validOutcome (fun _ => true) ([12, 16, 20] : List Int) [12, 12, 16, 20, 24, 16, 24, 16] []
    [4, 8, 13, 18, 24, 14, 28, 15] = true := by decide +kernel
-- an outcome with an adjustment (`test_with_invalid`: existing 0, request 0 ⇒ row 0 moves to 2, new key 1)
example : validOutcome (fun _ => true) ([0] : List Int) [0] [(0, 2)] [1] = true := by decide +kernel
-- and the checker does reject: new key placed after the equal existing row
example : validOutcome (fun _ => true) ([0] : List Int) [0] [] [1] = false := by decide +kernel

/-- C20, the path without relabelling: for strictly increasing existing keys and ANY requested keys, if
    `prepareInserts` returns normally and no `_adjust_range` / `_adjust_all` step ran (ghost counters
    zero), the outcome satisfies every clause, with "finite" = `not math.isinf`; assumes `Laws F`. -/
theorem prepare_inserts_partial (F : FloatLike K) (L : Laws F) (existing keys : List K)
    (hs : existing.Pairwise (· < ·)) (r : Result K)
    (h : prepareInserts F existing keys = .ok r) (hplain : r.relabels = 0 ∧ r.renumbers = 0) :
    Outcome (fun k => !F.isInf k) existing keys r.adj r.newKeys := by
  have hsle : existing.Pairwise (· ≤ ·) := hs.imp le_of_lt
  unfold prepareInserts at h
  dsimp only at h
  cases hw : (insGroups existing keys).foldlM (fun w g => prepAt F w g.1 g.2)
      ({ orig := existing, adj := [], ins := [], relabels := 0, renumbers := 0 } : Work K) with
  | error e =>
    rw [hw] at h
    cases h
  | ok w =>
    rw [hw] at h
    cases h
    obtain ⟨g1, g2, _⟩ := group_insertions_spec existing keys
    have hinv := foldlM_plain F L hsle (insGroups existing keys) (tags := [])
      (fun _ => {
        orig := rfl, adj := rfl,
        ins := { len := rfl, inc := .nil, slot := fun _ h => absurd h List.not_mem_nil,
                 fin := fun _ h => absurd h List.not_mem_nil } }) g1
      (fun _ h => nomatch h) (fun g hg => (g2 g hg).2) hw hplain
    -- the slots visited are the bisection points of the sorted requests
    rw [List.nil_append, insGroups, groupRuns_expand] at hinv
    obtain ⟨hlen, hinc, hslot, hfin⟩ := hinv.ins
    have hl : w.ins.length = keys.length := by
      rw [← hlen, List.length_map, insKeys_length]
    obtain ⟨hulen, huslot⟩ := ungroup_slot keys w.ins hl
    -- the new key of the request of rank `i` is the `i`-th insertion, which sits in its slot
    have H3 : InSlots existing existing keys (ungroup (indices keys) w.ins) := by
      intro p hp s hsp
      obtain ⟨i, hi⟩ := List.mem_iff_getElem?.mp hp
      have hil := (List.getElem?_eq_some_iff.mp hi).1
      obtain ⟨s', hs'⟩ := exists_getElem? (l := w.ins) (i := i) (by rw [hl, ← insKeys_length]; exact hil)
      rw [huslot i p s' hi hs'] at hsp
      cases hsp
      exact hslot (bisectLeft existing p.1, s) (List.mem_iff_getElem?.mpr
        ⟨i, List.getElem?_zip_eq_some.mpr ⟨by rw [List.getElem?_map, hi]; rfl, hs'⟩⟩)
    obtain ⟨hpl, hord, hdis⟩ := clauses_of_slots (final := existing) hsle hs hulen
      (ungroup_rank_order keys w.ins hl hinc) H3
    show Outcome _ existing keys w.adj (ungroup (indices keys) w.ins)
    rw [hinv.adj]
    exact {
      len := hulen
      adj_rows := ⟨List.nodup_nil, fun _ h => nomatch h⟩
      existing_order := hs
      finite := ⟨(fun _ h => nomatch h), fun k hk => by rw [hfin k (mem_of_mem_ungroup hk)]; rfl⟩
      distinct := hdis
      placement := hpl
      request_order := hord }

/-- A lawful instance of the primitives over `Int` (keys spaced by 1: `get_range(s, e, c)` = `s+1 … s+c`
    clipped to `e-1`), showing that the hypotheses of `prepare_inserts_partial` are satisfiable and that
    a plain run exists. -/
def intOps : FloatLike Int where
  zero := 0
  negInf := -1000000
  isInf := fun _ => false
  endAfter := fun b c => b + c + 1
  allEnd := fun n m => n + m + 1
  getRange := fun s e c => (List.range' 1 c).map (fun (k : Nat) => min (s + (k : Int)) (e - 1))
  rangeAround := fun x _ => some (x, x + 1)
  sparse := fun _ _ _ => false

theorem intOps_laws : Laws intOps where
  range_length := by
    intro s e c
    simp [intOps]
  range_mono := by
    intro s e c
    simp only [intOps, List.pairwise_map]
    refine (List.pairwise_lt_range' (s := 1) (n := c)).imp ?_
    intro a b hab
    omega
  range_bounds := by
    intro s e c hse k hk
    simp only [intOps, List.mem_map, List.mem_range'_1] at hk
    obtain ⟨a, ha, rfl⟩ := hk
    omega
  endAfter_ge := by
    intro b c
    simp [intOps]
    omega
  isInf_convex := by
    intros
    rfl
  zero_fin := rfl

example : (prepareInserts intOps [10, 20, 30] [10, 10, 20, 35]).toOption.map
    (fun r => (r.adj, r.newKeys, r.relabels, r.renumbers)) = some ([], [1, 2, 11, 31], 0, 0) := by decide +kernel

-- FULL STATEMENT (unproved):
--   ∀ existing keys, existing strictly increasing (and finite) →
--     ∃ r, prepareInserts F existing keys = .ok r ∧ Outcome (fun k => !F.isInf k) existing keys r.adj r.newKeys
-- for the float primitives `F := Flt.floatOps`.
--  * Totality is FALSE of relabeling.py: `prepare_inserts` raises AssertionError for (a) existing 1.2,
--    next(1.2), next(next(1.2)) and ONE request next(1.2) (stale post-relabel assert), (b) existing 2^53,
--    request above it (begin + count + 1 == begin), (c) existing 5e-324, 1e-323, request 1e-323 (subnormal
--    neighbourhood).  These are facts about `Float`, which no theorem here mentions: the witnesses are
--    KNOWN_INPUTS of harness/gx/props/c20.py, and the transcription raises the same exception on them.
--  * "Normal return ⇒ Outcome" is proved above for runs without relabel/renumber steps.  For runs with
--    such steps it is neither proved nor refuted (it depends on how many doubles a dyadic block holds);
--    the harness checks them with `validOutcome`.
-- The laws alone do not give totality either: a lawful instance on which a crowded neighbourhood ends
-- in `raise ValueError("This isn't expected")`:
example : (match prepareInserts intOps [10, 11] [11] with
    | .error e => decide (e = Err.notExpected)
    | .ok _ => false) = true := by decide +kernel

end Grist.Relabel
