/-
C34  Time zone conversions round-trip.
Property theorems.  Model: GristModel/Zone.lean (moment.py Zone/TzInfo/ts_to_dt/dt_to_ts/date_to_ts/
ts_to_date).  Zone table: Generated/Zones*.lean (regenerated from sandbox/grist/tzdata.data on every
run), each record checked through GristProofs/ZoneCheck.lean.

Units: instants and wall-clock values in integer ms (an integer-second timestamp s is 1000*s);
day numbers = days since 1970-01-01.
-/
import GristProofs.Zone
import GristProofs.Civil
import Generated.ZonesAll
namespace Grist.Zone

/-- `ts_to_dt` never raises; the offset of the period of the instant is also the `favor_offset`. -/
theorem tsToDt_eq {z : Zone} (h : ZoneWF z) (ts : Int) :
    tsToDt z ts = .ok { wall := ts + E z (index z ts), favor := some (E z (index z ts)) } := by
  unfold tsToDt offset
  rw [eastAt_ok h _ (index_spec h ts).1]
  rfl

/-- The heart of the round trip (DESIGN A.4): looking up the local time produced by `fromutc`, with
    the `favor_offset` set by `fromutc`, finds the period the instant came from — also inside a
    repeated (ambiguous) hour, where the bisect over `offset_untils` lands one period early and the
    ambiguity test together with `favor_offset` corrects it. -/
theorem indexDt_of_tsToDt {z : Zone} (h : ZoneWF z) (ts : Int) :
    indexDt z (ts + E z (index z ts)) (some (E z (index z ts))) = .ok (index z ts) := by
  obtain ⟨hk, h1, h2⟩ := index_spec h ts
  rw [indexDt_eq h]
  obtain ⟨hi, g1, g2⟩ := ouIndex_spec h (ts + E z (index z ts))
  generalize index z ts = k at *
  generalize bisectRight (offsetUntils z) (ts + E z k) = i at *
  refine congrArg Except.ok ?_
  have a : i ≤ k := by
    apply Nat.le_of_not_lt
    intro hlt
    have := g1 k hlt
    have := h2 k (Nat.le_refl _) (by omega)
    omega
  have b : k ≤ i + 1 := by
    apply Nat.le_of_not_lt
    intro hlt
    obtain ⟨m, rfl⟩ : ∃ m, k = m + 2 := ⟨k - 2, by omega⟩
    have := g2 m (by omega) (by omega)
    have := h.end_le_start m (by omega)
    have := h1 (m + 1) (by omega)
    omega
  by_cases e : k = i
  · subst e
    have : ¬ (k < z.untils.length ∧ ts + E z k ≥ U z k + E z (k + 1) ∧ some (E z (k + 1)) = some (E z k)) := by
      rintro ⟨c0, c1, c2⟩
      have c2 := Option.some.inj c2
      have := h2 k (Nat.le_refl _) c0
      omega
    simp only [this, if_false]
  · have e : k = i + 1 := by omega
    subst e
    have : i < z.untils.length ∧ ts + E z (i + 1) ≥ U z i + E z (i + 1) ∧ some (E z (i + 1)) = some (E z (i + 1)) := by
      refine ⟨by omega, ?_, rfl⟩
      have := h1 i (by omega)
      omega
    simp only [this, if_true, and_self]

/-- **C34 clause 1.**  For every well-formed zone and EVERY integer-millisecond instant,
    `dt_to_ts(ts_to_dt(ts, zone))` returns the instant. -/
theorem ts_roundtrip {z : Zone} (h : ZoneWF z) (ts : Int) :
    ∃ d, tsToDt z ts = .ok d ∧ dtToTs' z d = .ok ts := by
  refine ⟨_, tsToDt_eq h ts, ?_⟩
  unfold dtToTs' dtToTs dtOffset
  simp only [indexDt_of_tsToDt h ts, bind, Except.bind]
  rw [eastAt_ok h _ (index_spec h ts).1]
  simp only [pure, Except.pure]
  refine congrArg Except.ok ?_
  omega

/-- The same for integer-second timestamps (`ts_to_dt` takes seconds). -/
theorem ts_roundtrip_seconds {z : Zone} (h : ZoneWF z) (s : Int) :
    ∃ d, tsToDt z (1000 * s) = .ok d ∧ dtToTs' z d = .ok (1000 * s) :=
  ts_roundtrip h (1000 * s)

-- a well-formed zone with a repeated hour (clock back 1h at t=0) and an instant inside it
example : ZoneWF ⟨[0, 86400000], [-7200, -3600, -7200]⟩ := (zoneWF_iff _).2 (by decide)
example : tsToDt ⟨[0, 86400000], [-7200, -3600, -7200]⟩ 1800000
    = .ok ⟨5400000, some 3600000⟩ := by rfl
example : dtToTs ⟨[0, 86400000], [-7200, -3600, -7200]⟩ 5400000 (some 3600000) = .ok 1800000 := by rfl
example : dtToTs ⟨[0, 86400000], [-7200, -3600, -7200]⟩ 5400000 none = .ok (-1800000) := by rfl

/-- **C34 clause 3.**  For every local wall-clock value (existing, ambiguous or skipped) and every
    `favor_offset`, `_index_dt` succeeds with some period `i`, `dt_offset` is that period's offset,
    and with `t = wall - E i` the assigned instant:
    * either `t` lies in period `i` itself (the assigned offset IS the offset in force at the
      assigned instant, so converting `t` back gives the same wall clock — see `wall_roundtrip`),
    * or `wall` is skipped by the transition into period `i` (it lies between the local end of period
      `i-1` and the local start of period `i`), and `t` lies in period `i-1`, immediately before that
      transition: the assigned offset is that of the period right after the instant. -/
theorem local_offset_adjacent {z : Zone} (h : ZoneWF z) (wall : Int) (favor : Option Int) :
    ∃ i, indexDt z wall favor = .ok i ∧ i ≤ z.untils.length ∧
      dtOffset z wall favor = .ok (E z i) ∧ dtToTs z wall favor = .ok (wall - E z i) ∧
      (index z (wall - E z i) = i ∨
       (index z (wall - E z i) + 1 = i ∧
        U z (i - 1) + E z (i - 1) ≤ wall ∧ wall < U z (i - 1) + E z i)) := by
  have hid := indexDt_eq h wall favor
  obtain ⟨hi, g1, g2⟩ := ouIndex_spec h wall
  generalize bisectRight (offsetUntils z) wall = i at *
  have fin : ∀ r, r ≤ z.untils.length → indexDt z wall favor = .ok r →
      dtOffset z wall favor = .ok (E z r) ∧ dtToTs z wall favor = .ok (wall - E z r) := by
    intro r hr hr'
    have e1 : dtOffset z wall favor = .ok (E z r) := by
      unfold dtOffset
      simp only [hr', bind, Except.bind]
      exact eastAt_ok h r hr
    refine ⟨e1, ?_⟩
    unfold dtToTs
    simp only [e1, bind, Except.bind, pure, Except.pure]
  by_cases c : i < z.untils.length ∧ wall ≥ U z i + E z (i + 1) ∧ some (E z (i + 1)) = favor
  · -- ambiguous local time, the later offset is favoured
    simp only [c, if_true, and_self] at hid
    obtain ⟨c0, c1, _⟩ := c
    refine ⟨i + 1, hid, by omega, (fin _ (by omega) hid).1, (fin _ (by omega) hid).2, Or.inl ?_⟩
    apply index_eq_of_neighbours h _ _ (by omega)
    · intro _
      show U z (i + 1 - 1) ≤ wall - E z (i + 1)
      rw [Nat.add_sub_cancel]
      omega
    · intro hlt
      have := g2 i (Nat.le_refl _) c0
      have := h.ou_lt i hlt
      omega
  · simp only [c, if_false] at hid
    refine ⟨i, hid, hi, (fin _ hi hid).1, (fin _ hi hid).2, ?_⟩
    have up : i < z.untils.length → wall - E z i < U z i := by
      intro hlt
      have := g2 i (Nat.le_refl _) hlt
      omega
    by_cases lo : 0 < i → U z (i - 1) ≤ wall - E z i
    · exact Or.inl (index_eq_of_neighbours h _ _ hi lo up)
    · -- skipped local time
      have hpos : 0 < i := by
        apply Nat.pos_of_ne_zero
        intro e
        exact lo (fun hh => by omega)
      have lo' : wall - E z i < U z (i - 1) := by
        apply Int.lt_of_not_ge
        intro hge
        exact lo (fun _ => hge)
      have ge := g1 (i - 1) (by omega)
      refine Or.inr ⟨?_, ge, by omega⟩
      have : index z (wall - E z i) = i - 1 := by
        apply index_eq_of_neighbours h _ _ (by omega)
        · intro hp
          obtain ⟨m, rfl⟩ : ∃ m, i = m + 2 := ⟨i - 2, by omega⟩
          have := h.gap_le_period m (by omega)
          have e : m + 2 - 1 = m + 1 := by omega
          rw [e] at ge
          have e' : m + 2 - 1 - 1 = m := by omega
          rw [e']
          omega
        · intro _
          exact lo'
      omega

/-- Consequence: a local time that is not skipped converts to an instant that converts back to the
    same local time (whatever `favor_offset` was used). -/
theorem wall_roundtrip {z : Zone} (h : ZoneWF z) (wall : Int) (favor : Option Int) :
    ∃ t i, dtToTs z wall favor = .ok t ∧ indexDt z wall favor = .ok i ∧
      (index z t = i → ∃ f, tsToDt z t = .ok ⟨wall, f⟩) := by
  obtain ⟨i, h1, _, _, h4, _⟩ := local_offset_adjacent h wall favor
  refine ⟨_, i, h4, h1, ?_⟩
  intro hi
  refine ⟨some (E z i), ?_⟩
  rw [tsToDt_eq h, hi]
  congr 2
  omega

/-- Consequence, in terms of `Zone.offset` only: the offset assigned to a local time is the offset
    in force at the assigned instant, or the one in force at the next transition after it. -/
theorem local_offset_in_use {z : Zone} (h : ZoneWF z) (wall : Int) (favor : Option Int) :
    ∃ e t, dtOffset z wall favor = .ok e ∧ dtToTs z wall favor = .ok t ∧
      (offset z t = .ok e ∨
       (index z t < z.untils.length ∧ offset z (U z (index z t)) = .ok e)) := by
  obtain ⟨i, _, hi, h3, h4, h5⟩ := local_offset_adjacent h wall favor
  refine ⟨_, _, h3, h4, ?_⟩
  rcases h5 with h5 | ⟨h5, _, _⟩
  · left
    unfold offset
    rw [h5]
    exact eastAt_ok h i hi
  · right
    refine ⟨by omega, ?_⟩
    unfold offset
    have : index z (U z (index z (wall - E z i))) = i := by
      apply index_eq_of_neighbours h _ _ hi
      · intro _
        have e : i - 1 = index z (wall - E z i) := by omega
        rw [e]
        exact Int.le_refl _
      · intro hlt
        have := h.untils_lt (index z (wall - E z i)) (by omega)
        rw [h5] at this
        exact this
    rw [this]
    exact eastAt_ok h i hi

-- a skipped local time (clock forward 1h at t=0: walls [3600000, 7200000) do not exist)
example : dtToTs ⟨[0], [-3600, -7200]⟩ 5400000 none = .ok (-1800000) := by rfl
example : index ⟨[0], [-3600, -7200]⟩ (-1800000) + 1 = 1 := by decide

/-- `ts_to_date(date_to_ts(d)) = d` on day numbers (UTC, the pair the engine uses for Date cells). -/
theorem day_roundtrip_utc (d : Int) : tsToDay (dayToTsUtc d) = d := by
  unfold tsToDay dayToTsUtc
  omega

/-- and `ts_to_date` ignores the time of day. -/
theorem tsToDay_of_time (d s : Int) (h0 : 0 ≤ s) (h1 : s < 86400) : tsToDay (dayToTsUtc d + s) = d := by
  unfold tsToDay dayToTsUtc
  omega

/-- **C34 clause 2 (UTC).**  On proleptic Gregorian civil dates (what `datetime.date` arithmetic
    implements), for every valid date of any year: `ts_to_date(date_to_ts(date)) = date`. -/
theorem date_roundtrip_utc (c : Civil) (hv : c.Valid) : tsToDate (dateToTsUtc c) = c := by
  unfold tsToDate dateToTsUtc
  rw [day_roundtrip_utc]
  exact civil_of_days_of_civil c hv

/-- One half of the bijection between day numbers and valid civil dates; the other composite is
    `civil_of_days_of_civil`. -/
theorem civil_days_bijection (n : Int) : (civilFromDays n).Valid ∧ daysFromCivil (civilFromDays n) = n :=
  ⟨civilFromDays_valid n, days_of_civil_of_days n⟩

example : daysFromCivil ⟨2000, 2, 29⟩ = 11016 := by decide
example : civilFromDays 11016 = ⟨2000, 2, 29⟩ := by decide
example : (⟨2000, 2, 29⟩ : Civil).Valid := by decide

/-- `date_to_ts(d, zone)` takes the offset in force at the UTC midnight of `d`. -/
theorem dayToTs_eq {z : Zone} (h : ZoneWF z) (d : Int) :
    dayToTs z d = .ok (d * 86400 - E z (index z (d * 86400 * 1000)) / 1000) := by
  unfold dayToTs offset
  simp only [bind, Except.bind]
  rw [eastAt_ok h _ (index_spec h _).1]
  rfl

/-- In general the local time of the returned instant misses the local midnight of `d` by exactly the
    difference between the offset in force at the returned instant and the one at the UTC midnight. -/
theorem date_zone_wall {z : Zone} (h : ZoneWF z) (d : Int) :
    ∃ ts, dayToTs z d = .ok ts ∧
      tsToDt z (ts * 1000) = .ok ⟨d * 86400000 +
        (E z (index z (ts * 1000)) - E z (index z (d * 86400 * 1000))), some (E z (index z (ts * 1000)))⟩ := by
  refine ⟨_, dayToTs_eq h d, ?_⟩
  rw [tsToDt_eq h]
  generalize index z ((d * 86400 - E z (index z (d * 86400 * 1000)) / 1000) * 1000) = k'
  generalize index z (d * 86400 * 1000) = k
  congr 2
  simp only [E]
  omega

/-- **C34 clause 2 with a zone, partial.**  If no transition of the zone lies between the UTC
    midnight of `d` and the instant `date_to_ts(d, zone)` returns (both are in the same period), the
    returned instant is exactly the local midnight of `d`, so its local date is `d`. -/
theorem date_roundtrip_zone_partial {z : Zone} (h : ZoneWF z) (d : Int) :
    ∃ ts, dayToTs z d = .ok ts ∧
      (index z (ts * 1000) = index z (d * 86400 * 1000) →
        tsToDt z (ts * 1000) = .ok ⟨d * 86400000, some (E z (index z (d * 86400 * 1000)))⟩ ∧
        localDay z ts = .ok d) := by
  obtain ⟨ts, h1, h2⟩ := date_zone_wall h d
  refine ⟨ts, h1, fun hi => ?_⟩
  rw [hi, Int.sub_self, Int.add_zero] at h2
  refine ⟨h2, ?_⟩
  unfold localDay
  simp only [h2, bind, Except.bind, pure, Except.pure]
  refine congrArg Except.ok ?_
  omega

-- FULL STATEMENT (unproved, FALSE of the code as it is):
--   theorem date_roundtrip_zone {z : Zone} (h : ZoneWF z) (d : Int) :
--       ∃ ts, dayToTs z d = .ok ts ∧ localDay z ts = .ok d
-- `date_to_ts(date, zone)` subtracts the offset in force at the UTC midnight, not at the local
-- midnight; when a transition lies between the two, the result is not the local midnight and can
-- fall on the previous day.  Witness: a zone that goes from UTC+2 to UTC+3 at 22:00 UTC of day -1
-- (local 00:00 of day 0, e.g. Asia/Beirut 1920-03-28, America/Santiago 2019-04-07 the other way):
-- day 0 ↦ 21:00 UTC of day -1 ↦ local 23:00 of day -1.
/-- The zone-aware date round trip is FALSE for some well-formed zones (genuine finding; replayed on
    the real `moment.date_to_ts` / `ts_to_dt` by harness/gx/props/c34.py). -/
theorem date_roundtrip_zone_fails :
    ¬ ∀ (z : Zone) (d : Int), ZoneWF z → ∃ ts, dayToTs z d = .ok ts ∧ localDay z ts = .ok d := by
  intro hall
  obtain ⟨ts, h1, h2⟩ := hall ⟨[-7200000], [-7200, -10800]⟩ 0 ((zoneWF_iff _).2 (by decide))
  have e1 : dayToTs ⟨[-7200000], [-7200, -10800]⟩ 0 = .ok (-10800) := by rfl
  rw [e1] at h1
  cases h1
  have e2 : localDay ⟨[-7200000], [-7200, -10800]⟩ (-10800) = .ok (-1) := by rfl
  rw [e2] at h2
  cases h2

/-- Every distinct record of the repo's current `tzdata.data` (generated
    table, one `decide +kernel` obligation per record) satisfies `ZoneWF`. -/
theorem all_bundled_zones_wf : ∀ p ∈ Gen.allZones, ZoneWF p.2 :=
  fun p hp => (zoneWF_iff p.2).2 (Gen.allZones_wfb p hp)

/-- The same for the table of every bundled zone NAME with its record. -/
theorem bundled_names_wf : ∀ q ∈ Gen.zoneTable, ZoneWF q.2 :=
  fun q hq => (zoneWF_iff q.2).2 (Gen.zoneTable_wfb q hq)

/-- Hence clauses 1 and 3 hold for every bundled zone name and every instant / local time. -/
theorem bundled_zones_roundtrip :
    ∀ q ∈ Gen.zoneTable,
      (∀ ts, ∃ d, tsToDt q.2 ts = .ok d ∧ dtToTs' q.2 d = .ok ts) ∧
      (∀ wall favor, ∃ i, indexDt q.2 wall favor = .ok i ∧ i ≤ q.2.untils.length ∧
        dtOffset q.2 wall favor = .ok (E q.2 i) ∧ dtToTs q.2 wall favor = .ok (wall - E q.2 i) ∧
        (index q.2 (wall - E q.2 i) = i ∨
         (index q.2 (wall - E q.2 i) + 1 = i ∧
          U q.2 (i - 1) + E q.2 (i - 1) ≤ wall ∧ wall < U q.2 (i - 1) + E q.2 i))) := by
  intro q hq
  have h := bundled_names_wf q hq
  exact ⟨fun ts => ts_roundtrip h ts, fun w f => local_offset_adjacent h w f⟩

-- the table is not empty and not trivial
example : Gen.zoneTable.length = Gen.numNames := by decide +kernel
example : 300 < Gen.numRecords := by decide

end Grist.Zone
