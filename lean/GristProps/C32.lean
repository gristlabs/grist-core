/-
C32  CSV import keeps every cell.
Model: GristModel/CsvPost.lean (everything `import_csv._parse_open_file` does after `csv.reader`;
the reader's rows and `_is_numeric` are parameters).  Defined here: the clauses `CellsKept`,
`HeadersKept` and the hypotheses `noWideLate`, `noPreamble` under which they are proved.

The grid as written = `rows` (what `csv.reader` yields for it, checked by oracle in c32.py);
`incl` = the explicit `include_col_names_as_headers`.  With headers on, row 0 is the header row and
the data rows are `rows.drop 1`; with headers off every row is a data row.
A cell is *non-empty* when it has a non-whitespace character (`blank t = false`,
`import_utils.empty`).  Empty columns may be removed, so "at its column" is: grid column `c` is the
`k`-th exported column where `k` = number of kept columns before `c`.
-/
import GristProofs.CsvPost
namespace Grist.CsvPost

def dataRows (incl : Bool) (rows : List Row) : List Row := if incl then rows.drop 1 else rows

/-- Every non-empty data cell `(r, c)` appears at row `r` of grid column `c`; that column is kept,
    has one entry per data row, and is exported at its place among the kept columns. -/
def CellsKept (isNum : Cell → Bool) (incl : Bool) (rows : List Row) : Prop :=
  ∀ (r c : Nat) (t : Cell), ((dataRows incl rows)[r]?.bind (·[c]?)) = some t → blank t = false →
    ∃ col, (allColumns isNum incl rows)[c]? = some col ∧ keepCol col = true ∧
      col.data[r]? = some t ∧ col.data.length = (dataRows incl rows).length ∧
      (parse isNum incl rows)[((allColumns isNum incl rows).take c).countP keepCol]? = some col

/-- Every non-empty header cell (headers on) names the kept column at its place. -/
def HeadersKept (isNum : Cell → Bool) (rows : List Row) : Prop :=
  ∀ (c : Nat) (h : Cell), (rows[0]?.bind (·[c]?)) = some h → blank h = false →
    ∃ col, (allColumns isNum true rows)[c]? = some col ∧ keepCol col = true ∧ col.id = strip h ∧
      (parse isNum true rows)[((allColumns isNum true rows).take c).countP keepCol]? = some col

/-- `max` of `_count_nonempty` over rows -/
def maxCn (rows : List Row) : Nat := (rows.map countNonempty).foldl max 0

/-- HYPOTHESIS 1: no row beyond the 100-row sample is wider (last non-empty cell) than every
    sampled row. -/
def noWideLate (rows : List Row) : Bool :=
  (rows.drop sampleLen).all (fun r => decide (countNonempty r ≤ maxCn (rows.take sampleLen)))

/-- HYPOTHESIS 2: no short preamble row precedes the first full row, i.e. the FIRST row already
    reaches the modal count of non-empty cells of the sample minus the tolerance 1; with headers off
    it must moreover have a non-empty cell (a blank first line is skipped as well). -/
def noPreamble (incl : Bool) (rows : List Row) : Bool :=
  match rows with
  | [] => true
  | r0 :: _ => decide (columnCountModal (rows.take sampleLen) ≤ countNonempty r0 + 1) &&
               (incl || decide (0 < countNonempty r0))

/-- Under HYPOTHESIS 2 the data offset is the headers setting, the table is as wide as every
    sampled row, and with headers on the headers are the expanded first row. -/
theorem plan_of_noPreamble (isNum : Cell → Bool) (incl : Bool) (rows : List Row)
    (hpre : noPreamble incl rows = true) :
    rows.drop (plan isNum incl rows).1 = dataRows incl rows ∧
    (∀ ρ ∈ rows.take sampleLen, countNonempty ρ ≤ (plan isNum incl rows).2.length) ∧
    (incl = true → ∀ r0 S', rows.take sampleLen = r0 :: S' →
        (plan isNum incl rows).2 = expandHeaders r0 1 (r0 :: S')) := by
  cases rows with
  | nil => cases incl <;> simp [dataRows]
  | cons r0 rest =>
    have hS : (r0 :: rest).take sampleLen = r0 :: rest.take (sampleLen - 1) := rfl
    simp only [noPreamble, Bool.and_eq_true, decide_eq_true_eq, Bool.or_eq_true] at hpre
    have hf := find_first_of_le (hS ▸ hpre.1)
    cases incl with
    | true =>
      have hp := plan_incl isNum hf (r0 :: rest) hS
      refine ⟨hp ▸ rfl, ?_, ?_⟩
      · rw [hp, hS]
        exact expandHeaders_covers_sample r0 _
      · intro _ r0' S' hS'
        cases hS'
        exact congrArg Prod.snd hp
    | false =>
      obtain ⟨W, hp, hW⟩ := plan_noincl isNum hf (by simpa using hpre.2) (r0 :: rest) hS
      refine ⟨hp ▸ rfl, fun ρ hρ => ?_, fun h => nomatch h⟩
      rw [hp, List.length_replicate]
      exact hW ρ hρ

/-- CLAUSE "columns of equal length", unconditional: every exported column has exactly one entry
    per row the importer treats as data (`rows[data_offset:]`). -/
theorem columns_equal_length (isNum : Cell → Bool) (incl : Bool) (rows : List Row) :
    ∀ col ∈ parse isNum incl rows,
      col.data.length = (rows.drop (plan isNum incl rows).1).length := by
  intro col hm
  exact allColumns_data_length isNum incl rows col (List.mem_filter.mp hm).1

example : ∀ col ∈ parse (fun _ => false) false [[['a'], ['x']], [['b'], ['c'], ['d']], []],
    col.data.length = 3 := by decide +kernel

/-- CLAUSE "one entry per data row", partial: when the first row is not skipped as preamble, every
    exported column has one entry per data row of the grid. -/
theorem one_entry_per_data_row_partial (isNum : Cell → Bool) (incl : Bool) (rows : List Row)
    (hpre : noPreamble incl rows = true) :
    ∀ col ∈ parse isNum incl rows, col.data.length = (dataRows incl rows).length := by
  intro col hm
  rw [columns_equal_length isNum incl rows col hm, (plan_of_noPreamble isNum incl rows hpre).1]

example : noPreamble true [[['i', 'd'], ['n']], [['1'], ['x']], [['2']]] = true := by decide +kernel

theorem width_covers_all_rows (isNum : Cell → Bool) (incl : Bool) (rows : List Row)
    (hpre : noPreamble incl rows = true) (hwide : noWideLate rows = true) :
    ∀ ρ ∈ rows, countNonempty ρ ≤ (plan isNum incl rows).2.length := by
  have hS := (plan_of_noPreamble isNum incl rows hpre).2.1
  intro ρ hρ
  rw [← List.take_append_drop sampleLen rows] at hρ
  rcases List.mem_append.mp hρ with h | h
  · exact hS ρ h
  · simp only [noWideLate, List.all_eq_true, decide_eq_true_eq] at hwide
    refine Nat.le_trans (hwide ρ h) ?_
    apply foldl_max_le _ _ _ (Nat.zero_le _)
    intro x hx
    obtain ⟨ρ', hρ', rfl⟩ := List.mem_map.mp hx
    exact hS ρ' hρ'

theorem dataRows_subset {incl : Bool} {rows : List Row} {ρ : Row} (h : ρ ∈ dataRows incl rows) :
    ρ ∈ rows := by
  unfold dataRows at h
  split at h
  · exact List.mem_of_mem_drop h
  · exact h

/-- What the two hypotheses of `csv_cells_kept_partial` are needed for: the right data offset, and a
    table wide enough for the last non-empty cell of every data row. -/
theorem cellsKept_of_fit (isNum : Cell → Bool) (incl : Bool) (rows : List Row)
    (hdata : rows.drop (plan isNum incl rows).1 = dataRows incl rows)
    (hfit : ∀ ρ ∈ dataRows incl rows, countNonempty ρ ≤ (plan isNum incl rows).2.length) :
    CellsKept isNum incl rows := by
  intro r c t hcell ht
  cases hρ : (dataRows incl rows)[r]? with
  | none =>
    rw [hρ] at hcell
    cases hcell
  | some ρ =>
    rw [hρ, Option.bind_some] at hcell
    have hcW : c < (plan isNum incl rows).2.length :=
      Nat.lt_of_lt_of_le (lt_countNonempty hcell ht) (hfit ρ (List.mem_of_getElem? hρ))
    have hcol := allColumns_getElem? isNum incl rows c _ (List.getElem?_eq_getElem hcW)
    rw [hdata] at hcol
    have hrt : ((dataRows incl rows).map
        (fun r => (tableRow (plan isNum incl rows).2.length r).getD c []))[r]? = some t := by
      rw [List.getElem?_map, hρ, Option.map_some, List.getD_eq_getElem?_getD,
        tableRow_getElem? hcell hcW]
      rfl
    have hkeep : keepCol ⟨(plan isNum incl rows).2[c], (dataRows incl rows).map
        (fun r => (tableRow (plan isNum incl rows).2.length r).getD c [])⟩ = true := by
      simp only [keepCol, Bool.not_eq_true', Bool.and_eq_false_iff]
      right
      rw [List.all_eq_false]
      exact ⟨t, List.mem_of_getElem? hrt, fun h => ne_nil_of_not_blank ht (eq_of_beq h)⟩
    exact ⟨_, hcol, hkeep, hrt, List.length_map _, getElem?_filter_countP keepCol _ c _ hcol hkeep⟩

/-- CLAUSE "every non-empty cell's text appears at its row and column", partial:
    holds when no row beyond the sample is wider than the sample and the first row is not skipped
    as preamble. -/
theorem csv_cells_kept_partial (isNum : Cell → Bool) (incl : Bool) (rows : List Row)
    (hpre : noPreamble incl rows = true) (hwide : noWideLate rows = true) :
    CellsKept isNum incl rows :=
  cellsKept_of_fit isNum incl rows (plan_of_noPreamble isNum incl rows hpre).1 fun ρ hρ =>
    width_covers_all_rows isNum incl rows hpre hwide ρ (dataRows_subset hρ)

example : noPreamble false [[['a'], ['b']], [['c']], [[], ['d']]] = true ∧
    noWideLate [[['a'], ['b']], [['c']], [[], ['d']]] = true := by decide +kernel

set_option maxRecDepth 20000 in
/-- a grid crossing the sample boundary that satisfies both hypotheses (row 100 is narrower) -/
example : noPreamble true (List.replicate 100 [['a'], ['b']] ++ [[['c']]]) = true ∧
    noWideLate (List.replicate 100 [['a'], ['b']] ++ [[['c']]]) = true := by decide +kernel

/-- CLAUSE "columns with a header are kept", partial (headers on): every non-empty header cell of
    row 0 names (stripped) the kept column at its place. -/
theorem csv_headers_kept_partial (isNum : Cell → Bool) (rows : List Row)
    (hpre : noPreamble true rows = true) : HeadersKept isNum rows := by
  intro c h hcell hb
  cases rows with
  | nil => cases hcell
  | cons r0 rest =>
    have hcell : r0[c]? = some h := hcell
    have hp := (plan_of_noPreamble isNum true (r0 :: rest) hpre).2.2 rfl r0 _ rfl
    have hh : (plan isNum true (r0 :: rest)).2[c]? = some (strip h) := by
      rw [hp, expandHeaders_getElem? r0 1 _ c h hcell, if_pos (bne_iff_ne.mpr (ne_nil_of_not_blank hb))]
    have hcol := allColumns_getElem? isNum true (r0 :: rest) c (strip h) hh
    have hkeep : keepCol ⟨strip h, ((r0 :: rest).drop (plan isNum true (r0 :: rest)).1).map
        (fun r => (tableRow (plan isNum true (r0 :: rest)).2.length r).getD c [])⟩ = true := by
      unfold keepCol
      rw [beq_eq_false_iff_ne.mpr (strip_ne_nil hb)]
      rfl
    exact ⟨_, hcol, hkeep, rfl, getElem?_filter_countP keepCol _ c _ hcol hkeep⟩

example : noPreamble true [[[' ', 'i', 'd'], ['n']], [['1'], ['x']]] = true := by decide +kernel

-- FULL STATEMENT (unproved, refuted below), for all `isNum`, `incl`, `rows`:
--   CellsKept isNum incl rows
--   ∀ col ∈ parse isNum incl rows, col.data.length = (dataRows incl rows).length

/-- Witness A (replayed on the real code by c32.py): 100 one-cell rows, then a two-cell row. -/
def witnessLateWide : List Row := List.replicate 100 [['a']] ++ [[['b'], ['c']]]

/-- Witness B (replayed on the real code by c32.py): a one-cell title row before a 3-column table. -/
def witnessPreamble : List Row :=
  [[['t', 'i', 't', 'l', 'e']], [['a'], ['b'], ['c']], [['d'], ['e'], ['f']]]

theorem witnessLateWide_one_column :
    (allColumns (fun _ => false) false witnessLateWide).length = 1 := by decide +kernel

/-- Hypothesis 1 cannot be dropped: the first row is full, yet cell (100, 1) = "c" is lost. -/
theorem csv_cells_kept_full_false_late_wide_row :
    ¬ ∀ (isNum : Cell → Bool) (incl : Bool) (rows : List Row),
        noPreamble incl rows = true → CellsKept isNum incl rows := by
  intro hall
  have hpre : noPreamble false witnessLateWide = true := by decide +kernel
  obtain ⟨col, hc, _⟩ := hall (fun _ => false) false witnessLateWide hpre 100 1 ['c']
    (by decide +kernel) (by decide +kernel)
  have hlen := witnessLateWide_one_column
  have : (allColumns (fun _ => false) false witnessLateWide)[1]? = none := by
    rw [List.getElem?_eq_none_iff]
    omega
  rw [this] at hc
  cases hc

/-- Hypothesis 2 cannot be dropped: no late row at all, yet the title row is lost (2 entries per
    column for 3 data rows, and cell (0,0) = "title" is not at row 0 of column 0). -/
theorem csv_cells_kept_full_false_preamble :
    ¬ ∀ (isNum : Cell → Bool) (incl : Bool) (rows : List Row),
        noWideLate rows = true → CellsKept isNum incl rows := by
  intro hall
  obtain ⟨col, hc, _, hcell, _⟩ := hall (fun _ => false) false witnessPreamble (by decide +kernel) 0 0
    ['t', 'i', 't', 'l', 'e'] (by decide +kernel) (by decide +kernel)
  have h0 : (allColumns (fun _ => false) false witnessPreamble)[0]? =
      some ⟨[], [['a'], ['d']]⟩ := by decide +kernel
  rw [h0] at hc
  cases hc
  exact absurd hcell (by decide +kernel)

theorem one_entry_per_data_row_full_false :
    ¬ ∀ (isNum : Cell → Bool) (incl : Bool) (rows : List Row),
        ∀ col ∈ parse isNum incl rows, col.data.length = (dataRows incl rows).length := by
  intro hall
  have := hall (fun _ => false) false witnessPreamble ⟨[], [['a'], ['d']]⟩ (by decide +kernel)
  exact absurd this (by decide +kernel)

end Grist.CsvPost
