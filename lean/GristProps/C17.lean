/-
C17  Renames inside access rules and conditions are exact.
Property theorems, with `parseWith` and `renamedToks`.  Model: GristModel/PredRename.lean (process_renames,
the three entity collectors and renamers, resource colIds, userAttributes.lookupColId) on top of
GristModel/Predicate.lean (TreeConverter) and GristModel/Textbuilder.lean (Replacer, map_back_patch).

Setting.  Python's parsers are PARAMETERS: `D` = get_dollar_replacer's view of the `$` signs,
`P` = ast.parse + asttokens (tree and, per Attribute node in visiting order, the position of its
name token).  A *printed formula* is a list of lexemes `toks` (name token of an Attribute node /
`$name` / anything else), an AST `e`, and for every Attribute node (visiting order) the index `ixs[k]`
of the lexeme it was printed as.  "The parsers read the printed formula" is the pair of hypotheses
  hD : D (printO toks) = some (dollarsFrom 0 toks)      hP : P (printN toks) = some (e, positions)
which the correspondence check validates on every generated formula, before and after the rename
(Python's own `ast` and asttokens on the old and on the new text).
-/
import GristProofs.PredRename
namespace Grist.PredRename
open Grist.Predicate Grist.Textbuilder

/-- what `parse_predicate_formula` parses: `$` replaced, then Python's parser (tree only). -/
def parseWith (D : Str → Option (List Nat)) (P : Str → Option (PExpr × List Nat)) (text : Str) :
    Option PExpr :=
  match D text with
  | none => none
  | some ds =>
    match getText (dollarBuilder text ds) with
    | .ok nodollar => (P nodollar).map Prod.fst
    | .error _ => none

/-- the lexemes after the rename: lexeme `i` gets the new name of the node printed there, if the
    collector classified that node and the renamer renames it. -/
def renamedToks (c : Ctx) (toks : List Lex) (e : PExpr) (ixs : List Nat) : List Lex :=
  renameLexFrom (selFrom c (nodes c.kind e) ixs) 0 toks

/-! ### the text that process_renames returns -/

/-- **C17 (exact text).**  For every printed formula of the subset, every kind of collector, every
    context and every set of renames, `process_renames` returns — without error — the same lexemes
    with exactly the name tokens of the denoted, renamed references replaced. -/
theorem process_renames_exact (D : Str → Option (List Nat)) (P : Str → Option (PExpr × List Nat))
    (c : Ctx) (toks : List Lex) (e : PExpr) (ixs : List Nat) (t : PTree)
    (hD : D (printO toks) = some (dollarsFrom 0 toks))
    (hP : P (printN toks) = some (e, ixs.map (namePosN toks)))
    (hpr : Printed toks (nodes c.kind e) ixs) (hnd : ixs.Nodup) (hne : NamesNonempty toks)
    (hconv : convert e = .ok t) :
    processRenames D P c (printO toks) = .ok (printO (renamedToks c toks e ixs)) := by
  have := processRenames_printed D P c toks e ixs hD hP hpr hnd hne
  rw [hconv] at this
  exact this

-- `$A and rec.B` in an ACL rule on table T with A ↦ AA:
--   lexemes  $A | " and rec." | B      nodes (visiting order)  $A, rec.B      ixs = [0, 2]
example : Printed [.dollar ['A'], .other " and rec.".toList, .attr ['B']]
    (nodes .acl (.boolOp .and [.dollar "A", .attr (.name "rec") "B"])) [0, 2] := by
  simp [Printed, nodes, nodesList, Lex.occName]
example : renamedToks ⟨.acl, "T", none, [], [(("T", "A"), "AA")]⟩
    [.dollar ['A'], .other " and rec.".toList, .attr ['B']]
    (.boolOp .and [.dollar "A", .attr (.name "rec") "B"]) [0, 2]
    = [.dollar ['A', 'A'], .other " and rec.".toList, .attr ['B']] := by
  decide +kernel

/-! ### the new text parses to the old tree with exactly those references renamed -/

/-- The renamed lexemes print the renamed AST, so the hypothesis `hP'` of `rename_reparses` is again
    "the parser reads a printed formula". -/
theorem renamed_is_printed (c : Ctx) (toks : List Lex) (e : PExpr) (ixs : List Nat)
    (hpr : Printed toks (nodes c.kind e) ixs) (hnd : ixs.Nodup) :
    Printed (renamedToks c toks e ixs) (nodes c.kind (renameExpr c e)) ixs ∧
    (renamedToks c toks e ixs).length = toks.length := by
  refine ⟨?_, renameLexFrom_length _ _ _⟩
  rw [nodes_rename]
  exact printed_rename c toks _ _ ixs (selFrom_get c _ ixs hnd) hpr

/-- **C17 (parsed tree).**  If the parsers read the printed formula before the rename (`hD`, `hP`)
    and the printed renamed formula after it (`hD'`, `hP'`), then parsing the text returned by
    `process_renames` gives exactly the old tree with the denoted references renamed, and its
    converted (stored) form is the old converted form renamed. -/
theorem rename_reparses (D : Str → Option (List Nat)) (P : Str → Option (PExpr × List Nat))
    (c : Ctx) (toks : List Lex) (e : PExpr) (ixs : List Nat) (t : PTree)
    (hD : D (printO toks) = some (dollarsFrom 0 toks))
    (hP : P (printN toks) = some (e, ixs.map (namePosN toks)))
    (hpr : Printed toks (nodes c.kind e) ixs) (hnd : ixs.Nodup) (hne : NamesNonempty toks)
    (hconv : convert e = .ok t)
    (hD' : D (printO (renamedToks c toks e ixs)) = some (dollarsFrom 0 (renamedToks c toks e ixs)))
    (hP' : P (printN (renamedToks c toks e ixs))
      = some (renameExpr c e, ixs.map (namePosN (renamedToks c toks e ixs)))) :
    ∃ new, processRenames D P c (printO toks) = .ok new ∧
      parseWith D P new = some (renameExpr c e) ∧
      convert (renameExpr c e) = .ok (renameJson c t) := by
  refine ⟨_, process_renames_exact D P c toks e ixs t hD hP hpr hnd hne hconv, ?_, ?_⟩
  · simp only [parseWith, hD', getText_dollarBuilder, hP', Option.map_some]
  · rw [convert_rename, hconv]
    rfl

/-! ### nothing else changes -/

/-- **C17 (only name tokens change).**  Same number of lexemes; lexeme `i` differs from the old one
    only if it is the name token / `$name` of a node the collector classified and the renamer renames,
    and then only in its name (a `$name` stays a `$name`); every other lexeme is identical. -/
theorem only_name_tokens_change (c : Ctx) (toks : List Lex) (e : PExpr) (ixs : List Nat) (i : Nat) :
    (renamedToks c toks e ixs)[i]? =
      (toks[i]?).map (fun l => renameLex l (selFrom c (nodes c.kind e) ixs i)) ∧
    (∀ l, renameLex l none = l) ∧ (∀ s o, renameLex (.other s) o = .other s) ∧
    (∀ nw, selFrom c (nodes c.kind e) ixs i = some nw →
      ∃ (k : Nat) (nd : NodeInfo), (nodes c.kind e)[k]? = some nd ∧ ixs[k]? = some i ∧
        newOf c nd = some nw) := by
  refine ⟨?_, ?_, ?_, ?_⟩
  · have := renameLexFrom_get (selFrom c (nodes c.kind e) ixs) toks 0 i
    simpa [renamedToks] using this
  · intro l; cases l <;> rfl
  · intro s o; cases o <;> rfl
  · intro nw h
    exact selFrom_some c _ ixs i nw h

/-- no rename that applies ⇒ the text is returned unchanged. -/
theorem no_applicable_rename_noop (c : Ctx) (toks : List Lex) (e : PExpr) (ixs : List Nat)
    (h : ∀ nd ∈ nodes c.kind e, newOf c nd = none) :
    renamedToks c toks e ixs = toks := by
  have hsel : ∀ i, selFrom c (nodes c.kind e) ixs i = none := by
    intro i
    cases hs : selFrom c (nodes c.kind e) ixs i with
    | none => rfl
    | some nw =>
      obtain ⟨k, nd, hk, _, hn⟩ := selFrom_some c _ ixs i nw hs
      have := h nd (List.mem_of_getElem? hk)
      rw [this] at hn
      cases hn
  apply List.ext_getElem?
  intro i
  have := (only_name_tokens_change c toks e ixs i).1
  rw [this, hsel i]
  cases toks[i]? with
  | none => rfl
  | some l => cases l <;> rfl

/-! ### formulas that do not parse -/

/-- Python outside the predicate subset (the collector raises SyntaxError inside the `try`):
    returned unchanged. -/
theorem unsupported_untouched (D : Str → Option (List Nat)) (P : Str → Option (PExpr × List Nat))
    (c : Ctx) (formula : Str) (ds : List Nat) (nodollar : Str) (e : PExpr) (poss : List Nat) (m : String)
    (hD : D formula = some ds) (hT : getText (dollarBuilder formula ds) = .ok nodollar)
    (hP : P nodollar = some (e, poss)) (hc : convert e = .error m) :
    processRenames D P c formula = .ok formula := by
  simp [processRenames, hD, hT, hP, collect, hc]

/-- Text that the second parse rejects (inside the `try`): returned unchanged. -/
theorem unparsable_untouched_partial (D : Str → Option (List Nat)) (P : Str → Option (PExpr × List Nat))
    (c : Ctx) (formula : Str) (ds : List Nat) (nodollar : Str)
    (hD : D formula = some ds) (hT : getText (dollarBuilder formula ds) = .ok nodollar)
    (hP : P nodollar = none) :
    processRenames D P c formula = .ok formula := by
  simp [processRenames, hD, hT, hP]

-- FULL STATEMENT (unproved, FALSE of the code as it is):
--   theorem unparsable_untouched : ∀ D P c formula,
--     parseWith D P formula = none → processRenames D P c formula = .ok formula
-- `get_dollar_replacer(formula)` parses the formula as well, and it is called BEFORE the `try`:
-- for text that is not Python at all the SyntaxError escapes from process_renames (and from the
-- RenameColumn user action that called it).
/-- what the code does instead. -/
theorem unparsable_raises (D : Str → Option (List Nat)) (P : Str → Option (PExpr × List Nat))
    (c : Ctx) (formula : Str) (hD : D formula = none) :
    processRenames D P c formula = .syntaxError := by
  simp [processRenames, hD]

/-- Negation of the full statement; witness: any text on which get_dollar_replacer's parse fails
    (replayed on the real code with `rec.A +` by c17.py). -/
theorem unparsable_untouched_full_is_false :
    ¬ ∀ (D : Str → Option (List Nat)) (P : Str → Option (PExpr × List Nat)) (c : Ctx) (formula : Str),
      parseWith D P formula = none → processRenames D P c formula = .ok formula := by
  intro h
  have := h (fun _ => none) (fun _ => none) ⟨.dc, "T", none, [], []⟩ "rec.A +".toList rfl
  simp [processRenames] at this

/-! ### the stored parsed form -/

/-- **C17 (stored parsed form).**  Converting the renamed AST = renaming the stored parsed tree. -/
theorem convert_commutes_with_rename (c : Ctx) (e : PExpr) :
    convert (renameExpr c e) = (renameJson c) <$> (convert e) :=
  convert_rename c e

example : renameJson ⟨.acl, "T", none, [("School", some "S")], [(("S", "name"), "title")]⟩
    (node "Attr" [node "Attr" [node "Name" [.str "user"], .str "School"], .str "name"])
    = node "Attr" [node "Attr" [node "Name" [.str "user"], .str "School"], .str "title"] := by
  rfl

/-! ### ACL resources and user attributes -/

/-- **C17 (resource colIds).**  Entry by entry: a column of the resource's table that is renamed
    (to a non-empty name) gets the new name, every other entry stays; the list keeps its length. -/
theorem resource_colIds_renamed (ρ : Renames) (t : String) (cols : List String) (i : Nat) :
    (renameColIds ρ t cols)[i]? = (cols[i]?).map (fun col =>
      match ρ.get t col with
      | some n => if n = "" then col else n
      | none => col) ∧
    (renameColIds ρ t cols).length = cols.length := by
  refine ⟨?_, by simp [renameColIds]⟩
  unfold renameColIds
  rw [List.getElem?_map]
  cases cols[i]? with
  | none => rfl
  | some col =>
    simp only [Option.map_some]
    cases ρ.get t col <;> rfl

/-- a resource of a table none of whose listed columns is renamed gets no update at all (other
    tables' columns with the same names do not matter). -/
theorem resource_other_untouched (ρ : Renames) (t : String) (cols : List String)
    (h : ∀ col ∈ cols, ρ.get t col = none) : resourceUpdate ρ t cols = none := by
  unfold resourceUpdate
  split
  · rfl
  · have : renameColIds ρ t cols = cols := by
      unfold renameColIds
      conv => rhs; rw [← List.map_id cols]
      apply List.map_congr_left
      intro col hc
      simp [h col hc]
    simp [this]

example : resourceUpdate [(("T", "b"), "x"), (("U", "a"), "y")] "T" ["a", "b", "c"] = some ["a", "x", "c"] := by
  decide +kernel

/-- **C17 (lookupColId).**  A non-empty new name of (tableId, lookupColId) replaces the lookup column;
    no rename or no tableId, no update. -/
theorem lookupColId_renamed (ρ : Renames) (t col n : String) (hn : n ≠ "") :
    (ρ.get t col = some n → lookupColUpdate ρ (some t) (some col) = some n) ∧
    (ρ.get t col = none → lookupColUpdate ρ (some t) (some col) = none) ∧
    (∀ c', lookupColUpdate ρ none c' = none) := by
  refine ⟨?_, ?_, ?_⟩
  · intro h
    simp [lookupColUpdate, h, hn]
  · intro h
    simp [lookupColUpdate, h]
  · intro c'
    cases c' <;> rfl

end Grist.PredRename
