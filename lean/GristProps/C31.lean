/-
C31  Actions are marked direct only when the user asked for them.
About the engine model (GristModel/Engine.lean): `direct` stays parallel to `stored`; flush steps
append only `false` flags and a `doc` step exactly its own; hence the actions flagged direct are
those of the `doc _ true` steps.
-/
import GristProofs.EngineLists
namespace Grist.Doc

/-- Every kind of step keeps `direct` parallel to `stored`. -/
theorem direct_parallel_step {st st' : EState} {s : Step}
    (hl : st.stored.length = st.direct.length) (h : step st s = .ok st') :
    st'.stored.length = st'.direct.length := by
  obtain ⟨ext, fl, ht, e1, e2⟩ := step_append h
  rw [e1, e2, List.length_append, List.length_append, hl, ht.length_eq]

/-- Every word of steps (a bundle) keeps `direct` parallel to `stored`. -/
theorem direct_parallel_run {st st' : EState} {w : List Step}
    (hl : st.stored.length = st.direct.length) (h : run st w = .ok st') :
    st'.stored.length = st'.direct.length := by
  obtain ⟨ext, fl, hw, e1, e2⟩ := run_append w h
  rw [e1, e2, List.length_append, List.length_append, hl, hw.length_eq]

/-- `_undo_to_checkpoint` keeps `direct` parallel to `stored`. -/
theorem direct_parallel_rollback {st st' : EState} {ls lu : Nat}
    (hl : st.stored.length = st.direct.length) (h : rollback st ls lu = .ok st') :
    st'.stored.length = st'.direct.length := by
  simp only [rollback, ← run_doc_steps] at h
  split at h
  · cases h
  · rename_i st1 h1
    cases h
    simp only [List.length_take, direct_parallel_run hl h1]

theorem flush_marks_nondirect_finish (st : EState) :
    (∃ ext, (stepFinish st).stored = st.stored ++ ext) ∧
    (stepFinish st).direct =
      st.direct ++ List.replicate ((stepFinish st).stored.length - st.stored.length) false :=
  ⟨flushAll_stored_prefix _ _ _, rfl⟩

theorem flush_marks_nondirect_flushcol {st st' : EState} {t c : String}
    (h : stepFlushCol st t c = .ok st') :
    (∃ ext, st'.stored = st.stored ++ ext) ∧
    st'.direct = st.direct ++ List.replicate (st'.stored.length - st.stored.length) false := by
  obtain ⟨ext, h1, h2⟩ := stepFlushCol_append h
  exact ⟨⟨ext, h1⟩, by rw [h2, h1, List.length_append, Nat.add_sub_cancel_left]⟩

theorem doc_step_marks_given_flag {st st' : EState} {a : DocAction} {b : Bool}
    (h : stepDoc st a b = .ok st') :
    st'.stored = st.stored ++ [a] ∧ st'.direct = st.direct ++ [b] := by
  obtain ⟨r, _, rfl⟩ := stepDoc_ok_iff.mp h
  exact ⟨rfl, rfl⟩

/-- All step kinds at once (`StepTags`): `[a]` / `[b]` for `doc a b`, nothing for `calc`, only
    `false` flags for the flush steps. -/
theorem flush_marks_nondirect {st st' : EState} {s : Step} (h : step st s = .ok st') :
    ∃ ext fl, StepTags s ext fl ∧ st'.stored = st.stored ++ ext ∧ st'.direct = st.direct ++ fl :=
  step_append h

/-- Running a word appends the concatenation of one such block per step (`WordTags`). -/
theorem direct_flags_of_word {st st' : EState} {w : List Step} (h : run st w = .ok st') :
    ∃ ext fl, WordTags w ext fl ∧ st'.stored = st.stored ++ ext ∧ st'.direct = st.direct ++ fl :=
  run_append w h

/-- Started with empty lists, the stored actions flagged direct are exactly the actions of the
    `doc _ true` steps of the word, in order and with multiplicity. -/
theorem direct_actions_are_direct_doc_steps {st st' : EState} {w : List Step}
    (hs : st.stored = []) (hd : st.direct = []) (h : run st w = .ok st') :
    directActions st'.stored st'.direct = directDocSteps w := by
  obtain ⟨ext, fl, hw, e1, e2⟩ := run_append w h
  rw [e1, e2, hs, hd, List.nil_append, List.nil_append, hw.directActions_eq]

/-- Positional form: a `true` at index `i` of the final `direct` sits on a stored action that was
    appended by a `doc _ true` step. -/
theorem direct_true_only_from_direct_doc_step {st st' : EState} {w : List Step}
    (hs : st.stored = []) (hd : st.direct = []) (h : run st w = .ok st')
    (i : Nat) (hi : st'.direct[i]? = some true) :
    ∃ a, st'.stored[i]? = some a ∧ Step.doc a true ∈ w := by
  obtain ⟨ext, fl, hw, e1, e2⟩ := run_append w h
  rw [hs, List.nil_append] at e1
  rw [hd, List.nil_append] at e2
  rw [e1]
  rw [e2] at hi
  exact hw.true_flag_from_doc_step i hi

/-- Conversely each `doc a b` step of a successful word shows up with its own flag. -/
theorem doc_step_keeps_its_flag {st st' : EState} {w1 w2 : List Step} {a : DocAction} {b : Bool}
    (hs : st.stored = []) (hd : st.direct = []) (h : run st (w1 ++ Step.doc a b :: w2) = .ok st') :
    ∃ i : Nat, st'.stored[i]? = some a ∧ st'.direct[i]? = some b := by
  -- at the end of `w1` the lists are equally long; the step appends `a` and `b` there, `w2` only appends
  obtain ⟨st1, h1, h2⟩ := run_append_word w1 _ h
  obtain ⟨st2, h3, h4⟩ := run_cons_ok h2
  obtain ⟨ext, fl, _, e1, e2⟩ := run_append w2 h4
  obtain ⟨a1, a2⟩ := doc_step_marks_given_flag (show stepDoc st1 a b = .ok st2 from h3)
  have hl := direct_parallel_run (hs ▸ hd ▸ rfl) h1
  refine ⟨st1.stored.length, ?_, ?_⟩
  · simp [e1, a1]
  · simp [e2, a2, hl]

/-- the number of `true` flags is the number of `doc _ true` steps -/
theorem direct_true_count {st st' : EState} {w : List Step}
    (hs : st.stored = []) (hd : st.direct = []) (h : run st w = .ok st') :
    st'.direct.count true = (directDocSteps w).length := by
  have hp := direct_parallel_run (hs ▸ hd ▸ rfl) h
  rw [← direct_actions_are_direct_doc_steps hs hd h, directActions_length _ _ hp]

def exInfo : ColInfo := { type := "Int", isFormula := false, formula := "", reverseColId := none }
def exFInfo : ColInfo := { type := "Int", isFormula := true, formula := "$A", reverseColId := none }
def exDoc : Doc :=
  [{ id := "T", rows := [1, 2],
     cols := [{ id := "A", info := exInfo, cells := fun _ => .int 0 },
              { id := "B", info := exFInfo, cells := fun _ => .int 0 }] }]
def exSt : EState := { doc := exDoc }
def exWord : List Step :=
  [.doc (.bulkUpdate "T" [1] [("A", [.int 5])]) true,
   .calc "T" "B" [(1, .int 0, .int 5)],
   .finish]

example : ∃ st', run exSt exWord = .ok st' ∧
    st'.stored = [.bulkUpdate "T" [1] [("A", [.int 5])], .bulkUpdate "T" [1] [("B", [.int 5])]] ∧
    st'.direct = [true, false] := by
  refine ⟨_, rfl, ?_, ?_⟩
  · decide +kernel
  · decide +kernel

/-- a `flushcol` step (type conversion of a column while data is entered): its update is
    marked non-direct, after the direct `ModifyColumn` -/
def exWord2 : List Step :=
  [.doc (.modifyColumn "T" "B" { formula := some "$A+1" }) true,
   .calc "T" "B" [(2, .int 0, .int 1)],
   .flushcol "T" "B"]

example : ∃ st', run exSt exWord2 = .ok st' ∧
    st'.stored = [.modifyColumn "T" "B" { formula := some "$A+1" },
                  .bulkUpdate "T" [2] [("B", [.int 1])]] ∧
    st'.direct = [true, false] := by
  refine ⟨_, rfl, ?_, ?_⟩
  · decide +kernel
  · decide +kernel

/-- a rollback to the checkpoint (0, 0) after one doc step: succeeds and leaves empty lists -/
example : ∃ st1 st', run exSt [.doc (.bulkUpdate "T" [1] [("A", [.int 5])]) true] = .ok st1 ∧
    rollback st1 0 0 = .ok st' ∧ st'.stored.length = st'.direct.length := by
  refine ⟨_, _, rfl, rfl, ?_⟩
  rfl

end Grist.Doc
